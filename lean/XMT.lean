import XMT.B64Codec
import XMT.B64Lemmas
import XMT.Base
import XMT.Batch
import XMT.BatchBlock
import XMT.BatchBlockLemmas
import XMT.BatchDrain
import XMT.BatchDraw
import XMT.BatchDrawDrain
import XMT.BatchDrawSim
import XMT.BatchLemmas
import XMT.BatchNext
import XMT.BatchS3Drv
import XMT.BatchTags
import XMT.BatchTagsWitness
import XMT.Cbk
import XMT.CbkHostile
import XMT.CbkLemmas
import XMT.CbkStream
import XMT.Cfg
import XMT.CfgBuildPack
import XMT.CfgCases
import XMT.CfgEquiv
import XMT.CfgGroups
import XMT.CfgGroupsPack
import XMT.CfgJson
import XMT.CfgJsonTotal
import XMT.CfgNextCases
import XMT.CfgPack
import XMT.CfgShow
import XMT.CfgTotal
import XMT.Chunk
import XMT.ChunkCensus
import XMT.ChunkExact
import XMT.ChunkLemmas
import XMT.ChunkOps
import XMT.ChunkPanic
import XMT.ChunkPanicGrow
import XMT.ChunkReadFrom
import XMT.ChunkRoom
import XMT.ChunkSeq
import XMT.ClientLoop
import XMT.ClientLoopLemmas
import XMT.ClientLoopSwitch
import XMT.Close
import XMT.CloseInit
import XMT.CloseInv
import XMT.CloseLock
import XMT.CloseProgress
import XMT.CloseQuiesce
import XMT.CloseVariant
import XMT.Codec
import XMT.CodecClasses
import XMT.CodecIO
import XMT.CodecLemmas
import XMT.CodecReads
import XMT.CodecRoundtrip
import XMT.CodecTyped
import XMT.CodecTypedLemmas
import XMT.Decode
import XMT.DecodeDns
import XMT.DecodeGuardsMatter
import XMT.DecodeLemmas
import XMT.DecodeSafe
import XMT.DecodeSlice
import XMT.DecodeStream
import XMT.Dispatch
import XMT.DispatchDrv
import XMT.DispatchLemmas
import XMT.Dns
import XMT.DnsAgree
import XMT.DnsRoundtrip
import XMT.Drv.C01
import XMT.Drv.C02
import XMT.Drv.C03
import XMT.Drv.C04
import XMT.Drv.C05
import XMT.Drv.C06
import XMT.Drv.C07
import XMT.Drv.C08
import XMT.Drv.C09
import XMT.Drv.C10
import XMT.Drv.C11
import XMT.Drv.C12
import XMT.Drv.C13
import XMT.Drv.C14
import XMT.Drv.C15
import XMT.Drv.C16
import XMT.Drv.C17
import XMT.Drv.C18
import XMT.Drv.C19
import XMT.Drv.C20
import XMT.Drv.Util
import XMT.Flag
import XMT.FlagLemmas
import XMT.Frag
import XMT.FragAssemble
import XMT.FragHostile
import XMT.FragLemmas
import XMT.FragMap
import XMT.FragRecv
import XMT.FragSend
import XMT.FragSweep
import XMT.Generated.Facts
import XMT.Group
import XMT.GroupLemmas
import XMT.GroupLoop
import XMT.GroupLoopLemmas
import XMT.HexCodec
import XMT.HexLemmas
import XMT.HostBox
import XMT.Info
import XMT.InfoOrder
import XMT.InfoPinned
import XMT.InfoRoundtrip
import XMT.Jitter
import XMT.JitterLemmas
import XMT.Job
import XMT.JobCount
import XMT.JobInv
import XMT.JobSub
import XMT.JobSubCount
import XMT.JobSubInv
import XMT.JobSubStep
import XMT.Keys
import XMT.KeysConn
import XMT.KeysConnDrv
import XMT.KeysConnLemmas
import XMT.KeysConnToy
import XMT.KeysLemmas
import XMT.KeysPickWait
import XMT.KeysToy
import XMT.KeysXor
import XMT.Packet
import XMT.PacketAlloc
import XMT.PacketLemmas
import XMT.PacketWire
import XMT.Props.C01
import XMT.Props.C02
import XMT.Props.C03
import XMT.Props.C04
import XMT.Props.C05
import XMT.Props.C06
import XMT.Props.C07
import XMT.Props.C08
import XMT.Props.C09
import XMT.Props.C10
import XMT.Props.C11
import XMT.Props.C12
import XMT.Props.C13
import XMT.Props.C14
import XMT.Props.C15
import XMT.Props.C16
import XMT.Props.C17
import XMT.Props.C18
import XMT.Props.C19
import XMT.Props.C20
import XMT.Proto
import XMT.ProtoLemmas
import XMT.ProtoProgress
import XMT.RegDisplay
import XMT.RegDisplayLemmas
import XMT.RegKey
import XMT.RelaySplice
import XMT.Route
import XMT.RouteChan
import XMT.RouteLemmas
import XMT.RouteOutbound
import XMT.RouteProxy
import XMT.RouteProxyLemmas
import XMT.RouteWitness
import XMT.State
import XMT.StateAcc
import XMT.StateAccInv
import XMT.StateAccLemmas
import XMT.StateAccLin
import XMT.StateAccShape
import XMT.StateConc
import XMT.StateConcLemmas
import XMT.StateLemmas
import XMT.StateLin
import XMT.StateOwners
import XMT.StateRT
import XMT.Task
import XMT.TaskLemmas
import XMT.Teardown
import XMT.TeardownInit
import XMT.TeardownInv
import XMT.TeardownShow
import XMT.TieXlate
import XMT.TieXlateCfg
import XMT.TieXlateState
import XMT.TieXlateWait
import XMT.Utf16
import XMT.Utf16Decode
import XMT.Utf16Lemmas
import XMT.Utf16Reg
import XMT.Utf16Roundtrip
import XMT.Utf16Utf8
import XMT.ViewSites
import XMT.Work
import XMT.WorkLemmas
import XMT.Wrap
import XMT.WrapLemmas
