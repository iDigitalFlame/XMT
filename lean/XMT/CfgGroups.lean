/-
  XMT.CfgGroups — `Groups()` / `Group(p)` partition every non-empty byte string at the separators
  the `next`-walk visits (lemmas for Props/C08): both loops as functions of the separator positions.
  That neither panics nor runs out of fuel, for any byte string and any `p` (Props/C09), is read off
  the same equations.
-/
import XMT.CfgTotal
namespace XMT.Cfg

/-- the separator positions (> 0) the `next`-walk from `e` visits -/
def seps (c : Bytes) : Nat → Nat → List Nat
  | 0, _ => []
  | f + 1, e =>
    if e < c.length then
      (if rdv c e = tSeparator ∧ e > 0 then [e] else []) ++
        (match nextV c e with
         | none => []
         | some e' => seps c f e')
    else []

theorem seps_end (c : Bytes) (f e : Nat) (he : c.length ≤ e) : seps c f e = [] := by
  cases f with
  | zero => rfl
  | succ f => unfold seps; rw [if_neg (by omega)]

/-- every step moves forward, so fuel that covers the rest of the config is as good as any other -/
theorem seps_fuel (c : Bytes) : ∀ f f' e, c.length ≤ f + e → c.length ≤ f' + e → seps c f e = seps c f' e
  | 0, f', e, h, _ => by rw [seps_end c 0 e (by omega), seps_end c f' e (by omega)]
  | f + 1, 0, e, _, h => by rw [seps_end c (f + 1) e (by omega), seps_end c 0 e (by omega)]
  | f + 1, f' + 1, e, h, h' => by
    unfold seps
    split
    · cases hn : nextV c e with
      | none => rfl
      | some e' =>
        have := nextV_gt hn
        simp only
        rw [seps_fuel c f f' e' (by omega) (by omega)]
    · rfl

/-- one step of the walk over a setting that `stride` steps over exactly and whose tag is not the
separator -/
theorem seps_setting {c : Bytes} {i m f : Nat} (hi : i < c.length) (hf : c.length ≤ f + i)
    (hst : stride c i = .ok (i + m)) (hns : rdv c i ≠ tSeparator) :
    seps c f i = seps c f (i + m) := by
  have hcl : clamp c i (nextV c i) = i + m := by
    rw [stride_eq c i hi] at hst; exact Except.ok.inj hst
  have hb := clamp_bounds c i (nextV c i) hi
  obtain ⟨f, rfl⟩ : ∃ f0, f = f0 + 1 := ⟨f - 1, by omega⟩
  rw [seps_fuel c (f + 1) f (i + m) (by omega) (by omega)]
  conv => lhs; unfold seps
  rw [if_pos hi, if_neg (fun h => hns h.1), List.nil_append]
  cases hn : nextV c i with
  | none =>
    rw [hn] at hcl
    exact (seps_end c f (i + m) (Nat.le_of_eq hcl)).symm
  | some n =>
    rw [hn, clamp_some (nextV_gt hn)] at hcl
    simp only
    by_cases hle : n ≤ c.length
    · rw [show n = i + m by omega]
    · rw [seps_end c f n (by omega), seps_end c f (i + m) (by omega)]

theorem groupsLoop_eq (c : Bytes) : ∀ f i n, 1 ≤ f → (i < c.length → c.length + 1 ≤ f + i) →
    groupsLoop c f i n = .ok (n + (seps c f i).length)
  | 0, _, _, h, _ => by omega
  | f + 1, i, n, _, hf => by
    unfold groupsLoop seps
    by_cases hlt : i < c.length
    · rw [if_pos hlt, if_pos hlt, rd_ok hlt, next_eq c i hlt]
      simp only [ok_bind]
      cases hn : nextV c i with
      | none =>
        simp only [List.append_nil]
        split <;> simp [pure, Except.pure]
      | some i' =>
        have := nextV_gt hn
        simp only
        rw [groupsLoop_eq c f i' _ (by omega) (by omega)]
        split <;> simp <;> omega
    · rw [if_neg hlt, if_neg hlt]; rfl

theorem groups_eq (c : Bytes) (hc : c.length ≠ 0) : groups c = .ok ((seps c (c.length + 1) 0).length + 1) := by
  unfold groups
  rw [if_neg hc, groupsLoop_eq c _ 0 0 (by omega) (by omega), ok_bind, Nat.zero_add]; rfl

/-- what `Group(p)`'s loop does over the separator positions -/
def pick (c : Bytes) (p : Int) : List Nat → Nat → Nat → Option Bytes × Nat × Nat
  | [], l, s => (none, l, s)
  | e :: es, l, s =>
    if p ≤ 0 ∧ l = 0 then (some ((c.drop 0).take (e - 0)), l, s)
    else if p = (l : Int) then (some ((c.drop s).take (e - s)), l, s)
    else pick c p es (l + 1) (e + 1)

theorem groupLoop_eq (c : Bytes) (p : Int) : ∀ f e l s, 1 ≤ f → (e < c.length → c.length + 1 ≤ f + e) →
    s ≤ e → groupLoop c p f e l s = .ok (pick c p (seps c f e) l s)
  | 0, _, _, _, h, _, _ => by omega
  | f + 1, e, l, s, _, hf, hse => by
    unfold groupLoop seps
    by_cases hlt : e < c.length
    · rw [if_pos hlt, if_pos hlt, rd_ok hlt, ok_bind]
      extract_lets step
      have hstep : ∀ l s, s ≤ e + 1 →
          step l s = .ok (pick c p (match nextV c e with | none => [] | some e' => seps c f e') l s) := by
        intro l s hs
        simp only [step, next_eq c e hlt, ok_bind]
        cases hn : nextV c e with
        | none => rfl
        | some e' =>
          have := nextV_gt hn
          exact groupLoop_eq c p f e' l s (by omega) (by omega) (by omega)
      by_cases hsep : rdv c e = tSeparator
      · rw [if_pos hsep]
        by_cases he0 : e = 0
        · rw [if_pos he0, if_neg (by omega), List.nil_append]; exact hstep l s (by omega)
        · rw [if_neg he0, if_pos (show rdv c e = tSeparator ∧ e > 0 from ⟨hsep, by omega⟩), List.singleton_append,
          pick]
          split
          · rw [slice_ok (by omega) (by omega)]; rfl
          · split
            · rw [slice_ok (by omega) (by omega)]; rfl
            · exact hstep _ _ (by omega)
      · rw [if_neg hsep, if_neg (fun h => hsep h.1), List.nil_append]; exact hstep l s (by omega)
    · rw [if_neg hlt, if_neg hlt]; rfl

/-- `S` lists increasing offsets ≥ `s` inside `c`, each holding the separator byte -/
def SepChain (c : Bytes) : Nat → List Nat → Prop
  | _, [] => True
  | s, e :: es => s ≤ e ∧ e < c.length ∧ rdv c e = tSeparator ∧ SepChain c (e + 1) es

theorem seps_chain (c : Bytes) : ∀ f e s, s ≤ e → SepChain c s (seps c f e)
  | 0, _, _, _ => trivial
  | f + 1, e, s, hse => by
    unfold seps
    split
    · rename_i hlt
      cases hn : nextV c e with
      | none => split <;> simp [SepChain, *]
      | some e' =>
        have := nextV_gt hn
        split
        · rename_i h
          exact ⟨hse, hlt, h.1, seps_chain c f e' (e + 1) (by omega)⟩
        · exact seps_chain c f e' s (by omega)
    · trivial

/-- the byte strings between the separators at `S`, starting at `s` -/
def pieces (c : Bytes) : List Nat → Nat → List Bytes
  | [], s => [c.drop s]
  | e :: es, s => (c.drop s).take (e - s) :: pieces c es (e + 1)

/-- join with the separator byte (`bytes.Join(parts, []byte{Separator})`) -/
def joinSep : List Bytes → Bytes
  | [] => []
  | [x] => x
  | x :: y :: r => x ++ byteOf tSeparator :: joinSep (y :: r)

theorem pieces_ne (c : Bytes) (S : List Nat) (s : Nat) : pieces c S s ≠ [] := by
  cases S <;> simp [pieces]

theorem drop_sep (c : Bytes) (e : Nat) (he : e < c.length) (hs : rdv c e = tSeparator) :
    c.drop e = byteOf tSeparator :: c.drop (e + 1) := by
  rw [List.drop_eq_getElem_cons he]
  congr 1
  apply UInt8.toNat_inj.mp
  rw [← rdv_getElem he, hs]; decide

theorem join_pieces (c : Bytes) : ∀ (S : List Nat) (s : Nat), SepChain c s S →
    joinSep (pieces c S s) = c.drop s
  | [], _, _ => rfl
  | e :: es, s, ⟨hse, he, hsep, hrest⟩ => by
    unfold pieces
    cases hp : pieces c es (e + 1) with
    | nil => exact absurd hp (pieces_ne c es (e + 1))
    | cons y r =>
      unfold joinSep
      rw [← hp, join_pieces c es (e + 1) hrest, ← drop_sep c e he hsep,
        show c.drop e = (c.drop s).drop (e - s) by rw [List.drop_drop]; congr 1; omega, List.take_append_drop]

theorem pieces_length (c : Bytes) : ∀ (S : List Nat) (s : Nat), (pieces c S s).length = S.length + 1
  | [], _ => rfl
  | e :: es, _ => by simp [pieces, pieces_length c es]

/-- what `Group(p)` does with the outcome of its loop -/
def groupEnd (c : Bytes) (p : Int) : Option Bytes × Nat × Nat → M (Option Bytes)
  | (some g, _, _) => pure (some g)
  | (none, l, s) =>
    if l > 0 ∧ s > 0 then do
      let g ← slice c s c.length
      pure (some g)
    else if p ≤ 0 ∧ l = 0 then pure (some c)
    else pure none

theorem group_eq (c : Bytes) (p : Int) (hc : c.length ≠ 0) (hp : p ≠ -1) :
    group c p = groupEnd c p (pick c p (seps c (c.length + 1) 0) 0 0) := by
  rw [← ok_bind (pick c p _ 0 0) (groupEnd c p),
    ← groupLoop_eq c p _ 0 0 0 (by omega) (by omega) (Nat.le_refl _)]
  unfold group
  rw [if_neg hc, if_neg hp]
  congr; funext ⟨r, l, s⟩
  cases r <;> rfl

/-- Loop and epilogue together return the piece number `p`, counting from the `l` pieces already
passed; `s` is where the current piece starts. -/
theorem groupEnd_pick (c : Bytes) (p : Nat) : ∀ (S : List Nat) (l s : Nat), SepChain c s S → s ≤ c.length →
    l ≤ p → p - l ≤ S.length → (l = 0 → s = 0) → (0 < l → 0 < s) →
    groupEnd c p (pick c p S l s) = .ok (pieces c S s)[p - l]?
  | [], l, s, _, hs, hlp, hlen, h0, h1 => by
    rw [Nat.le_zero.mp hlen]
    show (if l > 0 ∧ s > 0 then _ else _) = _
    have := Nat.le_zero.mp hlen
    split
    · rw [slice_ok hs (Nat.le_refl _), List.take_of_length_le (by simp)]; rfl
    · rw [if_pos (by omega), h0 (by omega)]; rfl
  | e :: es, l, s, ⟨_, he, _, hch⟩, hs, hlp, hlen, h0, h1 => by
    unfold pick
    split
    · rename_i h; rw [show p - l = 0 by omega, h0 h.2]; rfl
    · split
      · rw [show p - l = 0 by omega]; rfl
      · rw [groupEnd_pick c p es (l + 1) (e + 1) hch (by omega) (by omega)
          (by simp only [List.length_cons] at hlen; omega) (by omega) (by omega),
          show p - l = p - (l + 1) + 1 by omega]
        rfl

theorem groups_partition_pieces (c : Bytes) (hc : c ≠ []) :
    groups c = .ok (pieces c (seps c (c.length + 1) 0) 0).length ∧
      (∀ p : Nat, p < (pieces c (seps c (c.length + 1) 0) 0).length →
        group c (p : Int) = .ok (pieces c (seps c (c.length + 1) 0) 0)[p]?) ∧
      joinSep (pieces c (seps c (c.length + 1) 0) 0) = c := by
  have hlen : c.length ≠ 0 := fun h => hc (List.length_eq_zero_iff.mp h)
  have hch := seps_chain c (c.length + 1) 0 0 (Nat.le_refl _)
  refine ⟨?_, fun p hp => ?_, join_pieces c _ 0 hch⟩
  · rw [groups_eq c hlen, pieces_length]
  · rw [pieces_length] at hp
    rw [group_eq c p hlen (by omega)]
    exact groupEnd_pick c p _ 0 0 hch (Nat.zero_le _) (Nat.zero_le _) (by omega) (fun _ => rfl)
      (fun h => absurd h (Nat.lt_irrefl _))

/-- the start offset `Group(p)`'s loop ends with is inside the config: it is only ever set to the
offset after a separator -/
theorem pick_le (c : Bytes) (p : Int) : ∀ (S : List Nat) (l s : Nat), SepChain c s S → s ≤ c.length →
    (pick c p S l s).2.2 ≤ c.length
  | [], _, _, _, hs => hs
  | e :: es, l, s, ⟨_, he, _, hch⟩, hs => by
    unfold pick
    split
    · exact hs
    · split
      · exact hs
      · exact pick_le c p es _ _ hch (by omega)

end XMT.Cfg
