/-
  XMT.RouteChan — `conn.resolve(l, s, h, a, t, true)` (c2/channel.go), the tag handling of a connection
  in CHANNEL mode, with `Listener.clientGet / clientSet / clientClear` (c2/listener.go).

  In channel mode a connection is long-lived: every packet read from it carries the CURRENT list of
  devices the peer (a proxy) serves.  `resolve` marks the Sessions named by the tags in `c.subs`,
  redirects their outbound queue to this connection (`Session.chn = c.host.sender()`), and releases
  (`chn = nil`) every Session that was marked by an earlier packet and is no longer named.

  State: per Session the connection its queue is redirected to (`chn`), per connection `c.subs`.

  Below the model: what the tag loop and `resolve` leave behind (`tagLoop_spec`, `resolve_spec`), and the
  book-keeping invariant `Tracked` of one connection, which every packet read from it keeps (`runConn_tracked`).
-/
import XMT.Route

namespace XMT.RouteChan
open XMT.Route

structure CSess where
  id : ID
  /-- `Session.chn`: the connection (by number) the outbound queue is redirected to -/
  chn : Option Nat
deriving DecidableEq, Repr

abbrev CTbl := List (Nat × CSess)

def CTbl.get (t : CTbl) (h : Nat) : Option CSess :=
  match t with
  | [] => none
  | (k, s) :: r => if k = h then some s else CTbl.get r h

/-- update the entry stored under `h` (a Go map holds one entry per key) -/
def CTbl.upd (t : CTbl) (h : Nat) (f : CSess → CSess) : CTbl :=
  match t with
  | [] => []
  | (k, s) :: r => if k = h then (k, f s) :: r else (k, s) :: CTbl.upd r h f

structure Conn where
  /-- number of this connection -/
  cid : Nat
  /-- `c.host.clientID()` -/
  host : ID
  /-- `c.subs` -/
  subs : List (Nat × Bool)
deriving DecidableEq, Repr

def marked (subs : List (Nat × Bool)) (k : Nat) : Bool := subs.any (fun e => e.1 == k && e.2)

/-- `c.subs[k] = true` -/
def mark (subs : List (Nat × Bool)) (k : Nat) : List (Nat × Bool) :=
  if subs.any (fun e => e.1 == k) then subs.map (fun e => if e.1 == k then (k, true) else e)
  else subs ++ [(k, true)]

/-- the tag loop of `resolve` with `o = true`; `idx` is the loop index. `none` = `ErrMalformedTag` -/
def tagLoop (host : ID) (t : CTbl) : Nat → List Nat → List (Nat × Bool) → Option (List (Nat × Bool))
  | _, [], subs => some subs
  | idx, tag :: rest, subs =>
    if tag == 0 then none
    else if idx > packetMaxTags then some subs
    else if marked subs tag then tagLoop host t (idx + 1) rest subs
    else match t.get tag with
      | none => tagLoop host t (idx + 1) rest subs
      | some v =>
        if v.id == host then tagLoop host t (idx + 1) rest subs
        else tagLoop host t (idx + 1) rest (mark subs tag)

/-- `clientClear(i)`: `v.chn = nil` -/
def clear (t : CTbl) (k : Nat) : CTbl := t.upd k (fun s => { s with chn := none })

/-- `clientSet(i, c)`: `if v.chn != nil { return }; v.chn = c` -/
def set (cid : Nat) (t : CTbl) (k : Nat) : CTbl :=
  t.upd k (fun s => if s.chn.isSome then s else { s with chn := some cid })

/-- `conn.resolve(…, t, true)`; `none` = the malformed-tag error (the connection is then stopped,
`conn.stop` releases every entry of `c.subs`) -/
def resolve (c : Conn) (tags : List Nat) (t : CTbl) : Option (CTbl × Conn) :=
  let subs0 := c.subs.map (fun e => (e.1, false))
  match tagLoop c.host t 0 tags subs0 with
  | none => none
  | some subs =>
    let gone := (subs.filter (fun e => !e.2)).map (·.1)
    let keep := subs.filter (fun e => e.2)
    let t1 := gone.foldl clear t
    let t2 := (keep.map (·.1)).foldl (set c.cid) t1
    some (t2, { c with subs := keep })

/-- `conn.stop`: every entry of `c.subs` is released -/
def stop (c : Conn) (t : CTbl) : CTbl := (c.subs.map (·.1)).foldl clear t

theorem CTbl.get_upd (t : CTbl) (k k2 : Nat) (f : CSess → CSess) :
    (t.upd k f).get k2 = if k2 = k then (t.get k2).map f else t.get k2 := by
  induction t with
  | nil => exact (ite_self none).symm
  | cons e r ih =>
    obtain ⟨k', s⟩ := e
    unfold CTbl.upd
    by_cases h1 : k' = k
    · subst h1
      by_cases h2 : k' = k2
      · subst h2; simp [CTbl.get]
      · simp [CTbl.get, h2, Ne.symm h2]
    · by_cases h2 : k' = k2
      · subst h2; simp [CTbl.get, h1]
      · simp [CTbl.get, h1, h2, ih]

/-- `chn` of the entry under `k`, `none` when there is no entry -/
def chnOf (t : CTbl) (k : Nat) : Option Nat := (t.get k).bind (·.chn)

theorem chnOf_clear (t : CTbl) (k k2 : Nat) : chnOf (clear t k) k2 = if k2 = k then none else chnOf t k2 := by
  unfold chnOf clear
  rw [CTbl.get_upd]
  split
  · cases t.get k2 <;> rfl
  · rfl

theorem chnOf_set (cid : Nat) (t : CTbl) (k k2 : Nat) :
    chnOf (set cid t k) k2 =
      if k2 = k then (t.get k2).bind fun s => if s.chn.isSome then s.chn else some cid else chnOf t k2 := by
  unfold chnOf set
  rw [CTbl.get_upd]
  split
  · cases t.get k2 with
    | none => rfl
    | some s => by_cases hs : s.chn.isSome = true <;> simp [hs]
  · rfl

theorem chnOf_foldl_clear (ks : List Nat) (t : CTbl) (k : Nat) :
    chnOf (ks.foldl clear t) k = if k ∈ ks then none else chnOf t k := by
  induction ks generalizing t with
  | nil => rfl
  | cons a as ih =>
    rw [List.foldl_cons, ih, chnOf_clear]
    by_cases hk : k ∈ as <;> by_cases ha : k = a <;> simp [hk, ha]

theorem chnOf_foldl_set {cid : Nat} {ks : List Nat} {t : CTbl} {k : Nat} (hk : k ∉ ks) :
    chnOf (ks.foldl (set cid) t) k = chnOf t k := by
  induction ks generalizing t with
  | nil => rfl
  | cons a as ih =>
    rw [List.foldl_cons, ih fun h => hk (.tail _ h), chnOf_set, if_neg fun h : k = a => hk (h ▸ List.mem_cons_self)]

def keys (subs : List (Nat × Bool)) : List Nat := subs.map (·.1)

theorem mem_keys {subs : List (Nat × Bool)} {k : Nat} : k ∈ keys subs ↔ ∃ b, (k, b) ∈ subs := by
  simp only [keys, List.mem_map, Prod.exists, exists_and_right, exists_eq_right]

theorem keys_false_map (subs : List (Nat × Bool)) : keys (subs.map (fun e => (e.1, false))) = keys subs := by
  unfold keys; rw [List.map_map]; rfl

theorem mem_keys_filter (subs : List (Nat × Bool)) (k : Nat) :
    k ∈ keys subs ↔ k ∈ keys (subs.filter (fun e => e.2)) ∨ k ∈ keys (subs.filter (fun e => !e.2)) := by
  simp only [keys, List.mem_map, List.mem_filter]
  constructor
  · rintro ⟨e, he, rfl⟩
    cases hb : e.2
    · exact .inr ⟨e, ⟨he, by rw [hb]; rfl⟩, rfl⟩
    · exact .inl ⟨e, ⟨he, hb⟩, rfl⟩
  · rintro (⟨e, ⟨he, _⟩, rfl⟩ | ⟨e, ⟨he, _⟩, rfl⟩) <;> exact ⟨e, he, rfl⟩

theorem keys_subset_mark {subs : List (Nat × Bool)} (k : Nat) {x : Nat} (hx : x ∈ keys subs) :
    x ∈ keys (mark subs k) := by
  obtain ⟨b, hb⟩ := mem_keys.1 hx
  unfold mark
  split
  · have hm := List.mem_map_of_mem (f := fun e => if e.1 == k then (k, true) else e) hb
    by_cases h : (x == k) = true
    · rw [if_pos h] at hm; exact mem_keys.2 ⟨true, beq_iff_eq.mp h ▸ hm⟩
    · rw [if_neg h] at hm; exact mem_keys.2 ⟨b, hm⟩
  · exact mem_keys.2 ⟨b, List.mem_append_left _ hb⟩

theorem mem_mark_true {subs : List (Nat × Bool)} {k x : Nat} (h : (x, true) ∈ mark subs k) :
    (x, true) ∈ subs ∨ x = k := by
  unfold mark at h
  split at h
  · obtain ⟨e, he, heq⟩ := List.mem_map.mp h
    by_cases hk : (e.1 == k) = true
    · simp only [hk, if_true, Prod.mk.injEq] at heq; exact Or.inr heq.1.symm
    · simp only [hk] at heq; subst heq; exact Or.inl he
  · rcases List.mem_append.mp h with h | h
    · exact Or.inl h
    · simp only [List.mem_singleton, Prod.mk.injEq] at h; exact Or.inr h.1

theorem tagLoop_spec {host : ID} {t : CTbl} {idx : Nat} {tags : List Nat} {subs out : List (Nat × Bool)}
    (h : tagLoop host t idx tags subs = some out) :
    (∀ x ∈ keys subs, x ∈ keys out) ∧
    ∀ x, (x, true) ∈ out → (x, true) ∈ subs ∨ (x ∈ tags ∧ ∃ v, t.get x = some v ∧ (v.id == host) = false) := by
  fun_induction tagLoop host t idx tags subs
  case case1 | case3 => cases h; exact ⟨fun _ h => h, fun _ h => .inl h⟩
  case case2 => cases h
  case case4 ih | case5 ih | case6 ih =>
    exact ⟨(ih h).1, fun x hx => ((ih h).2 x hx).imp_right fun ⟨h1, h2⟩ => ⟨.tail _ h1, h2⟩⟩
  case case7 v hv hne ih =>
    refine ⟨fun x hx => (ih h).1 x (keys_subset_mark _ hx), fun x hx => ?_⟩
    rcases (ih h).2 x hx with h1 | ⟨h1, h2⟩
    · rcases mem_mark_true h1 with h3 | rfl
      · exact .inl h3
      · exact .inr ⟨.head _, v, hv, Bool.eq_false_iff.2 hne⟩
    · exact .inr ⟨.tail _ h1, h2⟩

/-- every Session redirected to connection `c` is recorded in `c.subs` -/
def Tracked (c : Conn) (t : CTbl) : Prop := ∀ k, chnOf t k = some c.cid → k ∈ keys c.subs

/-- what `resolve` leaves behind: the entries that the tag loop left `true`, and outside them every
key of the loop's result released, every other key as it was.  Of a key that stays `true` nothing is said
(`set` redirects it to `c.cid` unless it is redirected already). -/
theorem resolve_spec {c c' : Conn} {tags : List Nat} {t t' : CTbl} (h : resolve c tags t = some (t', c')) :
    ∃ subs, tagLoop c.host t 0 tags (c.subs.map (fun e => (e.1, false))) = some subs ∧
      c' = { c with subs := subs.filter (fun e => e.2) } ∧
      ∀ k, k ∉ keys c'.subs → chnOf t' k = if k ∈ keys subs then none else chnOf t k := by
  revert h
  fun_cases resolve c tags t
  · exact nofun
  · dsimp +zetaDelta only
    rintro ⟨⟩
    rename_i subs hl _ _ _ _
    refine ⟨subs, hl, rfl, fun k hk => ?_⟩
    rw [chnOf_foldl_set (show k ∉ (subs.filter fun e => e.2).map (·.1) from hk), chnOf_foldl_clear]
    have := mem_keys_filter subs k
    unfold keys at this hk ⊢
    by_cases h1 : k ∈ subs.map (·.1)
    · rw [if_pos h1, if_pos ((this.1 h1).resolve_left hk)]
    · rw [if_neg h1, if_neg fun h2 => h1 (this.2 (.inr h2))]

/-- The first conjunct is the step that keeps `Tracked` along a channel (`runConn_tracked`), the rest is
`Props.C15.chan_redirects_only_current_tags`. -/
theorem resolve_redirects_only_tagged {c c' : Conn} {tags : List Nat} {t t' : CTbl}
    (htr : Tracked c t) (h : resolve c tags t = some (t', c')) (k : Nat) (hk : chnOf t' k = some c.cid) :
    k ∈ keys c'.subs ∧ k ∈ tags ∧ ∃ v, t.get k = some v ∧ (v.id == c.host) = false := by
  obtain ⟨subs, hl, rfl, hv⟩ := resolve_spec h
  obtain ⟨hkeys, htrue⟩ := tagLoop_spec hl
  -- a key outside the `true` entries is released or as before, and before it was tracked
  have hin : k ∈ keys (subs.filter (fun e => e.2)) := by
    refine Decidable.by_contra fun hn => ?_
    rw [hv k hn] at hk
    split at hk
    · cases hk
    · exact ‹k ∉ keys subs› (hkeys k ((keys_false_map c.subs).symm ▸ htr k hk))
  refine ⟨hin, ?_⟩
  obtain ⟨b, he⟩ := mem_keys.1 hin
  obtain ⟨he1, rfl⟩ := List.mem_filter.1 he
  refine (htrue k he1).resolve_left fun h0 => ?_
  obtain ⟨_, _, h1⟩ := List.mem_map.1 h0
  cases h1

/-- a whole channel: the packets read from one connection, one after the other -/
def runConn (c : Conn) (t : CTbl) : List (List Nat) → Option (CTbl × Conn)
  | [] => some (t, c)
  | tags :: rest =>
    match resolve c tags t with
    | none => none
    | some r => runConn r.2 r.1 rest

theorem runConn_tracked {c c' : Conn} {t t' : CTbl} {ps : List (List Nat)} (htr : Tracked c t)
    (h : runConn c t ps = some (t', c')) : Tracked c' t' ∧ c'.cid = c.cid ∧ c'.host = c.host := by
  fun_induction runConn c t ps
  case case1 => cases h; exact ⟨htr, rfl, rfl⟩
  case case2 => cases h
  case case3 c t tags rest r hr ih =>
    obtain ⟨t1, c1⟩ := r
    obtain ⟨_, _, rfl, _⟩ := resolve_spec hr  -- `c1` is `c` with other `subs`
    exact ih (fun k hk => (resolve_redirects_only_tagged htr hr k hk).1) h

end XMT.RouteChan
