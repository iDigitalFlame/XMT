/-
  XMT.DecodeGuardsMatter — the length guards of the decoders are what keeps them from panicking.

  The decoders of XMT.Decode / XMT.DecodeDns with a guard DELETED (everything else word for word the
  same, in particular the same panicking index / reslice primitives) panic on concrete inputs.  So the
  no-panic theorems of XMT/Props/C04.lean are not true "by construction" of the model: they hold for
  the guarded code and fail for the unguarded one.

  (With index / reslice expressions that are total functions, `bytesBad` below would satisfy
  `TotalAndBounded bytesBad 1 0` by the very lemmas that prove `bytes_total_alloc`.)
-/
import XMT.DecodeSlice
import XMT.DecodeDns

namespace XMT.Decode.GuardsMatter

/-! ### chunk_reader.go without `checkBounds` -/

/-- `Uint8()` without `if c.checkBounds(1) { return 0, io.EOF }` -/
def u8rBad : D UInt8 := do
  let v ← idxP 0 "Uint8: c.buf[c.rpos]"
  advanceP 1 "Uint8: c.rpos++"
  pure v

/-- `Uint16()` without `if c.checkBounds(2) { return 0, io.EOF }` -/
def u16rBad : D Nat := do
  let _ ← idxP 1 "Uint16: _ = c.buf[c.rpos+1]"
  let b1 ← idxP 1 "Uint16: c.buf[c.rpos+1]"
  let b0 ← idxP 0 "Uint16: c.buf[c.rpos]"
  advanceP 2 "Uint16: c.rpos += 2"
  pure (ofBe16 b0 b1)

/-- an empty Chunk / a Chunk with one byte left -/
theorem u8rBad_panics : (run u8rBad []).isPanic = true := by decide
theorem u16rBad_panics : (run u16rBad [1]).isPanic = true := by decide
/-- the guarded reads on the same inputs -/
example : (run u8r []).isPanic = false := by decide
example : (run u16r [1]).isPanic = false := by decide

/-- the tail of `Bytes()` without `if n := c.Size(); n < c.rpos+int(l) { … return o, io.EOF }` -/
def bodyCBad (copy : Bool) (l : Nat) : D Bytes := do
  let o ← sliceP 0 l "Bytes: c.buf[c.rpos : uint64(c.rpos)+l]"
  advanceP l "Bytes: c.rpos += int(l)"
  charge (if copy then l else 0)
  pure o

/-- `Bytes()` with only the short-body guard deleted (`l == 0` and `l > MaxSlice` still tested) -/
def bytesNoShortGuard : D Bytes := do
  match ← lenHdr with
  | none => pure []
  | some l =>
    if l = 0 then fail .ueof
    else if l > Facts.maxSlice then fail .tooLarge
    else bodyCBad false l

/-- `Bytes()` with every length guard deleted -/
def bytesBad : D Bytes := do
  match ← lenHdr with
  | none => pure []
  | some l => bodyCBad false l

/-- `StringVal()` over it -/
def strBad : D Bytes := do
  match ← lenHdr with
  | none => pure []
  | some l => bodyCBad true l

/-- `result.Pwd` over it -/
def rPwdBad (fl : Nat) : D Unit := do guardResult fl; let _ ← strBad; pure ()

/-- tag 7, length 2^64-1, one body byte -/
theorem bytesBad_panics :
    (run bytesBad [7, 0xFF, 0xFF, 0xFF, 0xFF, 0xFF, 0xFF, 0xFF, 0xFF, 1]).isPanic = true := by decide

/-- three bytes: "5 bytes follow", one does -/
theorem bytesBad_panics_short : (run bytesBad [1, 5, 65]).isPanic = true := by decide
theorem bytesNoShortGuard_panics : (run bytesNoShortGuard [1, 5, 65]).isPanic = true := by decide
theorem strBad_panics : (run strBad [1, 5, 65]).isPanic = true := by decide
theorem rPwdBad_panics : (run (rPwdBad 0) [1, 5, 65]).isPanic = true := by decide

/-- the guarded decoders on the same inputs: an error, no panic -/
example : (run bytes [7, 0xFF, 0xFF, 0xFF, 0xFF, 0xFF, 0xFF, 0xFF, 0xFF, 1]).isPanic = false := by decide
example : (run bytes [1, 5, 65]).isPanic = false := by decide
example : (run str [1, 5, 65]).isPanic = false := by decide
example : (run (rPwd 0) [1, 5, 65]).isPanic = false := by decide

/-- the general fact behind the witnesses: without the guard the reslice panics on EVERY state whose
unread part is shorter than the announced length -/
theorem bodyCBad_panics (copy : Bool) (l : Nat) (s : St) (h : s.rest.length < l) :
    (bodyCBad copy l s).isPanic = true := by
  rw [bodyCBad]
  exact bind_of_panic (sliceP_panics _ (.inl h))

/-- in range, guarded and unguarded body agree (the guard is the only difference) -/
theorem bodyCBad_eq_of_le (copy : Bool) (l : Nat) (s : St) (h : l ≤ s.rest.length) :
    bodyCBad copy l s = bodyC copy l s := by
  have hl : ¬ (s.rest.length < l) := by omega
  unfold bodyCBad bodyC
  simp only [bind_apply, D.bind, remaining, hl, if_false]

/-! ### the tag loop of `Packet.UnmarshalStream` without `i < t` -/

/-- `for i := uint16(0); i < PacketMaxTags; i++ { r.ReadUint32(&p.Tags[i]); … }` (the test `i < t`,
`t = len(p.Tags)`, deleted) -/
def readTagsBad (t : Nat) : D Unit :=
  if t = 0 then pure ()
  else do
    mk t 4 "Packet.Tags"
    readTagsN t 0 Facts.packetMaxTags

/-- one tag announced, two on the wire -/
theorem readTagsBad_panics : (run (readTagsBad 1) [0, 0, 0, 1, 0, 0, 0, 2]).isPanic = true := by
  decide +kernel
example : (run (readTags 1) [0, 0, 0, 1, 0, 0, 0, 2]).isPanic = false := by decide +kernel

namespace Dns
open XMT.Decode.Dns

/-- `additional` without `if s += 2; s+i > len(b) { return 0, io.ErrUnexpectedEOF }` -/
def additionalBad : Nat → Bytes → Nat → Bytes → R (Nat × Bytes)
  | 0, _, s, w => .ok (s, w)
  | t + 1, b, s, w =>
    if s + 12 > b.length then .err .ueof
    else match idx b s, idx b (s + 1), idx b (s + 2), idx b (s + 3), idx b (s + 4), idx b (s + 5) with
      | some c0, some c1, some c2, some c3, some c4, some c5 =>
        if c0 ≠ 0xC0 ∨ c1 ≠ 0x0C ∨ c2 ≠ 0 ∨ c3 ≠ 0xA ∨ c4 ≠ 0 ∨ c5 ≠ 1 then .err .noProgress
        else match idx b (s + 10), idx b (s + 10 + 1) with
          | some x, some y =>
            let i := (x <<< 8) ||| y
            match XMT.Decode.Dns.sliceP b (s + 12) (s + 12 + i) with
            | some d => additionalBad t b (s + 12 + i) (w ++ d)
            | none => .panic "dns: b[s : s+i] (record data)"
          | _, _ => .panic "dns: b[s] (record length)"
      | _, _, _, _, _, _ => .panic "dns: b[s] (record header)"

/-- `answers` without `if s += 10; s+2 > len(b) { return 0, io.ErrUnexpectedEOF }` -/
def answersBad : Nat → Bytes → Nat → R Nat
  | 0, _, s => .ok s
  | c + 1, b, s =>
    match idx b (s + 10), idx b (s + 10 + 1) with
    | some x, some y => answersBad c b (s + 10 + (((x <<< 8) ||| y) + 2))
    | _, _ => .panic "dns: b[s] (answer)"

/-- `decodePacket` over the two -/
def decodePacketBad (b : Bytes) : R (Nat × Bytes) :=
  if b.length < 13 then .err .ueof
  else match idx b 12, idx b 4, idx b 5, idx b 6, idx b 7, idx b 10, idx b 11 with
    | some _, some q1, some q0, some c1, some c0, some t1, some t0 =>
      match questions ((q1 <<< 8) ||| q0) b 12 with
      | .ok s =>
        match answersBad ((c1 <<< 8) ||| c0) b s with
        | .ok s => additionalBad ((t1 <<< 8) ||| t0) b s []
        | .err e => .err e
        | .panic m => .panic m
        | .hang => .hang
      | .err e => .err e
      | .panic m => .panic m
      | .hang => .hang
    | _, _, _, _, _, _, _ => .panic "dns: b[12]"

def isPanic {α : Type} : R α → Bool | .panic _ => true | _ => false

theorem not_fine {α : Type} {r : R α} (h : isPanic r = true) : ¬ Fine r := by
  cases r with
  | panic m => exact id
  | _ => cases h

/-- one question, one data record that announces 3 bytes and carries 2 -/
def shortRecord : Bytes :=
  [0, 0, 1, 0, 0, 1, 0, 0, 0, 0, 0, 1, 1, 97, 0, 0, 1, 0, 1,
   0xC0, 0x0C, 0, 0xA, 0, 1, 0, 0, 0, 0, 0, 3, 7, 9]

/-- one question, one answer record announced, four bytes after the question -/
def shortAnswer : Bytes :=
  [0, 0, 1, 0, 0, 1, 0, 1, 0, 0, 0, 0, 1, 97, 0, 0, 1, 0, 1, 1, 2, 3, 4]

theorem additionalBad_panics : isPanic (additionalBad 1 shortRecord 19 []) = true := by decide
theorem decodePacketBad_panics : isPanic (decodePacketBad shortRecord) = true := by decide
theorem answersBad_panics : isPanic (decodePacketBad shortAnswer) = true := by decide

/-- the guarded reader on the same messages: `io.ErrUnexpectedEOF` -/
example : isPanic (additional 1 shortRecord 19 []) = false := by decide
example : isPanic (decodePacket shortRecord) = false := by decide
example : isPanic (decodePacket shortAnswer) = false := by decide
example : isPanic (read shortRecord) = false := by decide

end Dns

end XMT.Decode.GuardsMatter
