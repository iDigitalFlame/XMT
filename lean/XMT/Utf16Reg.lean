/-
  XMT.Utf16Reg — FnvHash is FNV-1, and the registry readers: `Entry.ToString / ToStringList /
  ToInteger` (device/regedit/entry.go) and the Windows-only `Key.String / Key.Strings`
  (XMT/RegKey.lean). The `[]uint16` view over the value's bytes is the little-endian word list of the
  value, and every reader is characterised on every input: the reference result, the coded error, or
  the "slice-bounds" panic of a view longer than the array type. No case reads outside the value.
  `distinct` … `eraseDups_of_nodup` are for the table of precomputed API-name hashes
  (`Props.C20.tie_api_tables_joined`).
-/
import XMT.Utf16Roundtrip
import XMT.RegKey
namespace XMT.Utf16

theorem fnv_fold (bs : Bytes) (h : UInt32) :
    (bs.foldl (fun h b => (h * UInt32.ofNat Facts.fnvPrime) ^^^ UInt32.ofNat b.toNat) h).toNat
      = bs.foldl (fun h b => (h * 0x01000193 % 2 ^ 32) ^^^ b.toNat) h.toNat :=
  (List.foldl_hom UInt32.toNat fun h b => by
    have e1 : (UInt32.ofNat Facts.fnvPrime).toNat = 0x01000193 := by decide
    have e2 : (UInt32.ofNat b.toNat).toNat = b.toNat := by
      have := UInt8.toNat_lt b
      rw [UInt32.toNat_ofNat']; omega
    rw [UInt32.toNat_xor, UInt32.toNat_mul, e1, e2]).symm

/-- No number occurs twice; `Nat.beq` lets the kernel compare two numerals in one step. -/
def distinct : List Nat → Bool
  | [] => true
  | a :: l => l.all (fun b => !Nat.beq a b) && distinct l

theorem nodup_of_distinct : ∀ {l : List Nat}, distinct l = true → l.Nodup
  | [], _ => .nil
  | a :: l, h => by
    simp only [distinct, Bool.and_eq_true, List.all_eq_true] at h
    exact List.nodup_cons.mpr ⟨fun ha => by simpa [Nat.beq_refl] using h.1 a ha, nodup_of_distinct h.2⟩

theorem nodup_map_of_nodup_map {α β γ : Type} {l : List α} {f : α → β} {g : α → γ} (F : β → γ)
    (hF : ∀ a ∈ l, g a = F (f a)) (h : (l.map g).Nodup) : (l.map f).Nodup := by
  rw [List.Nodup, List.pairwise_map] at h ⊢
  exact h.imp_of_mem fun ha hb hne e => hne (by rw [hF _ ha, hF _ hb, e])

theorem eraseDups_of_nodup {α : Type} [BEq α] [LawfulBEq α] : ∀ {l : List α}, l.Nodup → l.eraseDups = l
  | [], _ => rfl
  | a :: l, h => by
    have ⟨ha, hl⟩ := List.nodup_cons.mp h
    rw [List.eraseDups_cons, List.filter_eq_self.mpr, eraseDups_of_nodup hl]
    intro b hb
    simpa using fun (e : b = a) => ha (e ▸ hb)

theorem leWords_length : ∀ d : Bytes, (leWords d).length = d.length / 2
  | [] => rfl
  | [_] => by simp [leWords]
  | _ :: _ :: t => by simp only [leWords, List.length_cons, leWords_length t]; omega

theorem leWords_getElem? : ∀ (d : Bytes) (k : Nat) {lo hi : UInt8},
    d[2 * k]? = some lo → d[2 * k + 1]? = some hi →
    (leWords d)[k]? = some (UInt16.ofNat (lo.toNat + 256 * hi.toNat))
  | _ :: _ :: _, 0, _, _, h0, h1 => by cases h0; cases h1; rfl
  | _ :: _ :: t, k + 1, _, _, h0, h1 => leWords_getElem? t k h0 h1
  | [], _, _, _, h0, _ => nomatch h0
  | [_], _, _, _, _, h1 => by simp at h1

theorem viewU16_eq (d : Bytes) : ∀ n, 2 * n ≤ d.length → viewU16 d n = .ok ((leWords d).take n) := by
  intro n
  induction n with
  | zero => intro _; rfl
  | succ n ih =>
    intro h
    have h0 : 2 * n < d.length := by omega
    have h1 : 2 * n + 1 < d.length := by omega
    have hw := leWords_getElem? d n (List.getElem?_eq_getElem h0) (List.getElem?_eq_getElem h1)
    unfold viewU16 u16At
    rw [ih (by omega), List.getElem?_eq_getElem h0, List.getElem?_eq_getElem h1]
    dsimp only
    rw [or_shl_eq_add _ _ 8 (UInt8.toNat_lt _), List.take_add_one, hw, Nat.mul_comm 256]
    rfl

/-- A view of more words than the value has reads outside it: word `len/2` is the first that does, and
the longer views hand its panic on. -/
theorem viewU16_oob (d : Bytes) : ∀ {n : Nat}, d.length < 2 * n → viewU16 d n = .panic "read-oob"
  | n + 1, h => by
    rw [viewU16]
    by_cases hn : 2 * n ≤ d.length
    · rw [viewU16_eq d n hn, u16At, List.getElem?_eq_none (by omega : d.length ≤ 2 * n + 1)]
      cases d[2 * n]? <;> rfl
    · rw [viewU16_oob d (Nat.lt_of_not_le hn)]

/-- The view over a non-empty value: all its words, unless there are more than the array type holds. -/
theorem regView_eq (d : Bytes) (h : d ≠ []) :
    regView d = if Facts.regArrayCap < d.length / 2 then .panic "slice-bounds" else .ok (leWords d) := by
  obtain ⟨a, t, rfl⟩ := List.exists_cons_of_ne_nil h
  refine ite_congr rfl (fun _ => rfl) fun _ => ?_
  rw [viewU16_eq _ _ (by omega), List.take_of_length_le (by rw [leWords_length]; omega)]

/-- What every reader does with a non-empty value: lay the view over it and hand it to a decoder `k`.
The `match` is the one the model functions spell out (Lean shares it between them), so the lemma
applies to their bodies as it stands. -/
theorem regView_then {β : Type} {k : U16s → Outcome β} {r : β} (d : Bytes) (h : d ≠ [])
    (hk : k (leWords d) = .ok r) :
    (match regView d with
      | .ok v => k v
      | .err e => .err e
      | .panic p => .panic p)
      = if Facts.regArrayCap < d.length / 2 then .panic "slice-bounds" else .ok r := by
  rw [regView_eq d h]
  by_cases hc : Facts.regArrayCap < d.length / 2
  · simp only [if_pos hc]
  · simp only [if_neg hc, hk]

theorem panic_ne_oob {α : Type} : (Outcome.panic "slice-bounds" : Outcome α) ≠ .panic "read-oob" := by
  simp

theorem ite_ne {α : Type} {c : Prop} [Decidable c] {a b x : α} (ha : a ≠ x) (hb : b ≠ x) :
    ite c a b ≠ x := by
  split <;> assumption

theorem entryToString_eq (ty : Nat) (d : Bytes) :
    entryToString ty d =
      if ty ≠ Facts.regTypeString ∧ ty ≠ Facts.regTypeExpandString then .err .unexpectedType
      else if d.length < 3 then .err .unexpectedSize
      else if Facts.regArrayCap < d.length / 2 then .panic "slice-bounds"
      else .ok (refDecode (untilNul (leWords d))) :=
  ite_congr rfl (fun _ => rfl) fun _ => ite_congr rfl (fun _ => rfl) fun h3 =>
    regView_then d (by rintro rfl; simp at h3) (utf16Decode_eq _)

theorem keyString_eq (ty : Nat) (d : Bytes) :
    keyString ty d =
      if ty = Facts.regTypeString ∨ ty = Facts.regTypeExpandString then
        if Facts.regArrayCap < d.length / 2 then .panic "slice-bounds"
        else .ok (refDecode (untilNul (leWords d)))
      else .err .unexpectedType := by
  refine ite_congr rfl (fun _ => ?_) fun _ => rfl
  cases d with
  | nil => rfl
  | cons a t => exact (if_neg (by simp)).trans (regView_then _ (by simp) (utf16Decode_eq _))

theorem leNat4 (b0 b1 b2 b3 : UInt8) :
    b0.toNat ||| (b1.toNat <<< 8) ||| (b2.toNat <<< 16) ||| (b3.toNat <<< 24) = leNat [b0, b1, b2, b3] := by
  show ofBe32 b3 b2 b1 b0 = _
  rw [ofBe32_eq]; simp only [leNat]; omega

theorem leNat8 (b0 b1 b2 b3 b4 b5 b6 b7 : UInt8) :
    b0.toNat ||| (b1.toNat <<< 8) ||| (b2.toNat <<< 16) ||| (b3.toNat <<< 24) |||
      (b4.toNat <<< 32) ||| (b5.toNat <<< 40) ||| (b6.toNat <<< 48) ||| (b7.toNat <<< 56)
      = leNat [b0, b1, b2, b3, b4, b5, b6, b7] := by
  show ofBe64 b7 b6 b5 b4 b3 b2 b1 b0 = _
  rw [ofBe64_eq]; simp only [leNat]; omega

theorem leNat_lt (d : Bytes) : leNat d < 256 ^ d.length := by
  induction d with
  | nil => decide
  | cons b t ih =>
    have := UInt8.toNat_lt b
    simp only [leNat, List.length_cons, Nat.pow_succ]
    omega

theorem entryToInteger_eq (ty : Nat) (d : Bytes) :
    entryToInteger ty d =
      if ty = Facts.regTypeDword then (if d.length ≠ 4 then .err .unexpectedSize else .ok (leNat d))
      else if ty = Facts.regTypeQword then (if d.length ≠ 8 then .err .unexpectedSize else .ok (leNat d))
      else .err .unexpectedType := by
  refine ite_congr rfl (fun _ => ite_congr rfl (fun _ => rfl) fun h => ?_) fun _ =>
    ite_congr rfl (fun _ => ite_congr rfl (fun _ => rfl) fun h => ?_) fun _ => rfl
  · match d, Decidable.of_not_not h with
    | [b0, b1, b2, b3], _ => exact congrArg Outcome.ok (leNat4 b0 b1 b2 b3)
  · match d, Decidable.of_not_not h with
    | [b0, b1, b2, b3, b4, b5, b6, b7], _ => exact congrArg Outcome.ok (leNat8 b0 b1 b2 b3 b4 b5 b6 b7)

theorem slice_pre {α : Type} (pre rest : List α) (n : Nat) (h : n ≤ pre.length) :
    slice (pre ++ rest) n pre.length = .ok (pre.drop n) := by
  unfold slice
  rw [if_pos ⟨h, by simp⟩, List.drop_append_of_le_length h, List.take_append_of_le_length (by simp),
    List.take_of_length_le (by simp)]

/-- Invariant of the splitting loop at `i = len(pre)`: `pre[n:]` is the segment being scanned; it
holds no NUL, so decoding it does not stop early. -/
theorem slLoop_eq : ∀ (rest pre : U16s) (n : Nat) (acc : List (List Int)), n ≤ pre.length →
    (0 : UInt16) ∉ pre.drop n →
    slLoop (pre ++ rest) rest pre.length n acc = .ok (acc ++ (segsAux (pre.drop n) rest).map refDecode) := by
  intro rest
  induction rest with
  | nil => intro pre n acc _ _; simp [slLoop, segsAux]
  | cons x rest ih =>
    intro pre n acc hn hz
    have step := fun n' acc' (h : n' ≤ pre.length + 1) => ih (pre ++ [x]) n' acc' (by simpa using h)
    simp only [List.append_assoc, List.singleton_append, List.length_append, List.length_singleton] at step
    unfold slLoop segsAux
    by_cases hx : x.toNat > 0
    · have hx0 : x ≠ 0 := by rintro rfl; exact absurd hx (by decide)
      have hz' : (0 : UInt16) ∉ (pre ++ [x]).drop n := by
        rw [List.drop_append_of_le_length hn]; simpa [hz] using hx0.symm
      rw [if_pos hx, if_neg hx0, step n acc (by omega) hz', List.drop_append_of_le_length hn]
    · have hx0 : x = 0 := UInt16.toNat_inj.mp (by simp; omega)
      rw [if_neg hx, if_pos hx0, slice_pre pre _ n hn]
      simp only [utf16Decode_eq, untilNul_of_not_mem _ hz]
      have hd : (pre ++ [x]).drop (pre.length + 1) = [] := List.drop_of_length_le (by simp)
      rw [step _ _ (Nat.le_refl _) (by rw [hd]; exact List.not_mem_nil), hd]
      simp

theorem slLoop_all (v : U16s) : slLoop v v 0 0 [] = .ok ((segs v).map refDecode) :=
  slLoop_eq v [] 0 [] (Nat.le_refl _) nofun

/-- `p[len(p)-1]` of a non-empty view, and what `if p[len(p)-1] == 0 { p = p[:len(p)-1] }` leaves. -/
theorem stripLast_eq (v : U16s) (h : v.length ≠ 0) :
    ∃ last, v[v.length - 1]? = some last ∧
      (if last = 0 then v.take (v.length - 1) else v) = stripLastNul v := by
  have hi : v.length - 1 < v.length := by omega
  refine ⟨v[v.length - 1], List.getElem?_eq_getElem hi, ?_⟩
  unfold stripLastNul
  rw [List.getLast?_eq_getElem?, List.getElem?_eq_getElem hi, List.dropLast_eq_take]
  simp

theorem listOfView_eq (v : U16s) : listOfView v = .ok ((segs (stripLastNul v)).map refDecode) := by
  unfold listOfView
  by_cases h0 : v.length = 0
  · rw [if_pos h0, List.eq_nil_of_length_eq_zero h0]; rfl
  · obtain ⟨last, h1, h2⟩ := stripLast_eq v h0
    rw [if_neg h0, h1]
    dsimp only
    rw [h2]
    exact slLoop_all _

theorem entryToStringList_eq (ty : Nat) (d : Bytes) :
    entryToStringList ty d =
      if ty ≠ Facts.regTypeStringList then .err .unexpectedType
      else if d.length < 3 then .err .unexpectedSize
      else if Facts.regArrayCap < d.length / 2 then .panic "slice-bounds"
      else .ok ((segs (stripLastNul (leWords d))).map refDecode) :=
  ite_congr rfl (fun _ => rfl) fun _ => ite_congr rfl (fun _ => rfl) fun h3 =>
    regView_then d (by rintro rfl; simp at h3) (listOfView_eq _)

theorem keyStrings_eq (ty : Nat) (d : Bytes) :
    keyStrings ty d =
      if ty ≠ Facts.regTypeStringList then .err .unexpectedType
      else if Facts.regArrayCap < d.length / 2 then .panic "slice-bounds"
      else .ok ((segs (stripLastNul (leWords d))).map refDecode) := by
  refine ite_congr rfl (fun _ => rfl) fun _ => ?_
  cases d with
  | nil => rfl
  | cons a t => exact (if_neg (by simp)).trans (regView_then _ (by simp) (listOfView_eq _))

end XMT.Utf16
