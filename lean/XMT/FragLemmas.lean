/-
  XMT.FragLemmas — the fragments `Session.write` makes.  `win F p i` is the payload window of
  fragment `i`, `fr F p g m i` the fragment itself, and `split` is `fr` mapped over `range m`
  (`split_eq_fr`; under `Ctx`, with the count `m`: `Ctx.split_eq`); everything downstream speaks of
  `fr`, not of the carving loop.  `Ctx F p g m` collects the hypotheses under which a packet goes
  through the fragment path (`m` is the count computed from `Size()`, at least 2 and below 2^16; `g`
  and the flag bits below 2^16, these even; not a control packet; payload non-empty); under it
  `fr_flags` gives the header fields of fragment `i` (one by one: `fr_len`, `fr_group`, `fr_position`,
  `fr_bits`).  Also: the windows of all fragments concatenate to the payload (`windows_cover`, from
  `windows_flatten` and `fragCount_covers`).
-/
import XMT.Frag
import XMT.FlagLemmas
namespace XMT.Frag
open XMT.Flag

/-- closed form of the carving loop: fragment `i + k` carries bytes `[k·F, (k+1)·F)` of what was
unread when the loop was at index `i` -/
theorem splitLoop_eq (F : Nat) (p : Pkt) (g m x : Nat) (hx : p.payload.length < x) :
    ∀ (fuel i : Nat) (rest : Bytes) (t : Nat), i + fuel = m → t + rest.length = p.payload.length →
      splitLoop F p g m x fuel i t rest =
        (List.range fuel).map (fun k => mkFrag p g m (i + k) ((rest.drop (k * F)).take F)) := by
  intro fuel
  induction fuel with
  | zero => intros; rfl
  | succ fuel ih =>
    intro i rest t him ht
    have h4 : t + (rest.take F).length + (rest.drop F).length = p.payload.length := by
      rw [List.length_take, List.length_drop]; omega
    rw [splitLoop, if_pos ⟨by omega, by omega⟩, ih (i + 1) _ _ (by omega) h4, List.range_succ_eq_map,
      List.map_cons, List.map_map, Nat.add_zero, Nat.zero_mul, List.drop_zero]
    refine congrArg _ (List.map_congr_left fun k _ => ?_)
    simp only [Function.comp, List.drop_drop, Nat.succ_mul, Nat.add_right_comm i 1 k, Nat.add_comm F]
    rfl

/-- `Size()` always exceeds the payload length (there is a header) -/
theorem size_gt_payload (p : Pkt) : p.payload.length < Packet.size p := by
  have h : 0 < Facts.packetHeaderSize := by decide
  unfold Packet.size
  split
  · rename_i he; rw [List.isEmpty_iff.mp he]; exact h
  · simp only; repeat' split
    all_goals omega

theorem windows_flatten (F : Nat) (b : Bytes) (n : Nat) :
    ((List.range n).map (fun k => (b.drop (k * F)).take F)).flatten = b.take (n * F) := by
  induction n with
  | zero => simp
  | succ n ih =>
    rw [List.range_succ, List.map_append, List.flatten_append, ih]
    simp only [List.map_cons, List.map_nil, List.flatten_cons, List.flatten_nil, List.append_nil]
    rw [Nat.succ_mul, ← List.take_add]

theorem fragCount_covers (F : Nat) (hF : 0 < F) (p : Pkt) :
    p.payload.length ≤ fragCount F (Packet.size p) * F := by
  have h := size_gt_payload p
  have h1 := Nat.div_add_mod (Packet.size p) F
  have h2 := Nat.mod_lt (Packet.size p) hF
  have h3 : (Packet.size p / F + 1) * F = F * (Packet.size p / F) + F := by
    rw [Nat.add_mul, Nat.one_mul, Nat.mul_comm]
  unfold fragCount
  simp only
  split
  · omega
  · omega

/-- hypotheses under which a packet is fragmented and reassembled (what `Session.write` sends
through the fragment path, for any fragment limit `F`) -/
structure Ctx (F : Nat) (p : Pkt) (g m : Nat) : Prop where
  hF : 0 < F
  hm : m = fragCount F (Packet.size p)
  m2 : 2 ≤ m
  m16 : m < 2^16
  g16 : g < 2^16
  fl16 : p.flags < 2^16
  flEven : p.flags % 2 = 0
  notCtl : ¬ (p.id.toNat = Facts.svDrop ∨ p.id.toNat = Facts.svRegister)
  pay : p.payload ≠ []

/-- payload window of fragment `i` -/
def win (F : Nat) (p : Pkt) (i : Nat) : Bytes := (p.payload.drop (i * F)).take F

/-- fragment `i` as `split` produces it -/
def fr (F : Nat) (p : Pkt) (g m i : Nat) : Pkt := mkFrag p g m i (win F p i)

/-- the count is computed from `Size()`, which exceeds the payload length: the windows reach its end -/
theorem windows_cover (F : Nat) (hF : 0 < F) (p : Pkt) :
    ((List.range (fragCount F (Packet.size p))).map (win F p)).flatten = p.payload :=
  (windows_flatten F p.payload _).trans (List.take_of_length_le (fragCount_covers F hF p))

theorem split_eq_fr (F : Nat) (p : Pkt) (g : Nat) :
    split F p g = (List.range (fragCount F (Packet.size p))).map
      (fr F p g (fragCount F (Packet.size p))) := by
  unfold split
  simp only
  rw [splitLoop_eq F p g _ _ (size_gt_payload p) _ 0 p.payload 0 (Nat.zero_add _) (Nat.zero_add _)]
  simp only [Nat.zero_add]
  rfl

section
variable {F : Nat} {p : Pkt} {g m : Nat} (C : Ctx F p g m)
include C

/-- the header fields of fragment `i`: by the field-independence laws of the three setters (C01);
the flag bits are the original's (even, below 2^16) with `FlagFrag` set -/
theorem fr_flags (i : Nat) (hi : i < m) :
    len (fr F p g m i).flags = m ∧ group (fr F p g m i).flags = g ∧
    position (fr F p g m i).flags = i ∧ bits (fr F p g m i).flags = p.flags + 1 ∧
    1 ≤ (fr F p g m i).flags := by
  have h16 := C.m16; have hfl := C.fl16; have he := C.flEven
  obtain ⟨g1, _, _, b1, _⟩ := setGroup_fields p.flags g C.g16 (by omega)
  obtain ⟨l2, _, g2, b2, _⟩ := setLen_fields (setGroup p.flags g) m h16
  obtain ⟨p3, l3, g3, b3, _⟩ := setPosition_fields (setLen (setGroup p.flags g) m) i (by omega)
  have e : (fr F p g m i).flags = setPosition (setLen (setGroup p.flags g) m) i := by
    show setPosition (setLen _ (m % 2^16)) (i % 2^16) = _
    rw [Nat.mod_eq_of_lt h16, Nat.mod_eq_of_lt (by omega)]
  have hb : bits (fr F p g m i).flags = p.flags + 1 := by
    rw [e, b3, b2, b1, show flagFrag = 1 from rfl, Nat.or_assoc, Nat.or_self, Nat.or_assoc, Nat.or_self,
      show bits p.flags = p.flags from Nat.mod_eq_of_lt hfl, or_one_eq]
    omega
  refine ⟨by rw [e, l3, l2], by rw [e, g3, g2, g1], by rw [e, p3], hb, ?_⟩
  have := Nat.mod_le (fr F p g m i).flags (2^16)
  unfold bits u16 at hb
  omega

theorem fr_len (i : Nat) (hi : i < m) : len (fr F p g m i).flags = m := (fr_flags C i hi).1
theorem fr_group (i : Nat) (hi : i < m) : group (fr F p g m i).flags = g := (fr_flags C i hi).2.1
theorem fr_position (i : Nat) (hi : i < m) : position (fr F p g m i).flags = i := (fr_flags C i hi).2.2.1
theorem fr_bits (i : Nat) (hi : i < m) : bits (fr F p g m i).flags = p.flags + 1 := (fr_flags C i hi).2.2.2.1

omit C in
theorem fr_id (i : Nat) : (fr F p g m i).id = p.id ∧ (fr F p g m i).job = p.job ∧
    (fr F p g m i).dev = p.dev ∧ (fr F p g m i).payload = win F p i ∧ (fr F p g m i).tags = [] :=
  ⟨rfl, rfl, rfl, rfl, rfl⟩

theorem win0_ne : (!(win F p 0).isEmpty) = true := by
  have hF := C.hF
  have hp := List.length_pos_iff.mpr C.pay
  rw [Bool.not_eq_true', Bool.eq_false_iff, ne_eq, List.isEmpty_iff, win, Nat.zero_mul, List.drop_zero,
    ← List.length_eq_zero_iff, List.length_take]
  omega

theorem belongs_fr (i j : Nat) (hi : i < m) (hj : j < m) :
    belongs (fr F p g m i) (fr F p g m j) = true := by
  obtain ⟨_, g1, _, _, f1⟩ := fr_flags C i hi
  obtain ⟨_, g2, _, _, f2⟩ := fr_flags C j hj
  unfold belongs
  simp only [Bool.and_eq_true, decide_eq_true_eq]
  exact ⟨⟨⟨⟨f1, f2⟩, rfl⟩, rfl⟩, by rw [g1, g2]⟩

theorem Ctx.split_eq : split F p g = (List.range m).map (fr F p g m) := by
  rw [split_eq_fr, ← C.hm]

theorem split_positions :
    (split F p g).map (fun f => position f.flags) = List.range m := by
  rw [C.split_eq, List.map_map]
  exact (List.map_congr_left fun i hi => fr_position C i (List.mem_range.mp hi)).trans (List.map_id _)

end
end XMT.Frag
