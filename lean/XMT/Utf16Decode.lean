/-
  XMT.Utf16Decode — the decoder half of C20. `decHead` is the step taken at the front of the input (a
  word that stands for itself, a surrogate pair, U+FFFD for a surrogate without its partner). The
  reference decoder is that step iterated (`refDecode_cons`), an iteration of the `UTF16Decode` loop on
  a word other than NUL stores its result and goes on where it ends (`decLoop_cons`), and it commutes
  with cutting the input at the first NUL (`decHead_untilNul`); so the loop stores, word for word, the
  reference decoding of the part before the first NUL.
-/
import XMT.Utf16Lemmas
namespace XMT.Utf16

theorem untilNul_cons (r : UInt16) (t : U16s) :
    untilNul (r :: t) = if r = 0 then [] else r :: untilNul t := by
  unfold untilNul
  by_cases h : r = 0 <;> simp [List.takeWhile, h]

theorem isHigh_iff (u : UInt16) : isHigh u = true ↔ (55296 ≤ u.toNat ∧ u.toNat < 56320) := by
  simp [isHigh]
theorem isLow_iff (u : UInt16) : isLow u = true ↔ (56320 ≤ u.toNat ∧ u.toNat < 57344) := by
  simp [isLow]

theorem refDecode_norm (u : UInt16) (t : U16s) (hn : ¬ isHigh u = true) (hl : ¬ isLow u = true) :
    refDecode (u :: t) = (u.toNat : Int) :: refDecode t := by
  cases t <;> simp [refDecode, hn, hl]

theorem refDecode_pair (u l : UInt16) (t : U16s) (h : isHigh u = true) (hl : isLow l = true) :
    refDecode (u :: l :: t)
      = ((0x10000 + (u.toNat - 0xD800) * 1024 + (l.toNat - 0xDC00) : Nat) : Int) :: refDecode t := by
  simp [refDecode, h, hl]

theorem refDecode_length_le (s : U16s) : (refDecode s).length ≤ s.length := by
  induction s using refDecode.induct <;> simp [refDecode, *] <;> omega

theorem refDecode_len_le : ∀ (n : Nat) (s : U16s), s.length ≤ n → (refDecode s).length ≤ s.length :=
  fun _ s _ => refDecode_length_le s

/-- The code point at the front of `u :: t` and the words after it: a word that stands for itself, a
surrogate pair, or U+FFFD for a surrogate that does not start a pair. -/
def decHead (u : UInt16) (t : U16s) : Int × U16s :=
  if isHigh u || isLow u then
    match t with
    | l :: t' =>
      if isHigh u && isLow l then
        (((0x10000 + (u.toNat - 0xD800) * 1024 + (l.toNat - 0xDC00) : Nat) : Int), t')
      else (0xFFFD, t)
    | [] => (0xFFFD, t)
  else ((u.toNat : Int), t)

theorem refDecode_cons (u : UInt16) (t : U16s) :
    refDecode (u :: t) = (decHead u t).1 :: refDecode (decHead u t).2 := by
  cases t with
  | nil => cases hh : isHigh u <;> cases hl : isLow u <;> simp [refDecode, decHead, hh, hl]
  | cons l t' =>
    cases hh : isHigh u <;> cases hl : isLow u <;> cases hl' : isLow l <;> simp [refDecode, decHead, hh, hl, hl']

theorem decHead_length (u : UInt16) (t : U16s) : (decHead u t).2.length ≤ t.length := by
  unfold decHead
  split
  · split
    · split
      · exact Nat.le_succ _
      · exact Nat.le_refl _
    · exact Nat.le_refl _
  · exact Nat.le_refl _

/-- Induction along the steps of the decoder: from `u :: t` to what is left behind its front. -/
theorem decHead_induction {P : U16s → Prop} (nil : P []) (cons : ∀ u t, P (decHead u t).2 → P (u :: t)) :
    ∀ s, P s
  | [] => nil
  | u :: t => cons u t (decHead_induction nil cons (decHead u t).2)
termination_by s => s.length
decreasing_by exact Nat.lt_succ_of_le (decHead_length u t)

/-- Cutting at the first NUL and taking the front commute: a NUL is no low surrogate, so it is never
the second half of a pair. -/
theorem decHead_untilNul (u : UInt16) (t : U16s) :
    decHead u (untilNul t) = ((decHead u t).1, untilNul (decHead u t).2) := by
  unfold decHead
  split
  · cases t with
    | nil => rfl
    | cons l t' =>
      rw [untilNul_cons]
      by_cases h0 : l = 0
      · subst h0
        rw [if_pos rfl]
        dsimp only
        rw [show isLow 0 = false from rfl, Bool.and_false, if_neg Bool.false_ne_true, untilNul_cons, if_pos rfl]
      · rw [if_neg h0]
        dsimp only
        split <;> simp only [untilNul_cons, if_neg h0]
  · rfl

/-! The loop's tests on `rune(r)` against the constants are the reference's on the word. -/

theorem rn_norm_iff (r : UInt16) :
    (rn r < utfSurgA ∨ utfSurgC ≤ rn r) ↔ (isHigh r || isLow r) = false := by
  rw [Bool.or_eq_false_iff, ← Bool.not_eq_true, ← Bool.not_eq_true, isHigh_iff, isLow_iff]
  unfold rn; simp only [utfSurgA_eq, utfSurgC_eq]; omega

theorem rn_pair_iff (r r2 : UInt16) :
    (utfSurgA ≤ rn r ∧ rn r < utfSurgB ∧ utfSurgB ≤ rn r2 ∧ rn r2 < utfSurgC)
      ↔ (isHigh r && isLow r2) = true := by
  rw [Bool.and_eq_true, isHigh_iff, isLow_iff]; unfold rn
  simp only [utfSurgA_eq, utfSurgB_eq, utfSurgC_eq]; omega

theorem decodeRune_pair (u l : UInt16) (h : (isHigh u && isLow l) = true) :
    utf16DecodeRune (rn u) (rn l)
      = ((0x10000 + (u.toNat - 0xD800) * 1024 + (l.toNat - 0xDC00) : Nat) : Int) := by
  rw [utf16DecodeRune, if_pos ((rn_pair_iff u l).mpr h)]
  rw [Bool.and_eq_true, isHigh_iff, isLow_iff] at h
  unfold rn
  simp only [utfSurgA_eq, utfSurgB_eq, utfSelf_eq]
  have e1 : ((u.toNat : Int) - 55296).toNat = u.toNat - 55296 := by omega
  have e2 : ((l.toNat : Int) - 56320).toNat = l.toNat - 56320 := by omega
  rw [e1, e2, Nat.or_comm, or_shl_eq_add _ _ 10 (by omega), show (2 : Nat) ^ 10 = 1024 from rfl]
  omega

theorem decLoop_zero (t : U16s) (b : List Int) (n : Nat) : decLoop (0 :: t) b n = .ok (b, n) := by
  cases t <;> rfl

/-- An iteration on a word other than NUL stores the code point at the front and goes on behind it. -/
theorem decLoop_cons (r : UInt16) (t : U16s) (h0 : r ≠ 0) (b : List Int) (n : Nat) :
    decLoop (r :: t) b n = decPut b n (decHead r t).1 (decLoop (decHead r t).2) := by
  unfold decHead
  by_cases hn : rn r < utfSurgA ∨ utfSurgC ≤ rn r
  · rw [(rn_norm_iff r).mp hn, if_neg Bool.false_ne_true]
    cases t <;> simp only [decLoop, if_neg h0, if_pos hn] <;> rfl
  · rw [if_pos ((Bool.not_eq_false _).mp (mt (rn_norm_iff r).mpr hn))]
    cases t with
    | nil => simp only [decLoop, if_neg h0, if_neg hn, utfReplacement_eq]
    | cons l t' =>
      dsimp only
      by_cases hp : (isHigh r && isLow l) = true
      · rw [if_pos hp, ← decodeRune_pair r l hp]
        simp only [decLoop, if_neg h0, if_neg hn, if_pos ((rn_pair_iff r l).mpr hp)]
      · rw [if_neg hp]
        simp only [decLoop, if_neg h0, if_neg hn, if_neg (mt (rn_pair_iff r l).mp hp), utfReplacement_eq]

theorem Appends.decPut {f g : List Int → Nat → Outcome (List Int × Nat)} {v : Int} {out : List Int}
    (hf : ∀ b n, f b n = decPut b n v g) (hg : Appends g out) : Appends f (v :: out) :=
  .wr (fun b n b' hw => by rw [hf, XMT.Utf16.decPut, hw]) hg

theorem decLoop_appends (s : U16s) : Appends (decLoop s) (refDecode (untilNul s)) := by
  induction s using decHead_induction with
  | nil => exact .nil fun _ _ => rfl
  | cons r t ih =>
    by_cases h0 : r = 0
    · subst h0; exact .nil (decLoop_zero t)
    rw [untilNul_cons, if_neg h0, refDecode_cons, decHead_untilNul]
    exact .decPut (decLoop_cons r t h0) ih

theorem utf16Decode_eq (s : U16s) : utf16Decode s = .ok (refDecode (untilNul s)) := by
  obtain ⟨rest, h⟩ := (decLoop_appends s).run 0 s.length
    (Nat.le_trans (refDecode_length_le _) (List.takeWhile_sublist _).length_le)
  rw [utf16Decode, h]
  exact sliceTo_append _ _

end XMT.Utf16
