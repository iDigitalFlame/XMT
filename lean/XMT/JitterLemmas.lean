/-
  Lemmas about the jitter model (XMT/Jitter.lean): the closed form of `applyJitter` with its int64
  wrap-around (`applyJitter_eq`) and the shape of `delay` (`delay_shape`: the plain sleep, or
  `applyJitter` of an in-range draw), from which Props/C19 reads the bounds on the delay.
-/
import XMT.Jitter
namespace XMT.Jitter

/-- what the proofs need from the literals read from session.go / the time package -/
def FactsOK : Prop :=
  Facts.c19JitterFallbackLe = 1 ∧ Facts.c19Millisecond = 1000000 ∧ Facts.c19SleepBelow = 1 ∧
  Facts.c19JitterBelow = 101 ∧ Facts.c19JitterAlways = 100

instance : Decidable FactsOK := by unfold FactsOK; infer_instance

theorem i64_id (x : Int) (h1 : -2^63 ≤ x) (h2 : x < 2^63) : i64 x = x := by
  unfold i64; omega

theorem i64_wrap_hi (x : Int) (h1 : 2^63 ≤ x) (h2 : x < 2^64 + 2^63) : i64 x = x - 2^64 := by
  unfold i64; omega

/-- closed form of `applyJitter` (repaired code) -/
theorem applyJitter_eq (hf : FactsOK) (S d0 : Int) (neg : Bool)
    (hS : 0 < S) (hS2 : S < 2^63) (hd : 0 ≤ d0) (hd2 : d0 < S / 1000000) :
    applyJitter S d0 neg =
      if neg then S - d0 * 1000000
      else if S + d0 * 1000000 < 2^63 then S + d0 * 1000000
      else if S + d0 * 1000000 = 2^63 then S
      else 2^64 - (S + d0 * 1000000) := by
  obtain ⟨hF, hM, _⟩ := hf
  have hX : 0 ≤ d0 * 1000000 ∧ d0 * 1000000 + 1000000 ≤ S := by omega
  clear hd2
  unfold applyJitter ms
  rw [hF, hM]
  simp only [if_true, decide_eq_true_eq, Int.cast_ofNat_Int]
  cases neg
  · -- `+`: only the sum can leave the int64 range; it then wraps to a negative value, whose negation is
    -- back in range unless the sum was exactly 2^63 (MinInt64 negates to itself, the fallback applies)
    simp only [Bool.false_eq_true, if_false]
    rw [i64_id d0 (by omega) (by omega), i64_id (d0 * 1000000) (by omega) (by omega)]
    generalize d0 * 1000000 = X at *
    by_cases h1 : S + X < 2^63
    · rw [i64_id (S + X) (by omega) (by omega), if_pos h1, if_neg (by omega : ¬ S + X < 0),
        if_neg (by omega : ¬ S + X ≤ 0)]
    · rw [i64_wrap_hi (S + X) (by omega) (by omega), if_neg h1, if_pos (by omega : S + X - 2^64 < 0)]
      by_cases h2 : S + X = 2^63
      · rw [if_pos h2, show (S + X - 2^64) * -1 = 2^63 by omega, i64_wrap_hi (2^63) (by omega) (by omega),
          if_pos (by omega)]
      · rw [if_neg h2, i64_id _ (by omega) (by omega), if_neg (by omega)]
        omega
  · -- `-`: every intermediate value is in range
    simp only [if_true]
    have hneg := i64_id (d0 * -1) (by omega) (by omega)
    rw [hneg, hneg, show d0 * -1 * 1000000 = -(d0 * 1000000) by omega]
    generalize d0 * 1000000 = X at *
    rw [i64_id (-X) (by omega) (by omega), i64_id (S + -X) (by omega) (by omega),
      if_neg (by omega : ¬ S + -X < 0), if_neg (by omega : ¬ S + -X ≤ 0)]
    omega

theorem applyJitter_bounds (hf : FactsOK) (S d0 : Int) (neg : Bool)
    (hS : 0 < S) (hS2 : S < 2^63) (hd : 0 ≤ d0) (hd2 : d0 < S / 1000000) :
    0 < applyJitter S d0 neg ∧ applyJitter S d0 neg ≤ 2 * S := by
  rw [applyJitter_eq hf S d0 neg hS hS2 hd hd2]
  have hX : 0 ≤ d0 * 1000000 ∧ d0 * 1000000 + 1000000 ≤ S := by omega
  generalize d0 * 1000000 = X at *
  cases neg
  · simp only [Bool.false_eq_true, if_false]
    split
    · omega
    · split <;> omega
  · simp only [if_true]; omega

theorem applyJitter_exact (hf : FactsOK) (S d0 : Int) (neg : Bool)
    (hS : 0 < S) (hS2 : S ≤ 2^62) (hd : 0 ≤ d0) (hd2 : d0 < S / 1000000) :
    applyJitter S d0 neg = if neg then S - d0 * 1000000 else S + d0 * 1000000 := by
  rw [applyJitter_eq hf S d0 neg hS (by omega) hd hd2]
  cases neg
  · simp only [Bool.false_eq_true, if_false]
    rw [if_pos (by omega)]
  · rfl

theorem tick_pos (w : Int) (h : 0 < w) : tick w = .sleep w := if_neg (by omega)

theorem delay_off (hf : FactsOK) (S : Int) (jitter : Nat) (q : Nat → Nat) (hS : 0 < S)
    (hj : jitter = 0 ∨ jitter > 100) : delay S jitter q = (.sleep S, 0) := by
  obtain ⟨_, _, hSB, hJB, _⟩ := hf
  unfold delay
  rw [hSB, hJB, if_neg (by omega), if_neg (by simp; omega), tick_pos S hS]

/-- The ticker is armed with the plain sleep or with `applyJitter` of an in-range draw; a positive sleep
never reaches the ticker's panic.  (`delay` compares the `Int` sleep with `Nat` facts: once a fact is
rewritten to its value a test reads `S < ↑1`, which `if_pos h` with `h : S < 1` does not match;
`if_pos (by omega)` does, or `simp only [Int.cast_ofNat_Int]` first.) -/
theorem delay_shape (hf : FactsOK) (S : Int) (jitter : Nat) (q : Nat → Nat)
    (hS : 0 < S) (hS2 : S < 2^63) :
    ∃ k, delay S jitter q = (.sleep S, k) ∨
       ∃ d0 neg, 0 ≤ d0 ∧ d0 < S / 1000000 ∧ 1000000 < S ∧
         delay S jitter q = (.sleep (applyJitter S d0 neg), k) := by
  by_cases hj : jitter = 0 ∨ jitter > 100
  · exact ⟨0, .inl (delay_off hf S jitter q hS hj)⟩
  obtain ⟨_, hM, hSB, hJB, _⟩ := id hf
  unfold delay ms
  rw [hSB, hJB, hM, if_neg (by omega), if_pos (by simp; omega)]
  simp only [Int.cast_ofNat_Int]
  -- whether the percentage test hit, and how many words it drew, plays no role below
  generalize (if jitter = Facts.c19JitterAlways then (true, 0) else _ : Bool × Nat) = hit
  by_cases hms : (hit.1 && decide (S > 1000000)) = true
  · rw [if_pos hms]
    simp only [Bool.and_eq_true, decide_eq_true_eq] at hms
    simp only [i64_id (S / 1000000) (by omega) (by omega)]
    rw [if_neg (by omega)]
    -- the raw draw of `Int63n`: only its remainder modulo `S / 1ms` is used
    generalize i64 _ = x
    have hd := Int.emod_nonneg x (b := S / 1000000) (by omega)
    have hd2 := Int.emod_lt_of_pos x (b := S / 1000000) (by omega)
    exact ⟨_, .inr ⟨_, _, hd, hd2, hms.2, by rw [tick_pos _ (applyJitter_bounds hf S _ _ hS hS2 hd hd2).1]⟩⟩
  · rw [if_neg hms, tick_pos S hS]
    exact ⟨_, .inl rfl⟩

theorem delay_sleep (hf : FactsOK) (S : Int) (jitter : Nat) (q : Nat → Nat)
    (hS : 0 < S) (hS2 : S < 2^63) :
    ∃ w k, delay S jitter q = (.sleep w, k) ∧ 0 < w ∧ w ≤ 2 * S := by
  obtain ⟨k, h | ⟨d0, neg, h1, h2, _, h⟩⟩ := delay_shape hf S jitter q hS hS2
  · exact ⟨S, k, h, hS, by omega⟩
  · exact ⟨_, k, h, applyJitter_bounds hf S d0 neg hS hS2 h1 h2⟩

end XMT.Jitter
