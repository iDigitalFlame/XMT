/-
  XMT.CfgGroupsPack — for packed configs `Groups()` / `Group(p)` return exactly the groups that
  `AddGroup` wrote (lemmas for Props/C08 `groups_of_pack`).

  `groups_partition_pieces` (CfgGroups) partitions any byte string at the separators the `next`-walk
  visits; here the walk is followed over `bytesOf g₀ ++ sep :: bytesOf g₁ ++ …` with the
  per-constructor stride facts of `setting_walk`: inside a group no visited offset holds the
  separator tag, and the walk lands exactly on every separator `AddGroup` wrote.
-/
import XMT.CfgGroups
import XMT.CfgBuildPack
namespace XMT.Cfg

/-- the walk over the settings of one group visits no separator and arrives right after the group -/
theorem seps_group (tls : Bytes → Bytes → Bytes → Bool) {c : Bytes} : ∀ (ss : List Setting) (hc ht : Bool)
    (i : Nat) (post : Bytes) (f : Nat),
    c.drop i = bytesOf ss ++ post → groupOK tls hc ht ss = true → c.length ≤ f + i →
    seps c f i = seps c f (i + (bytesOf ss).length)
  | [], _, _, _, _, _, _, _, _ => rfl
  | s :: rest, hc, ht, i, post, f, hcd, hok, hf => by
    unfold groupOK at hok
    simp only [Bool.and_eq_true] at hok
    rw [bytesOf_cons, List.append_assoc] at hcd
    by_cases he : s.enc = []
    · rw [he, List.nil_append] at hcd
      rw [bytesOf_cons, he, List.nil_append]
      exact seps_group tls rest _ _ i post f hcd hok.2 hf
    · obtain ⟨htag, hns, hst⟩ := setting_walk tls s hok.1.1.1 he hcd
      have hlen := length_of_drop hcd
      rw [List.length_append] at hlen
      have := List.length_pos_iff.mpr he
      rw [seps_setting (by omega) hf hst (htag ▸ hns),
        seps_group tls rest _ _ (i + s.enc.length) post f (drop_app hcd rfl) hok.2 (by omega),
        bytesOf_cons, List.length_append, ← Nat.add_assoc]

/-- the offsets of the separators `AddGroup` wrote; `off` is where the next one sits -/
def sepPos : Nat → List (List Setting) → List Nat
  | _, [] => []
  | off, g :: gs => off :: sepPos (off + 1 + (bytesOf g).length) gs

/-- the walk over the tail `sep :: g₁ ++ sep :: g₂ ++ …` visits exactly those separators -/
theorem seps_tail (tls : Bytes → Bytes → Bytes → Bool) {c : Bytes} : ∀ (gs : List (List Setting)) (i f : Nat),
    c.drop i = tailBytes gs → (∀ g ∈ gs, groupOK tls false false g = true) → 0 < i →
    c.length ≤ f + i → seps c f i = sepPos i gs
  | [], i, f, hcd, _, _, _ => by
    rw [seps_end c f i (List.drop_eq_nil_iff.mp hcd)]; rfl
  | g :: rest, i, f, hcd, hok, hi, hf => by
    rw [tailBytes_cons] at hcd
    have hlen := length_of_drop hcd
    rw [List.length_cons] at hlen
    have hsep : rdv c i = tSeparator := rdv_head hcd
    obtain ⟨f0, rfl⟩ : ∃ f0, f = f0 + 1 := ⟨f - 1, by omega⟩
    conv => lhs; unfold seps
    rw [if_pos (by omega), if_pos ⟨hsep, hi⟩, show nextV c i = some (i + 1) by
      rw [nextV_of_tag hsep, nextArmV_Separator]]
    simp only [List.singleton_append, sepPos]
    rw [seps_group tls g false false (i + 1) (tailBytes rest) f0 (drop_app (x := [_]) hcd rfl)
        (hok g List.mem_cons_self) (by omega),
      seps_tail tls rest (i + 1 + (bytesOf g).length) f0 (drop_app (x := _ :: bytesOf g) hcd (by simp; omega))
        (fun x hx => hok x (List.mem_cons_of_mem _ hx)) (by omega) (by omega)]

/-- the pieces between those separators are the groups' bytes -/
theorem pieces_pack {c : Bytes} : ∀ (gs : List (List Setting)) (s : Nat) (g : List Setting),
    c.drop s = bytesOf g ++ tailBytes gs →
    pieces c (sepPos (s + (bytesOf g).length) gs) s = bytesOf g :: gs.map bytesOf
  | [], s, g, hcd => by
    rw [tailBytes_nil, List.append_nil] at hcd
    simp only [sepPos, pieces, List.map_nil, hcd]
  | x :: rest, s, g, hcd => by
    rw [tailBytes_cons] at hcd
    simp only [sepPos, pieces, List.map_cons, hcd, Nat.add_sub_cancel_left, List.take_left]
    rw [pieces_pack rest (s + (bytesOf g).length + 1) x (drop_app (x := [_]) (drop_app hcd rfl) rfl)]

/-- The parts of a packed config are the groups' bytes: the walk passes over the first group, then meets
exactly the separators `AddGroup` wrote. -/
theorem pieces_of_pack (tls : Bytes → Bytes → Bytes → Bool) {c : Bytes} (g : List Setting) (rest : List (List Setting))
    (hpk : c = bytesOf g ++ tailBytes rest) (hok : ∀ x ∈ g :: rest, groupOK tls false false x = true)
    (hg : bytesOf g ≠ []) :
    pieces c (seps c (c.length + 1) 0) 0 = bytesOf g :: rest.map bytesOf := by
  have hd : c.drop 0 = bytesOf g ++ tailBytes rest := hpk
  have hpos := List.length_pos_iff.mpr hg
  rw [seps_group tls g false false 0 (tailBytes rest) (c.length + 1) hd (hok g List.mem_cons_self) (by omega),
    seps_tail tls rest _ _ (drop_app hd rfl) (fun x hx => hok x (List.mem_cons_of_mem _ hx)) (by omega) (by omega),
    pieces_pack rest 0 g hd]

end XMT.Cfg
