/-
  Round trip through any lawful reader (`Lawful`), stated with `Decodes`: the length header of
  `Bytes()` / `ReadStringList` for every tag byte and every value of its length field (the header the
  writers emit is one case), then byte strings, string lists and single values; each decoder returns
  what was written, consumes exactly that, and fails on every strict prefix of it. Last, sequences of
  values (`decAll_ok`, `decAll_prefix_err`).
-/
import XMT.CodecReads
namespace XMT.Codec

/-- Obligations on the constants extracted from the source (`Generated/Facts.lean`); they are
closed by `decide` against the *current* values on every run. -/
structure LimitsOK : Prop where
  small : Facts.limitSmall ≤ 256
  medium : Facts.limitMedium ≤ 65536
  large : Facts.limitLarge ≤ 4294967296
  maxs : Facts.maxSlice < 2^63
  pos : 0 < Facts.limitSmall

theorem limitsOK : LimitsOK := by
  constructor <;> decide

/-- The constants of `data/data.go` are the powers of 256 (regenerated; closed by `decide`). -/
structure LimitsExact : Prop where
  small : Facts.limitSmall = 2^8
  medium : Facts.limitMedium = 2^16
  large : Facts.limitLarge = 2^32

theorem limitsExact : LimitsExact := by
  constructor <;> decide

/-- Number of length bytes the writers use for a length / count `l`. -/
def lenClass (l : Nat) : Nat :=
  if l = 0 then 0
  else if l < Facts.limitSmall then 1
  else if l < Facts.limitMedium then 2
  else if l < Facts.limitLarge then 4
  else 8

/-- The tag byte the writers use. -/
def lenTag (l : Nat) : Nat :=
  if l = 0 then 0
  else if l < Facts.limitSmall then 1
  else if l < Facts.limitMedium then 3
  else if l < Facts.limitLarge then 5
  else 7

/-- `w`-byte big-endian rendering as the Go code writes it (`byte(l >> 8·(w-1)), …, byte(l)`). -/
def beW : Nat → Nat → Bytes
  | 1, l => [byteOf l]
  | 2, l => be16 l
  | 4, l => be32 l
  | 8, l => be64 l
  | _, _ => []

theorem beW_length (w l : Nat) (hw : w = 1 ∨ w = 2 ∨ w = 4 ∨ w = 8) : (beW w l).length = w := by
  rcases hw with rfl | rfl | rfl | rfl <;> rfl

/-- Width of the length field the readers read for a tag byte (`case 1, 2:` … `case 7, 8:`);
`some 0` = tag 0 (empty value, nothing more is read), `none` = `ErrInvalidType`. -/
def widthOfTag (t : UInt8) : Option Nat :=
  if t = 0 then some 0
  else if t = 1 ∨ t = 2 then some 1
  else if t = 3 ∨ t = 4 then some 2
  else if t = 5 ∨ t = 6 then some 4
  else if t = 7 ∨ t = 8 then some 8
  else none

theorem widthOfTag_mem {t : UInt8} {w : Nat} (h : widthOfTag t = some w) (h0 : w ≠ 0) :
    w = 1 ∨ w = 2 ∨ w = 4 ∨ w = 8 := by
  revert h
  fun_cases widthOfTag t <;> intro h <;> simp at h <;> omega

theorem lenPrefix_eq (l : Nat) : lenPrefix l = byteOf (lenTag l) :: beW (lenClass l) l := by
  fun_cases lenPrefix l <;> simp only [lenTag, lenClass, *, if_true, if_false] <;> rfl

theorem widthOfTag_lenTag (l : Nat) : widthOfTag (byteOf (lenTag l)) = some (lenClass l) := by
  fun_cases lenTag l <;> simp only [lenClass, *, if_true, if_false] <;> decide

theorem lenClass_fits (l : Nat) (hl : l < 2^64) : l < 2 ^ (8 * lenClass l) := by
  obtain ⟨_, _, _⟩ := limitsExact
  fun_cases lenClass l <;> omega

section
variable {S : Type} {P : Prim S} {abs : S → Bytes} {inv : S → Prop}

/-- What `decLen` does after a tag byte of width `w`: nothing for `w = 0`, else the read of the
`w`-byte length field. -/
def Prim.lenField (P : Prim S) : Nat → S → Except Err (Option Nat × S)
  | 0, s => pure (none, s)
  | 1, s => do let (n, s) ← P.u8 s; pure (some n.toNat, s)
  | 2, s => do let (n, s) ← P.u16 s; pure (some n, s)
  | 4, s => do let (n, s) ← P.u32 s; pure (some n, s)
  | 8, s => do let (n, s) ← P.u64 s; pure (some n, s)
  | _, _ => throw .invalidType

theorem decLen_eq : decLen P = fun s => P.u8 s >>= fun p => match widthOfTag p.1 with
    | some w => P.lenField w p.2
    | none => .error .invalidType := by
  funext s
  simp only [decLen, widthOfTag, bind, Except.bind]
  cases P.u8 s with
  | error e => rfl
  | ok p =>
    -- the two `if` chains go through the same conditions
    dsimp only
    split; · rfl
    split; · rfl
    split; · rfl
    split; · rfl
    split <;> rfl

theorem Lawful.decodes_lenField (L : Lawful P abs inv) {w : Nat} (hw : w = 1 ∨ w = 2 ∨ w = 4 ∨ w = 8)
    (l : Nat) (hl : l < 2 ^ (8 * w)) : Decodes abs inv (P.lenField w) (beW w l) (some l) := by
  rcases hw with rfl | rfl | rfl | rfl
  · exact (L.decodes_u8 (byteOf l)).mapE.of_eq rfl (congrArg some (byteOf_toNat_of_lt hl).symm)
  · exact (L.decodes_u16 l hl).mapE
  · exact (L.decodes_u32 l hl).mapE
  · exact (L.decodes_u64 l hl).mapE

theorem decLen_zero (L : Lawful P abs inv) : Decodes abs inv (decLen P) [0] none := by
  rw [decLen_eq]
  exact (L.decodes_u8 0).mapE

theorem decLen_w0 (L : Lawful P abs inv) (s : S) (r : Bytes) (hi : inv s) (h : abs s = 0 :: r) :
    ∃ s', decLen P s = .ok (none, s') ∧ abs s' = r ∧ inv s' :=
  (decLen_zero L).reads s r hi h

/-- Any tag of a class is accepted with any value of its length field — also values a narrower
class would hold (non-canonical) and the even tags no writer emits. -/
theorem decLen_tag (L : Lawful P abs inv) (t : UInt8) (w : Nat) (hw : widthOfTag t = some w)
    (hw0 : w ≠ 0) (l : Nat) (hl : l < 2 ^ (8 * w)) :
    Decodes abs inv (decLen P) (t :: beW w l) (some l) := by
  rw [decLen_eq]
  refine (L.decodes_u8 t).bindE ?_
  simp only [hw]
  exact L.decodes_lenField (widthOfTag_mem hw hw0) l hl

theorem decLen_badTag (L : Lawful P abs inv) (t : UInt8) (hw : widthOfTag t = none) (s : S)
    (r : Bytes) (hi : inv s) (h : abs s = t :: r) : decLen P s = .error .invalidType := by
  obtain ⟨s1, e1, _, _⟩ := L.u8_ok s _ _ hi h
  simp only [decLen_eq, e1, Except.ok_bind, hw]

theorem decLen_decodes (L : Lawful P abs inv) (l : Nat) (hl : l < 2^64) :
    Decodes abs inv (decLen P) (lenPrefix l) (if l = 0 then none else some l) := by
  by_cases h0 : l = 0
  · subst h0; exact decLen_zero L
  · have hfit := lenClass_fits l hl
    rw [lenPrefix_eq, if_neg h0]
    refine decLen_tag L _ _ (widthOfTag_lenTag l) (fun hc => h0 ?_) l hfit
    rw [hc] at hfit; omega

theorem decBytes_eq_of_decLen {s s1 : S} {l : Nat} (h : decLen P s = .ok (some l, s1)) :
    decBytes P s = if l = 0 then .error .unexpectedEOF else if l > Facts.maxSlice then .error .tooLarge
      else P.body l s1 := by
  rw [decBytes, h]; rfl

theorem decBytes_of_decLen (L : Lawful P abs inv) {hdr b : Bytes}
    (h : Decodes abs inv (decLen P) hdr (some b.length)) (hb0 : b ≠ [])
    (hb : b.length ≤ Facts.maxSlice) : Decodes abs inv (decBytes P) (hdr ++ b) b :=
  h.bindE <| .ite_neg (mt List.length_eq_zero_iff.mp hb0) <| .ite_neg (Nat.not_lt.mpr hb) <|
    L.decodes_body b

theorem decBytes_decodes (L : Lawful P abs inv) (b : Bytes) (hb : b.length ≤ Facts.maxSlice) :
    Decodes abs inv (decBytes P) (encBytesChunk b) b := by
  have h := decLen_decodes L b.length (by have := limitsOK.maxs; omega)
  by_cases h0 : b = []
  · subst h0; exact h.bindE (Decodes.ret _)
  · rw [if_neg (mt List.length_eq_zero_iff.mp h0)] at h
    exact decBytes_of_decLen L h h0 hb

theorem decBytes_ok (L : Lawful P abs inv) (b : Bytes) (hb : b.length ≤ Facts.maxSlice) :
    Reads abs inv (decBytes P) (encBytesChunk b) b :=
  (decBytes_decodes L b hb).reads

theorem decN_decodes (L : Lawful P abs inv) (l : List Bytes)
    (hl : ∀ b ∈ l, b.length ≤ Facts.maxSlice) :
    Decodes abs inv (decN P l.length) (l.flatMap encBytesChunk) l := by
  induction l with
  | nil => exact Decodes.ret _
  | cons b l ih =>
    exact (decBytes_decodes L b (hl b List.mem_cons_self)).bindE <|
      (ih fun x hx => hl x (List.mem_cons_of_mem _ hx)).mapE

theorem decStrs_of_decLen (L : Lawful P abs inv) {hdr : Bytes} {l : List Bytes}
    (h : Decodes abs inv (decLen P) hdr (some l.length)) (hl63 : l.length < 2^63)
    (hl : ∀ b ∈ l, b.length ≤ Facts.maxSlice) :
    Decodes abs inv (decStrs P) (hdr ++ l.flatMap encBytesChunk) l :=
  h.bindE <| .ite_neg (Nat.not_le.mpr hl63) <| decN_decodes L l hl

theorem decStrs_decodes (L : Lawful P abs inv) (l : List Bytes) (hl : (Val.strs l).WF) :
    Decodes abs inv (decStrs P) (encChunk (.strs l)) l := by
  have h := decLen_decodes L l.length (by have := hl.1; omega)
  by_cases h0 : l = []
  · subst h0; exact h.bindE (Decodes.ret _)
  · rw [if_neg (mt List.length_eq_zero_iff.mp h0)] at h
    exact decStrs_of_decLen L h hl.1 hl.2

theorem decStrs_ok (L : Lawful P abs inv) (l : List Bytes) (hl : (Val.strs l).WF) :
    Reads abs inv (decStrs P) (encChunk (.strs l)) l :=
  (decStrs_decodes L l hl).reads

theorem dec_decodes (L : Lawful P abs inv) (v : Val) (hv : v.WF) :
    Decodes abs inv (dec P v.ty) (encChunk v) v := by
  cases v with
  | bool b => cases b <;> exact (L.decodes_u8 _).mapE
  | u8 n => exact (L.decodes_u8 n).mapE
  | u16 n => exact (L.decodes_u16 n hv).mapE
  | u32 n => exact (L.decodes_u32 n hv).mapE
  | u64 n => exact (L.decodes_u64 n hv).mapE
  | bytes b => exact (decBytes_decodes L b hv).mapE
  | strs l => exact (decStrs_decodes L l hv).mapE

theorem dec_ok (L : Lawful P abs inv) (v : Val) (hv : v.WF) :
    Reads abs inv (dec P v.ty) (encChunk v) v :=
  (dec_decodes L v hv).reads

theorem encChunk_length_pos (v : Val) : 0 < (encChunk v).length := by
  cases v <;> simp [encChunk, encBytesChunk, lenPrefix_eq, be16, be32, be64]

theorem decAll_ok (L : Lawful P abs inv) (vs : List Val) (hv : ∀ v ∈ vs, v.WF) :
    Reads abs inv (decAll P (vs.map Val.ty)) (encAllChunk vs) vs := by
  induction vs with
  | nil => exact Reads.ret _
  | cons v vs ih =>
    intro s r hi h
    rw [encAllChunk_cons, List.append_assoc] at h
    obtain ⟨s1, e1, a1, i1⟩ := dec_ok L v (hv v List.mem_cons_self) s _ hi h
    obtain ⟨s2, e2, a2, i2⟩ := ih (fun x hx => hv x (List.mem_cons_of_mem _ hx)) s1 r i1 a1
    exact ⟨s2, by simp only [List.map_cons, decAll, e1, e2], a2, i2⟩

theorem decAll_prefix_err (L : Lawful P abs inv) (vs : List Val) (hv : ∀ v ∈ vs, v.WF) (s : S)
    (hi : inv s) (hp : abs s <+: encAllChunk vs) (hne : abs s ≠ encAllChunk vs) :
    ∃ e k, decAll P (vs.map Val.ty) s = .error (e, vs.take k) := by
  have hlt := strict_prefix_length hp hne
  clear hne
  induction vs generalizing s with
  | nil => simp [encAllChunk] at hlt
  | cons v vs ih =>
    rw [encAllChunk_cons] at hp hlt
    rcases strict_prefix_append hp hlt with ⟨h1, h2⟩ | ⟨p', h1, h2, h3⟩
    · obtain ⟨e, he⟩ := (dec_decodes L v (hv v List.mem_cons_self)).fails s hi h1 h2
      exact ⟨e, 0, by simp only [List.map_cons, decAll, he, List.take_zero]⟩
    · obtain ⟨s1, e1, a1, i1⟩ := dec_ok L v (hv v List.mem_cons_self) s p' hi h1
      obtain ⟨e, k, he⟩ := ih (fun x hx => hv x (List.mem_cons_of_mem _ hx)) s1 i1
        (a1 ▸ h2) (a1 ▸ h3)
      exact ⟨e, k + 1, by simp only [List.map_cons, decAll, e1, he, List.take_succ_cons]⟩

end
end XMT.Codec
