/-
  XMT.ProtoLemmas — counting lemmas, the transitions of the C05 protocol machine as a relation, and
  its inductive invariant: every issued number has one token (a packet in the pipeline or the
  completion record), packets on the way to the client are logged tasks, packets on the way back are
  own results.  At the end the global state: what a session property that `stepS?` keeps gives for
  whole traces (`run?_invariant`), and the invariant after every trace from `init` (`inv_of_run`).
-/
import XMT.Proto
namespace XMT.Proto

/-- number of packets in `l` that carry job number `j` -/
def cntJ (j : JobId) (l : List Pkt) : Nat := l.countP (Pkt.isJ j)

@[simp] theorem cntJ_nil (j : JobId) : cntJ j [] = 0 := rfl
@[simp] theorem cntJ_append (j : JobId) (a b : List Pkt) : cntJ j (a ++ b) = cntJ j a + cntJ j b :=
  List.countP_append
@[simp] theorem cntJ_cons (j : JobId) (p : Pkt) (a : List Pkt) :
    cntJ j (p :: a) = cntJ j a + (p.isJ j).toNat := by
  rw [cntJ, List.countP_cons]; cases p.isJ j <;> rfl

/-- `List.count_cons` in the form of `cntJ_cons` -/
theorem count_cons_toNat (i j : JobId) (l : List JobId) : (j :: l).count i = l.count i + (j == i).toNat := by
  rw [List.count_cons]; cases j == i <;> rfl

theorem isJ_task (k j p i) : (Pkt.task k j p).isJ i = (j == i) := rfl
theorem isJ_result (j r i) : (Pkt.result j r).isJ i = (j == i) := rfl

theorem cntJ_perm {a b : List Pkt} (h : a.Perm b) (j : JobId) : cntJ j a = cntJ j b :=
  h.countP_eq _

theorem cntJ_erase (j : JobId) {p : Pkt} {a : List Pkt} (h : p ∈ a) :
    cntJ j (a.erase p) + (p.isJ j).toNat = cntJ j a :=
  (cntJ_cons j p _).symm.trans (cntJ_perm (List.perm_cons_erase h) j).symm

/-- `List.count_erase` in the form of `cntJ_erase` -/
theorem count_erase_toNat {i j : JobId} {l : List JobId} (h : j ∈ l) :
    (l.erase j).count i + (j == i).toNat = l.count i :=
  (count_cons_toNat i j _).symm.trans ((List.perm_cons_erase h).count_eq i).symm

theorem cntJ_pos_iff {j : JobId} {a : List Pkt} : 0 < cntJ j a ↔ ∃ p ∈ a, p.isJ j = true :=
  List.countP_pos_iff

theorem cntJ_eq_zero_of_not_mem {j : JobId} {a : List Pkt} (h : ∀ p ∈ a, p.isJ j = false) : cntJ j a = 0 :=
  List.countP_eq_zero.mpr fun p hp => by simp [h p hp]

theorem cntJ_filter_tracked (j : JobId) (ps : List Pkt) : cntJ j (ps.filter Pkt.tracked) = cntJ j ps := by
  induction ps with
  | nil => rfl
  | cons p ps ih => cases p <;> simp [List.filter_cons, Pkt.tracked, Pkt.isJ, ih]

theorem cntJ_all (j : JobId) (s : Sess) : cntJ j s.all = cntJ j s.sq + cntJ j s.s2c + cntJ j s.cmux + cntJ j s.run +
    cntJ j s.cq + cntJ j s.c2s + cntJ j s.smux + cntJ j s.dropped := by
  simp only [Sess.all, cntJ_append]

theorem cntJ_down (j : JobId) (s : Sess) :
    cntJ j s.down = cntJ j s.run + cntJ j s.cq + cntJ j s.c2s + cntJ j s.smux + cntJ j s.dropped := by
  simp only [Sess.down, cntJ_append]

theorem Sess.mem_all {s : Sess} {p : Pkt} : p ∈ s.all ↔
    ((((((p ∈ s.sq ∨ p ∈ s.s2c) ∨ p ∈ s.cmux) ∨ p ∈ s.run) ∨ p ∈ s.cq) ∨ p ∈ s.c2s) ∨ p ∈ s.smux) ∨ p ∈ s.dropped := by
  simp only [Sess.all, List.mem_append]

theorem takeAll_perm : ∀ {ps xs xs' : List Pkt}, takeAll xs ps = some xs' → xs.Perm (ps ++ xs')
  | [], _, _, h => by cases h; exact .refl _
  | p :: ps, xs, xs', h => by
    simp only [takeAll] at h
    split at h
    · rename_i hp
      exact (List.perm_cons_erase hp).trans ((takeAll_perm h).cons p)
    · cases h

theorem takeAll_singleton {xs : List Pkt} {p : Pkt} (h : p ∈ xs) : takeAll xs [p] = some (xs.erase p) := by
  rw [takeAll, if_pos h, takeAll]

variable {f : Kind → Nat → JobId → Payload → Res} {c : Nat}

/-- A relation that contains the accepted transitions of `stepS?` (`Step.of_stepS?`), one constructor
    per outcome; it is larger where a guard is of no use to the invariant (no capacity test in `drop`, no
    re-key test in `snext`).  The outcomes that leave the job pipeline alone (a refused Task, a discarded
    control packet, key and channel bookkeeping, Wake) share `idle`, which lets the key fields change
    freely. -/
inductive Step (f : Kind → Nat → JobId → Payload → Res) (c : Nat) (s : Sess) : Sess → Prop
  | idle (kn : Bool) (ck sk : Nat) : Step f c s { s with keysNext := kn, ck := ck, sk := sk }
  | task (k j p) (h : minJob ≤ j ∧ j ∉ s.used ∧ s.sq.length + fullSlack < queueCap) :
    Step f c s { s with sq := s.sq ++ [.task k j p], jobs := j :: s.jobs, used := j :: s.used,
                        pay := (j, k, p) :: s.pay }
  | snext (ps sq') (h : takeAll s.sq ps = some sq') :
    Step f c s { s with sq := sq', s2c := s.s2c ++ ps.filter Pkt.tracked }
  | crecv (k j p) (h : .task k j p ∈ s.s2c) :
    Step f c s { s with s2c := s.s2c.erase (.task k j p), cmux := s.cmux ++ [.task k j p] }
  | exec (k j p) (h : .task k j p ∈ s.cmux) :
    Step f c s { s with cmux := s.cmux.erase (.task k j p), run := s.run ++ [.task k j p], execd := j :: s.execd }
  | drop (k i p j r) (h : s.run.find? (Pkt.isJ j) = some (.task k i p)) (hr : r = f k c j p ∧ i = j) :
    Step f c s { s with run := s.run.erase (.task k i p), dropped := s.dropped ++ [.result j r] }
  | result (k i p j r) (h : s.run.find? (Pkt.isJ j) = some (.task k i p)) (hr : r = f k c j p ∧ i = j) :
    Step f c s { s with run := s.run.erase (.task k i p), cq := s.cq ++ [.result j r] }
  | rekey : Step f c s { s with c2s := s.c2s ++ [.rekey], keysNext := true }
  | cnext (ps cq') (h : takeAll s.cq ps = some cq') :
    Step f c s { s with cq := cq', c2s := s.c2s ++ ps.filter Pkt.tracked }
  | srecv (j r) (h : .result j r ∈ s.c2s) :
    Step f c s { s with c2s := s.c2s.erase (.result j r), smux := s.smux ++ [.result j r] }
  | srekey (h : .rekey ∈ s.c2s) : Step f c s { s with c2s := s.c2s.erase .rekey }
  | handle (j r) (h : .result j r ∈ s.smux) (hj : j ∈ s.jobs) :
    Step f c s { s with smux := s.smux.erase (.result j r), jobs := s.jobs.erase j,
                        completed := (j, r) :: s.completed }
  | stray (j r) (h : .result j r ∈ s.smux) (hj : j ∉ s.jobs) :
    Step f c s { s with smux := s.smux.erase (.result j r), untracked := s.untracked + 1 }
  | sctrl : Step f c s { s with sq := s.sq ++ [.ctrl] }
  | cctrl : Step f c s { s with cq := s.cq ++ [.ctrl] }

variable {s s' : Sess}

theorem Step.of_stepS? {e : SEv} (hs : stepS? f c s e = some s') : Step f c s s' := by
  revert hs
  -- one goal per leaf of `stepS?`; `cases hs` closes the leaves that are `none` and leaves the
  -- 22 accepted outcomes, in the order of the definition
  fun_cases stepS? f c s e
  all_goals intro hs; cases hs
  · exact .task _ _ _ ‹_›
  · exact .idle _ _ _  -- taskFull
  · exact .snext _ _ ‹_›
  · exact .crecv _ _ _ ‹_›
  · exact .exec _ _ _ ‹_›
  · exact .drop _ _ _ _ _ ‹_› ‹_›
  · exact .result _ _ _ _ _ ‹_› ‹_›
  · exact .rekey
  · exact .cnext _ _ ‹_›
  · exact .srecv _ _ ‹_›
  · exact .srekey ‹_›
  · exact .handle _ _ ‹_› ‹_›
  · exact .stray _ _ ‹_› ‹_›
  · exact .idle _ _ _  -- regen
  · exact .idle _ _ _  -- sync
  · exact .idle _ _ _  -- revert
  · exact .idle _ _ _  -- sctrl, discarded
  · exact .sctrl
  · exact .idle _ _ _  -- cctrl, discarded
  · exact .cctrl
  · exact .idle _ _ _  -- setChan
  · exact .idle _ _ _  -- wake

def Sess.compJ (s : Sess) : List JobId := s.completed.map (·.1)

theorem Sess.mem_compJ {j : JobId} {r : Res} (h : (j, r) ∈ s.completed) : j ∈ s.compJ :=
  List.mem_map.mpr ⟨(j, r), h, rfl⟩

/-- the places before the client's reply -/
def Sess.out (s : Sess) : List Pkt := s.sq ++ s.s2c ++ s.cmux ++ s.run
/-- the places behind the client's reply -/
def Sess.back (s : Sess) : List Pkt := s.cq ++ s.c2s ++ s.smux ++ s.dropped

/-- the bookkeeping fields other than `execd` -/
def Sess.logs (s : Sess) := (s.jobs, s.used, s.pay, s.completed, s.untracked)

/-- what may travel towards the client: a task the log of issued tasks knows, or a control packet -/
def goodOut (pay : List (JobId × Kind × Payload)) : Pkt → Prop
  | .task k j q => (j, k, q) ∈ pay
  | .ctrl => True
  | _ => False

/-- what may travel back: the own result of a logged task, a control or a re-key packet -/
def goodBack (f : Kind → Nat → JobId → Payload → Res) (c : Nat) (pay : List (JobId × Kind × Payload)) : Pkt → Prop
  | .result j r => ∃ k q, (j, k, q) ∈ pay ∧ r = f k c j q
  | .task .. => False
  | _ => True

theorem goodOut.mono {pay pay' : List (JobId × Kind × Payload)} (h : ∀ x ∈ pay, x ∈ pay') :
    ∀ {p : Pkt}, goodOut pay p → goodOut pay' p
  | .task .., hp => h _ hp
  | .result .., hp | .rekey, hp | .ctrl, hp => hp

theorem goodBack.mono {pay pay' : List (JobId × Kind × Payload)} (h : ∀ x ∈ pay, x ∈ pay') :
    ∀ {p : Pkt}, goodBack f c pay p → goodBack f c pay' p
  | .result .., ⟨k, q, h1, h2⟩ => ⟨k, q, h _ h1, h2⟩
  | .task .., hp | .rekey, hp | .ctrl, hp => hp

theorem goodOut.task {pay : List (JobId × Kind × Payload)} {p : Pkt} {j : JobId} (h : goodOut pay p)
    (hj : p.isJ j = true) : ∃ k q, p = .task k j q := by
  cases p with
  | task k i q => cases eq_of_beq hj; exact ⟨k, q, rfl⟩
  | _ => cases h <;> cases hj

theorem goodBack.result {pay : List (JobId × Kind × Payload)} {p : Pkt} {j : JobId} (h : goodBack f c pay p)
    (hj : p.isJ j = true) : ∃ r, p = .result j r := by
  cases p with
  | result i r => cases eq_of_beq hj; exact ⟨r, rfl⟩
  | _ => cases h <;> cases hj

/-- The invariant of one session.  `token`: an issued number is carried by exactly one packet or
    completion record, an unissued one by none; `execd`: dispatched = behind the dispatch or completed;
    `jobs`: the Job table holds exactly the numbers of the packets in the pipeline (so `Step.stray`, a
    result that finds no Job, cannot happen: `untr`); `out`, `back`, `compl`: what the packets before and behind the
    client's reply and the completion records are (`goodOut`, `goodBack`); `pay`: the log of Task calls
    has one entry per number, and only for issued numbers. -/
structure Inv (f : Kind → Nat → JobId → Payload → Res) (c : Nat) (s : Sess) : Prop where
  token : ∀ j, cntJ j s.all + s.compJ.count j = if j ∈ s.used then 1 else 0
  execd : ∀ j, s.execd.count j = cntJ j s.down + s.compJ.count j
  jobs : ∀ j, s.jobs.count j = cntJ j s.all
  out : ∀ p ∈ s.out, goodOut s.pay p
  back : ∀ p ∈ s.back, goodBack f c s.pay p
  compl : ∀ j r, (j, r) ∈ s.completed → goodBack f c s.pay (.result j r)
  pay : ∀ j k q, (j, k, q) ∈ s.pay → j ∈ s.used ∧ ∀ k' q', (j, k', q') ∈ s.pay → k' = k ∧ q' = q
  untr : s.untracked = 0

theorem Inv.mem_jobs (h : Inv f c s) {p : Pkt} {j : JobId} (hp : p ∈ s.all) (hj : p.isJ j = true) : j ∈ s.jobs :=
  List.count_pos_iff.mp (h.jobs j ▸ cntJ_pos_iff.mpr ⟨p, hp, hj⟩)

theorem Inv.mem_jobs_of_mem_smux (h : Inv f c s) {j : JobId} {r : Res} (hp : .result j r ∈ s.smux) : j ∈ s.jobs :=
  h.mem_jobs (Sess.mem_all.mpr (.inl (.inr hp))) (beq_self_eq_true j)

theorem Inv.token_le_one (h : Inv f c s) (j : JobId) : cntJ j s.all + s.compJ.count j ≤ 1 := by
  rw [h.token j]
  split <;> decide

theorem Inv.execd_le_one (h : Inv f c s) (j : JobId) : s.execd.count j ≤ 1 := by
  have h1 := h.execd j
  have h2 := h.token_le_one j
  rw [cntJ_down] at h1
  rw [cntJ_all] at h2
  omega

theorem Inv.compJ_le_one (h : Inv f c s) (j : JobId) : s.compJ.count j ≤ 1 :=
  Nat.le_trans (Nat.le_add_left _ _) (h.token_le_one j)

theorem Inv.mem_execd (h : Inv f c s) {j : JobId} {r : Res} (hc : (j, r) ∈ s.completed) : j ∈ s.execd := by
  have h1 := h.execd j
  have := List.count_pos_iff.mpr (Sess.mem_compJ hc)
  exact List.count_pos_iff.mp (by omega)

theorem Inv.own_result (h : Inv f c s) {j : JobId} {r : Res} (hc : (j, r) ∈ s.completed) :
    ∃ k p, (j, k, p) ∈ s.pay ∧ r = f k c j p ∧ ∀ k' p', (j, k', p') ∈ s.pay → k' = k ∧ p' = p := by
  obtain ⟨k, p, h1, h2⟩ := h.compl j r hc
  exact ⟨k, p, h1, h2, (h.pay j k p h1).2⟩

theorem inv_init : Inv f c {} := by
  constructor <;> simp [Sess.all, Sess.down, Sess.compJ, Sess.out, Sess.back]

/-! A property of all packets of `out` or `back` is a property of the packets of each of the four
    places; it survives taking a packet out of a place, putting one in that has it, and cutting a
    batch off a queue. -/

theorem Sess.forall_mem_out {P : Pkt → Prop} : (∀ p ∈ s.out, P p) ↔
    (∀ p ∈ s.sq, P p) ∧ (∀ p ∈ s.s2c, P p) ∧ (∀ p ∈ s.cmux, P p) ∧ ∀ p ∈ s.run, P p := by
  simp only [Sess.out, List.forall_mem_append, and_assoc]

theorem Sess.forall_mem_back {P : Pkt → Prop} : (∀ p ∈ s.back, P p) ↔
    (∀ p ∈ s.cq, P p) ∧ (∀ p ∈ s.c2s, P p) ∧ (∀ p ∈ s.smux, P p) ∧ ∀ p ∈ s.dropped, P p := by
  simp only [Sess.back, List.forall_mem_append, and_assoc]

section
variable {P : Pkt → Prop} {l ps l' : List Pkt} {b : Pkt}

theorem forall_mem_erase (h : ∀ p ∈ l, P p) : ∀ p ∈ l.erase b, P p :=
  fun p hp => h p (List.mem_of_mem_erase hp)

theorem forall_mem_takeAll (ht : takeAll l ps = some l') (h : ∀ p ∈ l, P p) :
    (∀ p ∈ ps, P p) ∧ ∀ p ∈ l', P p :=
  List.forall_mem_append.mp fun p hp => h p ((takeAll_perm ht).mem_iff.mpr hp)

/-- the batch `ps`, less its control packets, arrives in `l` -/
theorem forall_mem_arrive (h : ∀ p ∈ l, P p) (hps : ∀ p ∈ ps, P p) :
    ∀ p ∈ l ++ ps.filter Pkt.tracked, P p :=
  List.forall_mem_append.mpr ⟨h, fun p hp => hps p (List.mem_filter.mp hp).1⟩

end

/-- Packets moved between places without changing job numbers (a dispatch is logged in `execd` as the
    packet enters `down`), and those in the new places are good: the invariant is kept. -/
theorem Inv.move (h : Inv f c s) (hlog : s'.logs = s.logs)
    (hcnt : ∀ j, cntJ j s'.all = cntJ j s.all ∧
      s'.execd.count j + cntJ j s.down = s.execd.count j + cntJ j s'.down)
    (hout : ∀ p ∈ s'.out, goodOut s.pay p) (hback : ∀ p ∈ s'.back, goodBack f c s.pay p) :
    Inv f c s' := by
  simp only [Sess.logs, Prod.mk.injEq] at hlog
  obtain ⟨hjobs, hused, hpay, hcomp, hun⟩ := hlog
  have hcj : s'.compJ = s.compJ := by rw [Sess.compJ, hcomp, Sess.compJ]
  exact {
    token := fun j => by rw [(hcnt j).1, hcj, hused]; exact h.token j
    execd := fun j => by have := h.execd j; have := (hcnt j).2; rw [hcj]; omega
    jobs := fun j => by rw [hjobs, (hcnt j).1]; exact h.jobs j
    out := hpay ▸ hout
    back := hpay ▸ hback
    compl := hpay ▸ hcomp ▸ h.compl
    pay := hpay ▸ hused ▸ h.pay
    untr := hun ▸ h.untr }

theorem Inv.step (h : Inv f c s) (hs : Step f c s s') : Inv f c s' := by
  obtain ⟨hsq, hs2c, hcmux, hrun⟩ := Sess.forall_mem_out.mp h.out
  obtain ⟨hcq, hc2s, hsmux, hdropped⟩ := Sess.forall_mem_back.mp h.back
  cases hs with
  | idle kn ck sk => exact h.move rfl (fun _ => ⟨rfl, rfl⟩) h.out h.back
  | task k j p hg =>
    have hj := hg.2.1
    have hused : ∀ i, (if i ∈ j :: s.used then 1 else 0) = (if i ∈ s.used then 1 else 0) + (j == i).toNat := by
      intro i
      by_cases hij : j = i
      · subst hij; simp [hj]
      · simp [Ne.symm hij, beq_eq_false_iff_ne.mpr hij]
    have hpay : ∀ x ∈ s.pay, x ∈ (j, k, p) :: s.pay := fun _ => List.mem_cons_of_mem _
    have hfresh : ∀ {k' q'}, (j, k', q') ∉ s.pay := fun h' => hj (h.pay _ _ _ h').1
    exact {
      token := fun i => by
        rw [hused, ← h.token i]
        simp only [cntJ_all, Sess.compJ, cntJ_append, cntJ_cons, cntJ_nil, Pkt.isJ]
        omega
      execd := h.execd
      jobs := fun i => by
        rw [count_cons_toNat, h.jobs i]
        simp only [cntJ_all, cntJ_append, cntJ_cons, cntJ_nil, Pkt.isJ]
        omega
      out := by
        obtain ⟨hsq, hrest⟩ := Sess.forall_mem_out.mp fun q hq => (h.out q hq).mono hpay
        exact Sess.forall_mem_out.mpr ⟨forall_mem_snoc hsq List.mem_cons_self, hrest⟩
      back := fun q hq => (h.back q hq).mono hpay
      compl := fun i r hr => (h.compl i r hr).mono hpay
      pay := fun i k1 q1 h1 => by
        rcases List.mem_cons.mp h1 with e | h1
        · cases e
          exact ⟨List.mem_cons_self, fun k' q' h' =>
            (List.mem_cons.mp h').elim (fun e => by cases e; exact ⟨rfl, rfl⟩) (absurd · hfresh)⟩
        · obtain ⟨hu, hf⟩ := h.pay i k1 q1 h1
          exact ⟨List.mem_cons_of_mem _ hu, fun k' q' h' =>
            (List.mem_cons.mp h').elim (fun e => by cases e; exact absurd hu hj) (hf k' q')⟩
      untr := h.untr }
  | snext ps sq' ht =>
    have hb := forall_mem_takeAll ht hsq
    refine h.move rfl (fun j => ?_)
      (Sess.forall_mem_out.mpr ⟨hb.2, forall_mem_arrive hs2c hb.1, hcmux, hrun⟩) h.back
    have := cntJ_perm (takeAll_perm ht) j
    simp only [cntJ_all, cntJ_down, cntJ_append, cntJ_filter_tracked, and_true] at this ⊢
    omega
  | cnext ps cq' ht =>
    have hb := forall_mem_takeAll ht hcq
    refine h.move rfl (fun j => ?_) h.out
      (Sess.forall_mem_back.mpr ⟨hb.2, forall_mem_arrive hc2s hb.1, hsmux, hdropped⟩)
    have := cntJ_perm (takeAll_perm ht) j
    simp only [cntJ_all, cntJ_down, cntJ_append, cntJ_filter_tracked] at this ⊢
    omega
  | crecv _ _ _ hp =>
    refine h.move rfl (fun i => ?_)
      (Sess.forall_mem_out.mpr ⟨hsq, forall_mem_erase hs2c, forall_mem_snoc hcmux (hs2c _ hp), hrun⟩) h.back
    have := cntJ_erase i hp
    simp only [cntJ_all, cntJ_down, cntJ_append, cntJ_cons, cntJ_nil, and_true] at this ⊢
    omega
  | exec _ _ _ hp =>
    refine h.move rfl (fun i => ?_)
      (Sess.forall_mem_out.mpr ⟨hsq, hs2c, forall_mem_erase hcmux, forall_mem_snoc hrun (hcmux _ hp)⟩) h.back
    have := cntJ_erase i hp
    simp only [cntJ_all, cntJ_down, cntJ_append, cntJ_cons, cntJ_nil, count_cons_toNat, Pkt.isJ] at this ⊢
    omega
  | srecv _ _ hp =>
    refine h.move rfl (fun i => ?_) h.out
      (Sess.forall_mem_back.mpr ⟨hcq, forall_mem_erase hc2s, forall_mem_snoc hsmux (hc2s _ hp), hdropped⟩)
    have := cntJ_erase i hp
    simp only [cntJ_all, cntJ_down, cntJ_append, cntJ_cons, cntJ_nil] at this ⊢
    omega
  | srekey hp =>
    refine h.move rfl (fun i => ?_) h.out
      (Sess.forall_mem_back.mpr ⟨hcq, forall_mem_erase hc2s, hsmux, hdropped⟩)
    have := cntJ_erase i hp
    simp only [cntJ_all, cntJ_down, Pkt.isJ, Bool.toNat_false] at this ⊢
    omega
  | drop k i p j r hf hr =>
    have hp := List.mem_of_find?_eq_some hf
    obtain ⟨rfl, rfl⟩ := hr
    refine h.move rfl (fun l => ?_) (Sess.forall_mem_out.mpr ⟨hsq, hs2c, hcmux, forall_mem_erase hrun⟩)
      (Sess.forall_mem_back.mpr ⟨hcq, hc2s, hsmux, forall_mem_snoc hdropped ⟨k, p, hrun _ hp, rfl⟩⟩)
    have := cntJ_erase l hp
    simp only [cntJ_all, cntJ_down, cntJ_append, cntJ_cons, cntJ_nil, Pkt.isJ] at this ⊢
    omega
  | result k i p j r hf hr =>
    have hp := List.mem_of_find?_eq_some hf
    obtain ⟨rfl, rfl⟩ := hr
    refine h.move rfl (fun l => ?_) (Sess.forall_mem_out.mpr ⟨hsq, hs2c, hcmux, forall_mem_erase hrun⟩)
      (Sess.forall_mem_back.mpr ⟨forall_mem_snoc hcq ⟨k, p, hrun _ hp, rfl⟩, hc2s, hsmux, hdropped⟩)
    have := cntJ_erase l hp
    simp only [cntJ_all, cntJ_down, cntJ_append, cntJ_cons, cntJ_nil, Pkt.isJ] at this ⊢
    omega
  | rekey =>
    refine h.move rfl (fun l => ?_) h.out
      (Sess.forall_mem_back.mpr ⟨hcq, forall_mem_snoc hc2s trivial, hsmux, hdropped⟩)
    simp only [cntJ_all, cntJ_down, cntJ_append, cntJ_cons, cntJ_nil, Pkt.isJ, Bool.toNat_false, Nat.add_zero,
      and_self]
  | sctrl =>
    refine h.move rfl (fun l => ?_)
      (Sess.forall_mem_out.mpr ⟨forall_mem_snoc hsq trivial, hs2c, hcmux, hrun⟩) h.back
    simp only [cntJ_all, cntJ_down, cntJ_append, cntJ_cons, cntJ_nil, Pkt.isJ, Bool.toNat_false, Nat.add_zero,
      and_self]
  | cctrl =>
    refine h.move rfl (fun l => ?_) h.out
      (Sess.forall_mem_back.mpr ⟨forall_mem_snoc hcq trivial, hc2s, hsmux, hdropped⟩)
    simp only [cntJ_all, cntJ_down, cntJ_append, cntJ_cons, cntJ_nil, Pkt.isJ, Bool.toNat_false, Nat.add_zero,
      and_self]
  | handle j r hp hj =>
    have her : ∀ l, cntJ l (s.smux.erase (.result j r)) + (j == l).toNat = cntJ l s.smux :=
      fun l => cntJ_erase l hp
    exact {
      token := fun l => by
        have h1 := her l
        have h2 := h.token l
        simp only [cntJ_all, Sess.compJ, List.map_cons, count_cons_toNat] at h2 ⊢
        omega
      execd := fun l => by
        have h1 := her l
        have h2 := h.execd l
        simp only [cntJ_down, Sess.compJ, List.map_cons, count_cons_toNat] at h2 ⊢
        omega
      jobs := fun l => by
        have h1 := her l
        have h2 := h.jobs l
        have h3 := count_erase_toNat (i := l) hj
        simp only [cntJ_all] at h2 ⊢
        omega
      out := h.out
      back := Sess.forall_mem_back.mpr ⟨hcq, hc2s, forall_mem_erase hsmux, hdropped⟩
      compl := fun i r' hr => by
        rcases List.mem_cons.mp hr with e | hr
        · cases e
          exact hsmux _ hp
        · exact h.compl i r' hr
      pay := h.pay
      untr := h.untr }
  | stray j r hp hj =>
    exact absurd (h.mem_jobs_of_mem_smux hp) hj

theorem step?_eq_some {st st' : State} {ev : Ev} (hs : step? f st ev = some st') :
    ∃ s s', st[ev.c]? = some s ∧ stepS? f ev.c s ev.e = some s' ∧ st' = st.set ev.c s' := by
  unfold step? at hs
  split at hs
  · cases hs
  · split at hs
    · cases hs
    · cases hs; exact ⟨_, _, ‹_›, ‹_›, rfl⟩

theorem run?_cons_eq_some {st st' : State} {ev : Ev} {evs : List Ev} :
    run? f st (ev :: evs) = some st' ↔ ∃ st1, step? f st ev = some st1 ∧ run? f st1 evs = some st' := by
  rw [run?]
  cases step? f st ev with
  | none => exact ⟨nofun, nofun⟩
  | some st1 => exact ⟨fun h => ⟨st1, rfl, h⟩, fun ⟨_, h1, h⟩ => Option.some.inj h1 ▸ h⟩

theorem run?_invariant {P : Nat → Sess → Prop} (hstep : ∀ {c s e s'}, P c s → stepS? f c s e = some s' → P c s') :
    ∀ {tr : List Ev} {st st' : State}, (∀ c s, st[c]? = some s → P c s) → run? f st tr = some st' →
      ∀ c s, st'[c]? = some s → P c s
  | [], _, _, h, hr => by cases hr; exact h
  | ev :: evs, st, st', h, hr => by
    obtain ⟨st1, hs, hr⟩ := run?_cons_eq_some.mp hr
    obtain ⟨s, s', hsc, hss, rfl⟩ := step?_eq_some hs
    refine run?_invariant hstep (fun c t ht => ?_) hr
    by_cases hc : ev.c = c
    · subst hc
      rw [List.getElem?_set_self (List.getElem?_eq_some_iff.mp hsc).1] at ht
      cases ht
      exact hstep (h _ _ hsc) hss
    · rw [List.getElem?_set_ne hc] at ht
      exact h c t ht

theorem inv_of_run {n : Nat} {tr : List Ev} {st : State} (h : run? f (init n) tr = some st) {c : Nat} {s : Sess}
    (hs : st[c]? = some s) : Inv f c s := by
  refine run?_invariant (fun h hs => h.step (.of_stepS? hs)) (fun c s hs => ?_) h c s hs
  rw [init, List.getElem?_replicate] at hs
  split at hs <;> cases hs
  exact inv_init

end XMT.Proto
