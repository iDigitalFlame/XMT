/-
  XMT.ChunkPanicGrow — panic outcome for the RESERVATION code of data/chunk.go: `reslice`, `grow`
  (rewind `c.buf[:0]`, slide `copy(c.buf, c.buf[c.rpos:])` + `c.buf[:x+n]`, reallocation
  `trySlice(c.buf[c.rpos:], …)`, `x[:len(b)]`, `c.buf[:x+n]`, `make([]byte, n, 64)`), `quickSlice` and
  `checkWriteSize` (chunk_writer.go), and for `WriteBytes`, which reserves twice and indexes the header
  (`writeBytesP`).  Every reslice of the source is a `guardP` with Go's bound
  (`j ≤ cap` for `s[:j]`, `i ≤ len` for `s[i:]`); `x` is Go's signed `len(c.buf) - c.rpos`.

  `growP_ok` … `checkWriteSizeP_ok`, `writeBytesP_ok`: from a state satisfying `Inv` none of them panics
  and the result is the one of the total model — so `stepP` (XMT/ChunkPanic.lean), which reserves through
  the total `quickSlice` / `grow` / `checkWriteSize` and runs the total `writeBytes`, loses nothing by
  doing so.
-/
import XMT.ChunkPanic
namespace XMT.Chunk
namespace Chunk

/-- `reslice(n)`: `c.buf = c.buf[:l+n]` -/
def resliceP (c : Chunk) (n : Nat) : PRes (Option (Chunk × Nat)) :=
  if (n : Int) ≤ (c.cap : Int) - c.len then
    if c.limit > 0 then
      if (c.len : Int) ≥ c.limit then pure none
      else
        let n' : Nat := if (c.len : Int) + n ≥ c.limit then (c.limit - c.len).toNat else n
        do
          guardP (toOK c ((c.len : Int) + n')) "reslice: c.buf[:l+n]"
          pure (some ({ c with len := c.len + n' }, c.len))
    else do
      guardP (toOK c ((c.len : Int) + n)) "reslice: c.buf[:l+n]"
      pure (some ({ c with len := c.len + n }, c.len))
  else pure none

/-- `if x == 0 && c.rpos != 0 { c.rpos, c.buf = 0, c.buf[:0] }` with Go's signed `x` -/
def growPreP (c : Chunk) : PRes Chunk :=
  if (c.len : Int) - c.rpos = 0 ∧ c.rpos ≠ 0 then do
    guardP (toOK c 0) "grow: c.buf[:0]"
    pure { c with rpos := 0, len := 0 }
  else pure c

section
variable (cf : Nat → Nat)

/-- the allocation part of `grow` -/
def growAllocP (c : Chunk) (x n : Nat) : PRes (Chunk × Except Err Nat) :=
  if c.isNil ∧ n ≤ 64 then
    -- `make([]byte, n, 64)` (would panic with len > cap: excluded by the test itself)
    pure ({ c with arr := zeros 64, len := n, isNil := false }, .ok 0)
  else
    let m := c.cap
    if (n : Int) ≤ ((m / 2 : Nat) : Int) - x then do
      guardP (fromOK c c.rpos) "grow: copy(c.buf, c.buf[c.rpos:])"
      guardP (toOK c ((x + n : Nat) : Int)) "grow: c.buf[:x+n] after the slide"
      pure ({ c with arr := c.unread ++ c.arr.drop x, rpos := 0, len := x + n }, .ok x)
    else if c.limit > 0 ∧ ((m : Int) > c.limit + n ∨ ((x + n : Nat) : Int) > c.limit) then pure (c, .error .limit)
    else if (m : Int) > (maxInt : Int) - m - n then pure (c, .error .tooLarge)
    else if c.rpos + n > Facts.maxSlice then pure (c, .error .tooLarge)
    else
      let need := max (x + (c.rpos + n)) (2 * (m - c.rpos))
      let capNew := max (cf need) need
      do
        guardP (fromOK c c.rpos) "grow: trySlice(c.buf[c.rpos:], …)"
        guardP (x ≤ capNew) "trySlice: x[:len(b)]"
        guardP (x + n ≤ capNew) "grow: c.buf[:x+n] of the new buffer"
        pure ({ c with arr := c.unread ++ zeros (capNew - x), rpos := 0, len := x + n, isNil := false }, .ok x)

/-- `grow(n)` -/
def growP (c : Chunk) (n : Nat) : PRes (Chunk × Except Err Nat) := do
  let c ← growPreP c
  let x := c.len - c.rpos
  if c.limit > 0 ∧ (x : Int) ≥ c.limit then pure (c, .error .limit) else
  let n := growN c x n
  match ← resliceP c n with
  | some (c', i) => pure (c', .ok i)
  | none => growAllocP cf c x n

/-- `quickSlice(n)` -/
def quickSliceP (c : Chunk) (n : Nat) : PRes (Chunk × Except Err Nat) := do
  match ← resliceP c n with
  | some (c', i) => pure (c', .ok i)
  | none => growP cf c n

/-- `checkWriteSize(n)` -/
def checkWriteSizeP (c : Chunk) (n : Nat) : PRes (Chunk × Except Err Nat) :=
  if c.limit > 0 ∧ ¬ c.available n then pure (c, .error .limit)
  else do
    match ← quickSliceP cf c n with
    | (c, .error e) => pure (c, .error e)
    | (c, .ok i) => if c.limit ≤ 0 ∧ c.len < i + n then pure (c, .error .shortWrite) else pure (c, .ok i)

end

/-- the reslice of `reslice` is in range by its own capacity test — in every state -/
theorem resliceP_ok (c : Chunk) (n : Nat) : resliceP c n = .ok (reslice c n) := by
  unfold resliceP reslice
  refine ite_ok (fun _ => ite_ok (fun _ => ite_ok (fun _ => rfl) fun _ => ?_) fun _ => ?_) fun _ => rfl
  · dsimp only
    rw [guardP_pos (by split <;> constructor <;> omega)]
    rfl
  · rw [guardP_pos (by constructor <;> omega)]
    rfl

theorem growPreP_ok (c : Chunk) (h : c.Inv) : growPreP c = .ok (growPre c) := by
  have := h.rl
  unfold growPreP growPre
  split
  · rename_i hc
    rw [if_pos ⟨by omega, hc.2⟩, guardP_pos (by constructor <;> omega)]
    rfl
  · rename_i hc
    rw [if_neg fun hh => hc ⟨by omega, hh.2⟩]
    rfl

variable (cf : Nat → Nat)

theorem growAllocP_ok (c : Chunk) (n : Nat) (h : c.Inv) :
    growAllocP cf c (c.len - c.rpos) n = .ok (growAlloc cf c (c.len - c.rpos) n) := by
  have := h.rl
  have hfrom : fromOK c c.rpos := ⟨by omega, by omega⟩
  have hfit := realloc_fits (c.len - c.rpos) c.rpos n
  unfold growAllocP growAlloc
  refine ite_ok (fun _ => rfl) fun _ => ite_ok (fun _ => ?_) fun _ => ite_ok (fun _ => rfl) fun _ =>
    ite_ok (fun _ => rfl) fun _ => ite_ok (fun _ => rfl) fun _ => ?_
  · rw [guardP_pos hfrom, guardP_pos (by constructor <;> omega)]
    rfl
  · dsimp only
    rw [guardP_pos hfrom, guardP_pos (Nat.le_trans (Nat.le_add_right _ n) (hfit _ _)),
      guardP_pos (hfit _ _)]
    rfl

theorem growP_ok (c : Chunk) (n : Nat) (h : c.Inv) : growP cf c n = .ok (grow cf c n) := by
  unfold growP grow
  rw [growPreP_ok c h]
  refine ite_ok (fun _ => rfl) fun _ => ?_
  dsimp only
  rw [resliceP_ok]
  rcases reslice (growPre c) _ with _ | ⟨c1, i⟩
  · exact growAllocP_ok cf (growPre c) _ (growPre_kept h).inv
  · rfl

theorem quickSliceP_ok (c : Chunk) (n : Nat) (h : c.Inv) : quickSliceP cf c n = .ok (quickSlice cf c n) := by
  unfold quickSliceP quickSlice
  rw [resliceP_ok]
  rcases reslice c n with _ | ⟨c1, i⟩
  · exact growP_ok cf c n h
  · rfl

theorem checkWriteSizeP_ok (c : Chunk) (n : Nat) (h : c.Inv) :
    checkWriteSizeP cf c n = .ok (checkWriteSize cf c n) := by
  unfold checkWriteSizeP checkWriteSize
  refine ite_ok (fun _ => rfl) fun _ => ?_
  rw [quickSliceP_ok cf c n h]
  rcases quickSlice cf c n with ⟨c1, e1 | i⟩
  · rfl
  · exact ite_ok (fun _ => rfl) fun _ => rfl

/-- `WriteBytes(b)` with every index / reslice of the source guarded: `c.buf[i] = 0`, the roll-back
`c.buf = c.buf[:i]`, `_ = c.buf[i+k+l]` (k = number of length bytes), `c.buf[i] = tag …`,
`copy(c.buf[x:], b)` (x already advanced by k). -/
def writeBytesP (c : Chunk) (b : Bytes) : PRes (Chunk × Option Err) := do
  match ← checkWriteSizeP cf c 1 with
  | (c, .error e) => pure (c, some e)
  | (c, .ok i) =>
    if b.length = 0 then do
      guardP (idxOK c i) "WriteBytes: c.buf[i] = 0"
      pure (poke c i [0], none)
    else
      let hdr := Codec.lenPrefix b.length
      match ← checkWriteSizeP cf c (hdr.length - 1 + b.length) with
      | (c, .error e) => do
        guardP (toOK c i) "WriteBytes: c.buf = c.buf[:i]"
        pure ({ c with len := i }, some e)
      | (c, .ok x) => do
        guardP (idxOK c ((x : Int) - 1 + (hdr.length - 1 : Nat) + b.length)) "WriteBytes: _ = c.buf[i+k+l]"
        guardP (idxOK c ((x : Int) - 1)) "WriteBytes: c.buf[i] = tag"
        guardP (fromOK c ((x : Int) + (hdr.length - 1 : Nat))) "WriteBytes: copy(c.buf[x:], b)"
        pure (poke c (x - 1) (hdr ++ b), none)

theorem writeBytesP_ok (c : Chunk) (b : Bytes) (h : c.Inv) :
    writeBytesP cf c b = .ok (writeBytes cf c b) := by
  unfold writeBytesP writeBytes
  rw [checkWriteSizeP_ok cf c 1 h]
  simp only [PRes.ok_bind]
  rcases hq : checkWriteSize cf c 1 with ⟨c1, e1 | i⟩
  · rfl
  · obtain ⟨r1, l1⟩ := checkWriteSize_ok h hq
    simp only
    split
    · rw [guardP_pos (by constructor <;> omega)]
      rfl
    · rw [checkWriteSizeP_ok cf c1 _ r1.inv]
      simp only [PRes.ok_bind]
      rcases hq2 : checkWriteSize cf c1 ((Codec.lenPrefix b.length).length - 1 + b.length) with ⟨c2, e2 | x⟩
      · have := r1.ir
        cases (checkWriteSize_err r1.inv hq2).2 (by omega)
        simp only
        rw [guardP_pos (by have := r1.inv.lc; unfold toOK cap; constructor <;> omega)]
        rfl
      · obtain ⟨r2, l2⟩ := checkWriteSize_ok r1.inv hq2
        obtain ⟨hx1, _, _⟩ := reserve_twice r1 l1 r2
        simp only
        rw [guardP_pos (by constructor <;> omega), guardP_pos (by constructor <;> omega),
          guardP_pos (by constructor <;> omega)]
        rfl

end Chunk
end XMT.Chunk
