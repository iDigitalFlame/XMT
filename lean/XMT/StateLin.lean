/-
  XMT.StateLin — what a legal sequential history of primitives (`StateConc.Lin`) implies, whichever machine
  produced it.  The interleaving machine of the mutators (XMT.StateConcLemmas, `Inv.lin`) and the access-level
  machine of all methods (XMT.StateAccInv, `GInv.lin`) each show by their own induction that their ghost history
  is such a history ending in the current word; everything they conclude about the word is taken from here.
  `testBit_apply` is the one case analysis of the five primitives on a flag bit.  On it rest no lost update
  (`lin_bit`, one induction for both polarities) and the single winner of a test-and-clear / test-and-set
  (`lin_wins`, the token argument); `lin_preserved` is for a part of the word that no call changes,
  `lin_last_writer` for the last group with one writer.
  First come the facts that are not about `Lin`: what both invariants need of one step — an early return leaves
  the word alone (`early_apply`), what `List.set` does to a thread list (`getElem?_set_cases`) — and a thread's
  part of a history (`proj_snoc`, `mem_proj`).
-/
import XMT.StateConc
import XMT.StateLemmas
namespace XMT.StateConc
open XMT.State

theorem early_apply (op : Op) (o : Nat) (h : op.early o = true) : op.apply o = o := by
  cases op <;> simp_all [Op.early, Op.apply, State.tryUnset, State.trySet]

theorem getElem?_set_cases {α : Type} {l : List α} {t t' : Nat} {a b : α} (h : (l.set t a)[t']? = some b) :
    (t = t' ∧ a = b) ∨ (t ≠ t' ∧ l[t']? = some b) := by
  rw [List.getElem?_set] at h
  by_cases htt : t = t'
  · rw [if_pos htt] at h
    split at h
    · exact Or.inl ⟨htt, Option.some.inj h⟩
    · cases h
  · exact Or.inr ⟨htt, by rwa [if_neg htt] at h⟩

theorem proj_snoc (t : Nat) (h : List Ev) (e : Ev) :
    proj t (h ++ [e]) = if e.tid = t then proj t h ++ [e] else proj t h := by
  by_cases he : e.tid = t <;> simp [proj, List.filter_append, he]

theorem mem_proj {t : Nat} {h : List Ev} {e : Ev} : e ∈ proj t h ↔ e ∈ h ∧ e.tid = t := by
  simp [proj]

theorem testBit_apply {k : Nat} (op : Op) (m : Nat) (hk : k < 16) :
    (op.apply m).testBit k = ((m.testBit k || op.sets k) && !op.clears k) := by
  have h32 : k < 32 := by omega
  cases op with
  | set v => simp [Op.apply, Op.sets, Op.clears, testBit_set]
  | unset v => simp [Op.apply, Op.sets, Op.clears, testBit_unset, h32]
  | setLast v => simp [Op.apply, Op.sets, Op.clears, testBit_setLast, hk, show ¬ 16 ≤ k by omega]
  | tryUnset v =>
    -- a failed test-and-clear found none of the mask's bits
    simp only [Op.apply, Op.sets, Op.clears, tryUnset_eq, Bool.or_false]
    split
    · simp [testBit_unset, h32]
    · rename_i h
      cases hv : v.testBit k
      · simp
      · simp [testBit_of_not_has (Bool.not_eq_true _ ▸ h) hv]
  | trySet v => simp [Op.apply, Op.sets, Op.clears, trySet_fst, testBit_set]

/-- the call can make flag bit `k` equal to `b`: `sets` for `true`, `clears` for `false` -/
def Op.drives (k : Nat) : Bool → Op → Bool
  | true, op => op.sets k
  | false, op => op.clears k

theorem Op.sets_clears (op : Op) (k : Nat) (h : op.sets k = true) : op.clears k = false := by
  cases op <;> simp_all [Op.sets, Op.clears]

theorem drives_of_neutral {op : Op} {k : Nat} (h : op.sets k = false ∧ op.clears k = false) (b : Bool) :
    op.drives k b = false := by
  cases b
  · exact h.2
  · exact h.1

theorem apply_drives {k : Nat} (b : Bool) (op : Op) (m : Nat) (hk : k < 16) (h : op.drives k b = true) :
    (op.apply m).testBit k = b := by
  cases b
  · simp [testBit_apply op m hk, show op.clears k = true from h]
  · simp [testBit_apply op m hk, show op.sets k = true from h, op.sets_clears k h]

theorem apply_keeps {k : Nat} (b : Bool) (op : Op) (m : Nat) (hk : k < 16) (h : op.drives k (!b) = false)
    (hm : m.testBit k = b) : (op.apply m).testBit k = b := by
  cases b
  · simp [testBit_apply op m hk, show op.sets k = false from h, hm]
  · simp [testBit_apply op m hk, show op.clears k = false from h, hm]

/-- No lost update, sequentially: if no call of the history can make bit `k` differ from `b`, and the
bit was `b` initially or some call made it `b`, it is `b` at the end. -/
theorem lin_bit {w m k : Nat} {h : List Ev} (b : Bool) (hl : Lin w h m) (hk : k < 16)
    (hc : ∀ e ∈ h, e.op.drives k (!b) = false) (hs : w.testBit k = b ∨ ∃ e ∈ h, e.op.drives k b = true) :
    m.testBit k = b := by
  induction hl with
  | nil => exact hs.elim id fun ⟨_, he, _⟩ => nomatch he
  | @snoc h m e hl _ ih =>
    by_cases he : e.op.drives k b = true
    · exact apply_drives b e.op m hk he
    · refine apply_keeps b e.op m hk (hc e (by simp)) (ih (fun e' he' => hc e' (by simp [he'])) ?_)
      refine hs.imp_right fun ⟨e', he', hs'⟩ => ⟨e', ?_, hs'⟩
      rcases List.mem_append.mp he' with he' | he'
      · exact he'
      · exact absurd (List.mem_singleton.mp he' ▸ hs') he

/-- `trySet` for `true`, `tryUnset` for `false`: the call that makes the bit `b` and reports whether it
was the one that did -/
def tryOp : Bool → Nat → Op
  | true, v => .trySet v
  | false, v => .tryUnset v

/-- number of `tryOp b (2^k)` calls in the history that reported success -/
def wins (b : Bool) (k : Nat) (h : List Ev) : Nat := (h.filter fun e => e.op == tryOp b (2 ^ k) && e.ret).length

theorem tryOp_ret (b : Bool) (k m : Nat) : (tryOp b (2 ^ k)).ret m = (m.testBit k != b) := by
  cases b
  · simp only [tryOp, Op.ret, tryUnset_snd, has_pow]; cases m.testBit k <;> rfl
  · simp only [tryOp, Op.ret, trySet_pow]; cases m.testBit k <;> rfl

theorem tryOp_drives (b : Bool) (k : Nat) : (tryOp b (2 ^ k)).drives k b = true ∧ (tryOp b (2 ^ k)).drives k (!b) = false := by
  cases b <;> simp [tryOp, Op.drives, Op.sets, Op.clears, Nat.testBit_two_pow_self]

theorem wins_snoc (b : Bool) (k : Nat) (h : List Ev) (e : Ev) :
    wins b k (h ++ [e]) = wins b k h + (e.op == tryOp b (2 ^ k) && e.ret).toNat := by
  unfold wins
  rw [List.filter_append, List.length_append, List.filter_cons, List.filter_nil]
  cases (e.op == tryOp b (2 ^ k) && e.ret) <;> rfl

/-- The token argument: the wins so far, plus one if the bit still awaits its `tryOp`, is one if it
awaited it initially and zero otherwise — every successful call takes the token, nobody returns it. -/
theorem lin_wins {w m k : Nat} {h : List Ev} (b : Bool) (hl : Lin w h m) (hk : k < 16)
    (hops : ∀ e ∈ h, e.op = tryOp b (2 ^ k) ∨ (e.op.sets k = false ∧ e.op.clears k = false)) :
    wins b k h + (m.testBit k != b).toNat = (w.testBit k != b).toNat := by
  induction hl with
  | nil => exact Nat.zero_add _
  | @snoc h m e hl hret ih =>
    rw [wins_snoc, ← ih fun e' he' => hops e' (by simp [he'])]
    rcases hops e (by simp) with hop | hn
    · -- the call wins iff the bit awaited it, and leaves it `b`
      rw [apply_drives b e.op m hk (hop ▸ (tryOp_drives b k).1), hret, hop, tryOp_ret]
      simp
    · -- any other call leaves bit `k` alone and is not counted
      have hne : e.op ≠ tryOp b (2 ^ k) := fun h' => by
        have := (tryOp_drives b k).1
        rw [← h', drives_of_neutral hn] at this
        cases this
      simp [apply_keeps (m.testBit k) e.op m hk (drives_of_neutral hn _) rfl, hne]

theorem lin_preserved {α : Type} (f : Nat → α) {w m : Nat} {h : List Ev} (hl : Lin w h m)
    (hp : ∀ e ∈ h, ∀ x, f (e.op.apply x) = f x) : f m = f w := by
  induction hl with
  | nil => rfl
  | @snoc h m e hl _ ih => rw [hp e (by simp), ih fun e' he' => hp e' (by simp [he'])]

theorem apply_flagOnly_last (op : Op) (m : Nat) (h : op.flagOnly = true) : State.last (op.apply m) = State.last m := by
  cases op with
  | setLast v => simp [Op.flagOnly] at h
  | set v => exact last_set m (of_decide_eq_true h)
  | unset v => exact last_unset m (of_decide_eq_true h)
  | tryUnset v =>
    simp only [Op.apply, tryUnset_eq]
    split
    · exact last_unset m (of_decide_eq_true h)
    · rfl
  | trySet v =>
    rw [Op.apply, trySet_fst]
    exact last_set m (of_decide_eq_true h)

theorem apply_isSetLast_flags (op : Op) (m : Nat) (h : op.isSetLast = true) : State.flags (op.apply m) = State.flags m := by
  cases op with
  | setLast v => exact flags_setLast m v
  | _ => simp [Op.isSetLast] at h

theorem lin_last_of_flagOnly {w m : Nat} {h : List Ev} (hl : Lin w h m) (hf : ∀ e ∈ h, e.op.flagOnly = true) :
    State.last m = State.last w :=
  lin_preserved State.last hl fun e he x => apply_flagOnly_last e.op x (hf e he)

theorem lin_flags_of_isSetLast {w m : Nat} {h : List Ev} (hl : Lin w h m) (hf : ∀ e ∈ h, e.op.isSetLast = true) :
    State.flags m = State.flags w :=
  lin_preserved State.flags hl fun e he x => apply_isSetLast_flags e.op x (hf e he)

theorem lastWritten_snoc (l : List Op) (op : Op) :
    lastWritten (l ++ [op]) = match op with | .setLast v => some v | _ => lastWritten l := by
  cases op <;> simp [lastWritten, List.foldl_append]

theorem lastWritten_filter (l : List Op) : lastWritten l = lastWritten (l.filter Op.isSetLast) := by
  unfold lastWritten
  generalize (none : Option Nat) = acc
  induction l generalizing acc with
  | nil => rfl
  | cons op l ih => cases op <;> simp [List.filter_cons, Op.isSetLast, ih]

/-- `p` is the only thread that calls `SetLast`: a flag call, `p`'s included, changes neither side of the
equation; a `SetLast` of `p` makes both its argument. -/
theorem lin_last_writer {w m p : Nat} {h : List Ev} (hl : Lin w h m)
    (hf : ∀ e ∈ h, e.op.flagOnly = true ∨ (e.tid = p ∧ e.op.isSetLast = true ∧ e.op.lastOk = true)) :
    State.last m = (lastWritten ((proj p h).map (·.op))).getD (State.last w) := by
  induction hl with
  | nil => rfl
  | @snoc h m e hl _ ih =>
    have ih := ih fun e' he' => hf e' (by simp [he'])
    rw [proj_snoc]
    rcases hf e (by simp) with hfo | ⟨htid, hsl, hok⟩
    · rw [apply_flagOnly_last e.op m hfo, ih]
      split
      · rw [List.map_append, List.map_singleton, lastWritten_snoc]
        cases he : e.op with
        | setLast v => rw [he] at hfo; cases hfo
        | _ => rfl
      · rfl
    · rw [if_pos htid, List.map_append, List.map_singleton, lastWritten_snoc]
      cases he : e.op with
      | setLast v =>
        rw [he] at hok
        simp [Op.apply, last_setLast m (of_decide_eq_true hok)]
      | _ => simp [he, Op.isSetLast] at hsl

end XMT.StateConc
