/-
  XMT.StateAccLemmas — the access-level programs of XMT.StateAcc, run without interference, are
  the sequential functions of XMT.State (so the sequential theorems speak about the same methods
  the schedule replay exercises).
-/
import XMT.StateAcc
import XMT.StateLemmas
namespace XMT.StateAcc
open XMT.State XMT.StateConc

theorem solo_eq_seq (c : Call) (w : Nat) : solo 8 c.meth w = some (c.seq w) := by
  -- every load of a solo run up to the first read-modify-write reads `w`: with the values of those tests fixed,
  -- the program and the sequential function are the same closed term
  cases c with
  | prim op => simp [Call.meth, Call.seq, solo]
  | last => simp [Call.meth, Call.seq, solo]
  | simple m => simp [Call.meth, Call.seq, solo, flagM]
  | dom m =>
    cases h : has w stClosed <;> simp [Call.meth, Call.seq, dom1M, solo, closed, h, b2n]
  | ready =>
    cases h : has w stClosed <;> simp [Call.meth, Call.seq, solo, ready, closed, h, b2n]
  | canRecv =>
    cases h : has w stClosed <;> cases h2 : has w stRecvClose <;>
      simp [Call.meth, Call.seq, solo, canRecv, recvClosed, closed, h, h2, b2n]
  | canStart =>
    cases h : has w stClosed <;> cases h2 : has w stChannel <;>
      simp [Call.meth, Call.seq, solo, channelCanStart, closed, channel, channelValue, h, h2, b2n]
  | canStop =>
    cases h : has w stClosed <;> cases h2 : has w stClosing <;> cases h3 : has w stChannel <;>
      simp [Call.meth, Call.seq, dom1M, flagM, solo, channelCanStop, closing, closed, channel,
        channelValue, h, h2, h3, Op.ret, Op.apply, b2n]
    by_cases h4 : (State.tryUnset w stChannelUpdated).2 = true
    · simp [solo, h4]
    · simp [solo, h4]
  | origReady =>
    cases h : has w stClosed <;> simp [Call.meth, Call.seq, closedM, flagM, solo, ready, closed, h, b2n]
  | origTag =>
    cases h : has w stSeen <;> simp [Call.meth, Call.seq, flagM, solo, tag, seen, h, Op.apply, b2n]
  | setChannel e =>
    cases e
    · cases h : has w stChannel <;> cases h2 : has w stChannelProxy <;> cases h3 : has w stChannelValue <;>
        simp [Call.meth, Call.seq, flagM, solo, setChannel, channel, channelProxy, channelValue, h, h2, h3,
          Op.apply, b2n]
    · cases h : has w stChannelValue <;>
        simp [Call.meth, Call.seq, flagM, solo, setChannel, channelValue, h, Op.apply, b2n]
  | tag => simp [Call.meth, Call.seq, solo, tag_eq_tryUnset, Op.ret, Op.apply]

/-- a call that is one load followed by a return: the load is its whole solo run -/
theorem seq_of_load_ret {c : Call} {k : Nat → Meth} (hk : c.meth = .load k) {w r : Nat} (hr : k w = .ret r) :
    c.seq w = (w, r) := by
  have h := solo_eq_seq c w
  rw [hk] at h
  simp only [solo, hr] at h
  exact (Option.some.inj h).symm

end XMT.StateAcc
