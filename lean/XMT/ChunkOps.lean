/-
  XMT.ChunkOps — what each exported operation does to the invariant, the limit and the queue of
  unread bytes (the clauses of `QStep`, XMT/ChunkSeq.lean); `seek_spec` / `writePos_spec` carry the
  invariant for the two operations that address retained bytes (exact clauses: XMT/ChunkExact.lean).
-/
import XMT.ChunkLemmas
namespace XMT.Chunk
namespace Chunk

theorem drop_length_take {α : Type} (u : List α) (k : Nat) : u.drop (u.take k).length = u.drop k := by
  rw [List.length_take]
  by_cases hk : k ≤ u.length
  · rw [Nat.min_eq_left hk]
  · rw [Nat.min_eq_right (by omega), List.drop_length, List.drop_of_length_le (by omega)]

theorem poke_view {c : Chunk} {i : Nat} {d : Bytes} (hlc : c.len ≤ c.arr.length) (hd : i + d.length ≤ c.len) :
    (poke c i d).view = c.view.take i ++ d ++ c.view.drop (i + d.length) := by
  show (c.arr.take i ++ d ++ c.arr.drop (i + d.length)).take c.len = _
  have e1 : (c.arr.take i).length = i := by rw [List.length_take]; omega
  simp only [view]
  rw [List.take_append, List.take_append]
  simp only [e1, List.length_append]
  rw [List.take_of_length_le (l := c.arr.take i) (by omega), List.take_of_length_le (l := d) (by omega),
    List.take_take, List.take_drop, List.drop_take, Nat.min_eq_left (by omega), List.drop_take]
  congr 2
  omega

theorem poke_inv {c : Chunk} {i : Nat} {d : Bytes} (h : c.Inv) (hd : i + d.length ≤ c.len) : (poke c i d).Inv := by
  have hlc := h.lc
  refine ⟨h.rl, ?_, h.lim, fun hn => ?_⟩
  · show c.len ≤ (c.arr.take i ++ d ++ c.arr.drop (i + d.length)).length
    simp only [List.length_append, List.length_take, List.length_drop]; omega
  · have := h.nil_len hn
    have hd0 : d = [] := List.length_eq_zero_iff.mp (by omega)
    simp [poke, h.nil hn, hd0]

/-- filling the reserved room `[i, len)` with `d` appends `d` to the queue -/
theorem poke_append {c : Chunk} {i : Nat} {u : Bytes} (h : c.Inv) (hun : (c.arr.take i).drop c.rpos = u)
    (ir : c.rpos ≤ i) (d : Bytes) (hd : i + d.length = c.len) :
    (poke c i d).Inv ∧ (poke c i d).unread = u ++ d := by
  have hlc := h.lc
  refine ⟨poke_inv h (by omega), ?_⟩
  show (poke c i d).view.drop c.rpos = _
  have hv := view_length h
  have e1 : (c.view.take i).length = i := by rw [List.length_take]; omega
  rw [poke_view hlc (by omega), hd, List.drop_of_length_le (l := c.view) (by omega),
    List.append_nil, List.drop_append_of_le_length (by omega), view, List.take_take,
    Nat.min_eq_left (by omega), hun]

variable {cf : Nat → Nat}

theorem write_err {c c1 : Chunk} {b : Bytes} {e : Err} (hq : quickSlice cf c b.length = (c1, .error e)) :
    write cf c b = (c1, 0, some e) := by
  simp only [write, hq]

/-- after a successful reservation `Write` fills the room it got; that is less than `b` only when
the chunk is then at its limit, which is when it reports `ErrLimit` -/
theorem write_ok {c c1 : Chunk} {b : Bytes} {m : Nat} (hq : quickSlice cf c b.length = (c1, .ok m))
    (r : Reserve c c1 b.length m) :
    write cf c b = (poke c1 m (b.take (c1.len - m)), c1.len - m,
      if c1.len - m < b.length then some .limit else none) := by
  have hmin : min (c1.len - m) b.length = c1.len - m := by have := r.room; omega
  simp only [write, hq, hmin]
  by_cases hlt : c1.len - m < b.length
  · obtain ⟨hpos, hcl⟩ := r.short (by omega)
    have hlim := r.limit
    rw [if_pos hlt, if_pos ⟨hlt, by show c1.limit > 0; omega, by show (c1.len : Int) ≥ c1.limit; omega⟩]
  · rw [if_neg hlt, if_neg (fun hc => hlt hc.1)]

theorem write_spec {c c' : Chunk} {b : Bytes} {n : Nat} {e : Option Err} (h : c.Inv)
    (hw : write cf c b = (c', n, e)) :
    c'.Inv ∧ c'.limit = c.limit ∧ n ≤ b.length ∧ c'.unread = c.unread ++ b.take n ∧
    (e = none → n = b.length) ∧ (e = some .limit → c.limit > 0) := by
  rcases hq : quickSlice cf c b.length with ⟨c1, e1 | m⟩
  · rw [write_err hq] at hw
    cases hw
    obtain ⟨rfl, hl⟩ := quickSlice_err hq
    have k := growPre_kept h
    exact ⟨k.inv, k.limit, Nat.zero_le _, by rw [k.unread, List.take_zero, List.append_nil],
      fun he => (by cases he), fun he => hl (by cases he; rfl)⟩
  · have r := quickSlice_ok h hq
    rw [write_ok hq r] at hw
    cases hw
    have hroom := r.room; have hidx := r.idx
    obtain ⟨p1, p2⟩ := poke_append r.inv r.unread r.ir (b.take (c1.len - m))
      (by rw [List.length_take]; omega)
    refine ⟨p1, r.limit, by omega, p2, fun he => ?_, fun he => ?_⟩ <;> split at he
    · cases he
    · omega
    · exact (r.short (by omega)).1
    · cases he

variable (cf)

theorem reset_spec (c : Chunk) (h : c.Inv) : c.reset.Inv ∧ c.reset.limit = c.limit ∧ c.reset.unread = [] :=
  ⟨h.window (Nat.le_refl 0) (Nat.zero_le _), rfl, unread_nil (Nat.le_refl 0)⟩

/-- `c.clear` is `empty c.limit` -/
theorem clear_spec (c : Chunk) : c.clear.Inv ∧ c.clear.limit = c.limit ∧ c.clear.unread = [] :=
  ⟨inv_empty c.limit, rfl, rfl⟩

theorem read_spec (c : Chunk) (k : Nat) (h : c.Inv) :
    (read c k).1.Inv ∧ (read c k).1.limit = c.limit ∧ (read c k).2.1 = c.unread.take k ∧
    (read c k).1.unread = c.unread.drop k := by
  unfold read
  split
  · rename_i hc
    have he := (isEmpty_iff c).mp hc
    have hu := unread_nil he
    obtain ⟨hi, hl, hq⟩ := reset_spec c h
    exact ⟨hi, hl, by rw [hu, List.take_nil], by rw [hu, List.drop_nil]; exact hq⟩
  · have hlen : (c.unread.take k).length ≤ c.len - c.rpos := by
      rw [List.length_take, unread_length h]; exact Nat.min_le_right _ _
    refine ⟨h.window (by have := h.rl; omega) (Nat.le_refl _), rfl, rfl, ?_⟩
    show (c.arr.take c.len).drop (c.rpos + (c.unread.take k).length) = _
    rw [← List.drop_drop, ← unread, drop_length_take]

theorem writeFixed_spec (c : Chunk) (b : Bytes) (h : c.Inv) :
    (writeFixed cf c b).1.Inv ∧ (writeFixed cf c b).1.limit = c.limit ∧
    (((writeFixed cf c b).2 = none ∧ (writeFixed cf c b).1.unread = c.unread ++ b) ∨
     ((writeFixed cf c b).2 ≠ none ∧ (writeFixed cf c b).1.unread = c.unread)) := by
  unfold writeFixed
  rcases hq : checkWriteSize cf c b.length with ⟨c1, e1 | i⟩
  · have k := (checkWriteSize_err h hq).1
    exact ⟨k.inv, k.limit, Or.inr ⟨Option.some_ne_none _, k.unread⟩⟩
  · obtain ⟨r, hl⟩ := checkWriteSize_ok h hq
    obtain ⟨p1, p2⟩ := poke_append r.inv r.unread r.ir b (by omega)
    exact ⟨p1, r.limit, Or.inl ⟨rfl, p2⟩⟩

theorem truncate_spec (c : Chunk) (n : Int) (h : c.Inv) :
    (truncate c n).1.Inv ∧ (truncate c n).1.limit = c.limit ∧
    (((truncate c n).2 = none ∧ 0 ≤ n ∧ n ≤ c.unread.length ∧ (truncate c n).1.unread = c.unread.take n.toNat) ∨
     ((truncate c n).2 ≠ none ∧ (truncate c n).1.unread = c.unread)) := by
  have hu := unread_length h
  unfold truncate
  split
  · rename_i h0
    subst h0
    obtain ⟨hi, hl, hq⟩ := reset_spec c h
    exact ⟨hi, hl, Or.inl ⟨rfl, Int.le_refl 0, by omega, by rw [Int.toNat_zero, List.take_zero]; exact hq⟩⟩
  · split
    · exact ⟨h, rfl, Or.inr ⟨Option.some_ne_none _, rfl⟩⟩
    · refine ⟨h.window (r := c.rpos) (Nat.le_add_right _ _) (by omega), rfl, Or.inl ⟨rfl, by omega, by omega, ?_⟩⟩
      show (c.arr.take (c.rpos + n.toNat)).drop c.rpos = _
      rw [take_drop_take c.arr c.rpos (b := c.len) (by omega), ← unread, Nat.add_sub_cancel_left]

theorem growOp_spec (c : Chunk) (n : Int) (h : c.Inv) :
    (growOp cf c n).1.Inv ∧ (growOp cf c n).1.limit = c.limit ∧ (growOp cf c n).1.unread = c.unread := by
  unfold growOp
  split
  · exact ⟨h, rfl, rfl⟩
  · rcases hq : grow cf c n.toNat with ⟨c1, e1 | m⟩ <;> simp only
    · obtain ⟨rfl, _⟩ := grow_err hq
      have k := growPre_kept h
      exact ⟨k.inv, k.limit, k.unread⟩
    · have r := grow_ok h hq
      exact ⟨r.inv.window r.ir r.idx, r.limit, r.unread⟩

theorem seek_spec (c : Chunk) (o : Int) (w : Nat) (h : c.Inv) :
    (seek c o w).1.Inv ∧ (seek c o w).1.limit = c.limit ∧ (seek c o w).1.view = c.view ∧
    (seek c o w).1.len = c.len := by
  unfold seek
  split
  · exact ⟨h, rfl, rfl, rfl⟩
  · split
    · exact ⟨h, rfl, rfl, rfl⟩
    · split
      · exact ⟨h, rfl, rfl, rfl⟩
      · exact ⟨h.window (by omega) (Nat.le_refl _), rfl, rfl, rfl⟩

theorem readFixed_spec (c : Chunk) (k : Nat) (h : c.Inv) :
    (readFixed c k).1.Inv ∧ (readFixed c k).1.limit = c.limit ∧
    ((k ≤ c.unread.length ∧ (readFixed c k).2 = .ok (c.unread.take k) ∧ (readFixed c k).1.unread = c.unread.drop k) ∨
     (c.unread.length < k ∧ (readFixed c k).2 = .error .eof ∧ (readFixed c k).1 = c)) := by
  have hu := unread_length h
  have hrl := h.rl
  unfold readFixed
  split
  · exact ⟨h, rfl, Or.inr ⟨by omega, rfl, rfl⟩⟩
  · exact ⟨h.window (by omega) (Nat.le_refl _), rfl, Or.inl ⟨by omega, rfl, (List.drop_drop ..).symm⟩⟩

theorem lenPrefix_pos (l : Nat) : 0 < (Codec.lenPrefix l).length := by
  unfold Codec.lenPrefix
  repeat' split
  all_goals exact Nat.succ_pos _

theorem writeBytes_spec (c : Chunk) (b : Bytes) (h : c.Inv) :
    (writeBytes cf c b).1.Inv ∧ (writeBytes cf c b).1.limit = c.limit ∧
    (((writeBytes cf c b).2 = none ∧ (writeBytes cf c b).1.unread = c.unread ++ (Codec.lenPrefix b.length ++ b)) ∨
     ((writeBytes cf c b).2 ≠ none ∧ (writeBytes cf c b).1.unread = c.unread)) := by
  unfold writeBytes
  rcases hq : checkWriteSize cf c 1 with ⟨c1, e1 | i⟩
  · have k := (checkWriteSize_err h hq).1
    exact ⟨k.inv, k.limit, Or.inr ⟨Option.some_ne_none _, k.unread⟩⟩
  · obtain ⟨r1, l1⟩ := checkWriteSize_ok h hq
    dsimp only
    split
    · rename_i hb0
      obtain ⟨p1, p2⟩ := poke_append r1.inv r1.unread r1.ir [0] (by rw [l1]; rfl)
      have hb : b = [] := List.length_eq_zero_iff.mp hb0
      exact ⟨p1, r1.limit, Or.inl ⟨rfl, by rw [p2, hb]; rfl⟩⟩
    · rcases hq2 : checkWriteSize cf c1 ((Codec.lenPrefix b.length).length - 1 + b.length) with ⟨c2, e2 | x⟩
      · -- the roll-back `c.buf = c.buf[:i]`: the failed reservation left the buffer alone
        have := r1.ir
        cases (checkWriteSize_err r1.inv hq2).2 (by omega)
        exact ⟨r1.inv.window r1.ir (by omega), r1.limit, Or.inr ⟨Option.some_ne_none _, r1.unread⟩⟩
      · obtain ⟨r2, l2⟩ := checkWriteSize_ok r1.inv hq2
        obtain ⟨hx, ir, hun⟩ := reserve_twice r1 l1 r2
        have := lenPrefix_pos b.length
        obtain ⟨p1, p2⟩ := poke_append r2.inv hun ir (Codec.lenPrefix b.length ++ b)
          (by rw [List.length_append]; omega)
        exact ⟨p1, by rw [← r1.limit, ← r2.limit]; rfl, Or.inl ⟨rfl, p2⟩⟩

/-- under the invariant the `ErrLimit` return of the positional writers is unreachable: the slice is
within the limit -/
theorem writePos_eq (c : Chunk) (p : Int) (b : Bytes) (hb : 0 < b.length) (h : c.Inv) :
    writePos c p b =
      if p < 0 then (c, some .invalidIndex)
      else if (c.len : Int) < p + b.length then (c, some .eof)
      else (poke c p.toNat b, none) := by
  have hlim := h.lim
  unfold writePos
  simp only
  split
  · rfl
  · by_cases he : (c.len : Int) < p + b.length
    · rw [if_pos he, if_pos (by omega)]
    · rw [if_neg he, if_neg (by omega), if_neg (fun hl => by have := hlim hl.1; omega)]

theorem writePos_spec (c : Chunk) (p : Int) (b : Bytes) (hb : 0 < b.length) (h : c.Inv) :
    (writePos c p b).1.Inv ∧ (writePos c p b).1.limit = c.limit ∧ (writePos c p b).1.len = c.len ∧
    (writePos c p b).1.rpos = c.rpos := by
  rw [writePos_eq c p b hb h]
  split
  · exact ⟨h, rfl, rfl, rfl⟩
  · split
    · exact ⟨h, rfl, rfl, rfl⟩
    · exact ⟨poke_inv h (by omega), rfl, rfl, rfl⟩

end Chunk
end XMT.Chunk
