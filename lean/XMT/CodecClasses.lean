/-
  XMT.CodecClasses — the length-prefix classes of `WriteBytes` / `WriteStringList` (0 / 1 / 2 / 4 / 8
  length bytes, tags 0 / 1 / 3 / 5 / 7; `lenClass`, `lenTag`, `widthOfTag` are in CodecRoundtrip)
  and what the readers do with headers no writer emits (even tags, a wider class than needed, a zero
  length behind a non-zero tag, too large, unknown tag).

  The three writer switches and the three reader switches are extracted from the source on every
  run (`Facts.c10_sw*`, `Facts.c10_cases*`); `evalSwitch` interprets an extracted writer switch.
-/
import XMT.CodecRoundtrip

namespace XMT.Codec

theorem lenClass_lenTag_mono {a b : Nat} (h : a ≤ b) :
    lenClass a ≤ lenClass b ∧ lenTag a ≤ lenTag b := by
  obtain ⟨_, _, _⟩ := limitsExact
  constructor
  · fun_cases lenClass a <;> fun_cases lenClass b <;> omega
  · fun_cases lenTag a <;> fun_cases lenTag b <;> omega

theorem lenClass_minimal (l : Nat) (w : Nat) (hw : w = 0 ∨ w = 1 ∨ w = 2 ∨ w = 4)
    (hlt : w < lenClass l) : ¬ l < 2 ^ (8 * w) := by
  obtain ⟨_, _, _⟩ := limitsExact
  revert hlt
  fun_cases lenClass l <;> rcases hw with rfl | rfl | rfl | rfl <;> omega

theorem lenPrefix_length (l : Nat) : (lenPrefix l).length = 1 + lenClass l := by
  fun_cases lenPrefix l <;> simp only [lenClass, *, if_true, if_false] <;> rfl

/-- An extracted `switch l := uint64(len(x)); { case … }`: per clause the condition (0 = `l == 0`,
1 = `l < LimitSmall`, 2 = `l < LimitMedium`, 3 = `l < LimitLarge`, 4 = `default`, anything else =
not recognised), the tag byte written and the number of `byte(l >> …)` length bytes. -/
abbrev Switch := List (Nat × Nat × Nat)

def condHolds (c l : Nat) : Option Bool :=
  if c = 0 then some (decide (l = 0))
  else if c = 1 then some (decide (l < Facts.limitSmall))
  else if c = 2 then some (decide (l < Facts.limitMedium))
  else if c = 3 then some (decide (l < Facts.limitLarge))
  else if c = 4 then some true
  else none

/-- Run an extracted switch: the header it writes for `l`. -/
def evalSwitch : Switch → Nat → Option Bytes
  | [], _ => none
  | (c, tag, n) :: rest, l =>
    match condHolds c l with
    | none => none
    | some true => some (byteOf tag :: beW n l)
    | some false => evalSwitch rest l

/-- The switch all three writers are expected to have. -/
def expectedSwitch : Switch := [(0, 0, 0), (1, 1, 1), (2, 3, 2), (3, 5, 4), (4, 7, 8)]

theorem evalSwitch_expected (l : Nat) : evalSwitch expectedSwitch l = some (lenPrefix l) := by
  fun_cases lenPrefix l <;> simp [expectedSwitch, evalSwitch, condHolds, beW, byteOf, *]

/-- An extracted reader switch: per clause the case labels and what is read next (1/2/4/8 =
`Uint8/16/32/64()`, 0 = returns the empty value, 99 = `ErrInvalidType`). -/
abbrev Cases := List (List Nat × Nat)

def expectedCases : Cases := [([0], 0), ([1, 2], 1), ([3, 4], 2), ([5, 6], 4), ([7, 8], 8), ([], 99)]

/-- Look a tag up in an extracted reader switch (the clause without labels is `default`). -/
def lookupCase : Cases → Nat → Option Nat
  | [], _ => none
  | (ls, w) :: rest, t =>
    if ls.contains t then (if w = 99 then none else some w)
    else if ls.isEmpty then (match lookupCase rest t with
      | some x => some x
      | none => if w = 99 then none else some w)
    else lookupCase rest t

theorem widthOfTag_table :
    (List.range 12).all (fun n => widthOfTag (UInt8.ofNat n) == lookupCase expectedCases n) = true := by
  decide

section
variable {S : Type} {P : Prim S} {abs : S → Bytes} {inv : S → Prop}

theorem decBytes_noncanonical (L : Lawful P abs inv) (t : UInt8) (w : Nat)
    (hw : widthOfTag t = some w) (hw0 : w ≠ 0) (b : Bytes) (hb0 : b ≠ [])
    (hb : b.length ≤ Facts.maxSlice) (hl : b.length < 2 ^ (8 * w)) :
    Reads abs inv (decBytes P) (t :: beW w b.length ++ b) b :=
  (decBytes_of_decLen L (decLen_tag L t w hw hw0 b.length hl) hb0 hb).reads

theorem decBytes_zeroLen (L : Lawful P abs inv) (t : UInt8) (w : Nat)
    (hw : widthOfTag t = some w) (hw0 : w ≠ 0) (s : S) (r : Bytes) (hi : inv s)
    (h : abs s = t :: (beW w 0 ++ r)) : decBytes P s = .error .unexpectedEOF := by
  obtain ⟨s1, e1, _, _⟩ := (decLen_tag L t w hw hw0 0 (Nat.two_pow_pos _)).reads s _ hi h
  rw [decBytes_eq_of_decLen e1, if_pos rfl]

theorem decBytes_tooLarge (L : Lawful P abs inv) (t : UInt8) (w : Nat)
    (hw : widthOfTag t = some w) (hw0 : w ≠ 0) (l : Nat) (hl : l < 2 ^ (8 * w))
    (hbig : l > Facts.maxSlice) (s : S) (r : Bytes) (hi : inv s)
    (h : abs s = t :: (beW w l ++ r)) : decBytes P s = .error .tooLarge := by
  obtain ⟨s1, e1, _, _⟩ := (decLen_tag L t w hw hw0 l hl).reads s _ hi h
  rw [decBytes_eq_of_decLen e1, if_neg (show l ≠ 0 by omega), if_pos hbig]

theorem decBytes_badTag (L : Lawful P abs inv) (t : UInt8) (hw : widthOfTag t = none) (s : S)
    (r : Bytes) (hi : inv s) (h : abs s = t :: r) : decBytes P s = .error .invalidType := by
  rw [decBytes, decLen_badTag L t hw s r hi h]; rfl

theorem decStrs_noncanonical (L : Lawful P abs inv) (t : UInt8) (w : Nat)
    (hw : widthOfTag t = some w) (hw0 : w ≠ 0) (l : List Bytes) (hl63 : l.length < 2^63)
    (hl : ∀ b ∈ l, b.length ≤ Facts.maxSlice) (hfit : l.length < 2 ^ (8 * w)) :
    Reads abs inv (decStrs P) (t :: beW w l.length ++ l.flatMap encBytesChunk) l :=
  (decStrs_of_decLen L (decLen_tag L t w hw hw0 l.length hfit) hl63 hl).reads

/-- `ReadStringList` with a zero count behind a non-zero tag: accepted as the empty list (unlike
`Bytes()`, `decBytes_zeroLen`). The case `l = []` of `decStrs_noncanonical`. -/
theorem decStrs_zeroCount (L : Lawful P abs inv) (t : UInt8) (w : Nat)
    (hw : widthOfTag t = some w) (hw0 : w ≠ 0) (s : S) (r : Bytes) (hi : inv s)
    (h : abs s = t :: (beW w 0 ++ r)) :
    ∃ s', decStrs P s = .ok ([], s') ∧ abs s' = r ∧ inv s' :=
  decStrs_noncanonical L t w hw hw0 [] (Nat.two_pow_pos _) nofun (Nat.two_pow_pos _) s r hi
    (by rw [h, List.flatMap_nil, List.append_nil]; rfl)

end
end XMT.Codec
