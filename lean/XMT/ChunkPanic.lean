/-
  XMT.ChunkPanic — a PANIC outcome for the Chunk model.

  Go panics when `c.buf[i]` is used with `i ∉ [0, len)`, when `c.buf[i:]` is used with `i ∉ [0, len]`
  and when `c.buf[:j]` / `c.buf[i:j]` is used with `j > cap` (or `i > j`, or a negative bound).  The
  functions below repeat the statements of the exported methods that index or reslice `c.buf`
  DIRECTLY — every such expression of the source is a `guardP` with the Go expression as its site —
  and return `PRes.panic site` when the bound check fails:

    positional writers (chunk_writer.go WriteBoolPos/WriteUint8Pos/16/32/64Pos: `_ = c.buf[p+k]`,
      `c.buf[p] = …`), with a switch for the `if p < 0` guard of fix 6edbaf9;
    Read (`c.buf[c.rpos:]`), Uint8/16/32/64 (`c.buf[c.rpos+k-1]`, `c.buf[c.rpos]`);
    Truncate (`c.buf[:c.rpos+n]`), Reset (`c.buf[:0]`), Clear, Grow (`c.buf[:m]`);
    Write (`c.buf[m:]`), WriteUint8/16/32/64 (`_ = c.buf[i+k-1]`);
    Payload (`c.buf[c.Size()-1]`, `c.buf[c.rpos:c.Size()]`), String (`c.buf[c.rpos]`, `c.buf[c.rpos:]`),
    MarshalStream (`c.buf[c.rpos:]`, no Empty() check in the source).

  The reservation code (`reslice`, `grow`, `quickSlice`, `checkWriteSize`) and `WriteBytes` are used
  here through the total model; their own panic-outcome versions, with the proof that they agree
  with the total model under `Inv`, are in XMT/ChunkPanicGrow.lean.

  Each `fP_ok` lemma is `fP … = .ok (f …)`: no panic, and the result of the total function.  Its proof
  walks the two bodies side by side (`ite_ok` at an `if`) and discharges each guard where it stands.
  `Payload` and `String` have no total twin: `payloadP_ok` / `stringP_ok` give the value (`none` = the nil
  resp. "<nil>" return on a drained chunk, else the unread bytes).

  data/chunk_heap.go (build tags `windows && heap`, never compiled here) differs in representation
  (`wpos` instead of `len(c.buf)`, `Size() = wpos`, `Reset` keeps the slice, `Truncate` zeroes instead
  of reslicing, `grow` never slides and returns only an error): it is a different program and is
  outside this model (see the `not modelled` list of the C11 method census).
-/
import XMT.ChunkOps
import XMT.ChunkSeq
namespace XMT.Chunk

/-- result of a Go statement sequence that may panic -/
inductive PRes (α : Type)
  | ok (a : α)
  | panic (site : String)
  deriving DecidableEq, Repr

def PRes.bind {α β : Type} : PRes α → (α → PRes β) → PRes β
  | .ok a, f => f a
  | .panic s, _ => .panic s

instance : Monad PRes where
  pure := .ok
  bind := PRes.bind

def PRes.isPanic {α : Type} : PRes α → Bool
  | .panic _ => true
  | .ok _ => false

/-- a Go bounds check -/
def guardP (p : Prop) [Decidable p] (site : String) : PRes Unit := if p then .ok () else .panic site

theorem guardP_pos {p : Prop} [Decidable p] (h : p) (s : String) : guardP p s = .ok () := by
  simp [guardP, h]

@[simp] theorem PRes.ok_bind {α β : Type} (a : α) (f : α → PRes β) : (PRes.ok a >>= f) = f a := rfl
@[simp] theorem PRes.pure_eq {α : Type} (a : α) : (pure a : PRes α) = .ok a := rfl

theorem ite_ok {α : Type} {p : Prop} [Decidable p] {x y : PRes α} {a b : α}
    (hx : p → x = .ok a) (hy : ¬ p → y = .ok b) : (if p then x else y) = .ok (if p then a else b) := by
  split
  · exact hx ‹_›
  · exact hy ‹_›

namespace Chunk

/-- `c.buf[i]` is in range -/
abbrev idxOK (c : Chunk) (i : Int) : Prop := 0 ≤ i ∧ i < (c.len : Int)
/-- `c.buf[i:]` is in range -/
abbrev fromOK (c : Chunk) (i : Int) : Prop := 0 ≤ i ∧ i ≤ (c.len : Int)
/-- `c.buf[:j]` is in range (the bound is the CAPACITY) -/
abbrev toOK (c : Chunk) (j : Int) : Prop := 0 ≤ j ∧ j ≤ (c.cap : Int)
/-- `c.buf[i:j]` is in range -/
abbrev sliceOK (c : Chunk) (i j : Int) : Prop := 0 ≤ i ∧ i ≤ j ∧ j ≤ (c.cap : Int)

/-- `Reset()`: `c.rpos, c.buf = 0, c.buf[:0]` -/
def resetP (c : Chunk) : PRes Chunk := do
  guardP (toOK c 0) "Reset: c.buf[:0]"
  pure c.reset

/-- the positional writers; `guardNeg = true` is the code as it is (fix 6edbaf9), `false` the code
before it (no `if p < 0` test). -/
def writePosP (guardNeg : Bool) (c : Chunk) (p : Int) (b : Bytes) : PRes (Chunk × Option Err) :=
  let k : Int := (b.length : Int) - 1
  if guardNeg = true ∧ p < 0 then pure (c, some .invalidIndex)
  else if p ≥ c.len ∨ p + k ≥ c.len then pure (c, some .eof)
  else if c.limit > 0 ∧ (p ≥ c.limit ∨ p + k ≥ c.limit) then pure (c, some .limit)
  else do
    guardP (idxOK c (p + k)) "WriteUintNPos: _ = c.buf[p+k]"
    guardP (idxOK c p) "WriteUintNPos: c.buf[p] = …"
    pure (poke c p.toNat b, none)

/-- `Read(b)` -/
def readP (c : Chunk) (k : Nat) : PRes (Chunk × Bytes × Option Err) :=
  if c.isEmpty then do
    let c' ← resetP c
    pure (c', [], if k = 0 then none else some .eof)
  else do
    guardP (fromOK c c.rpos) "Read: c.buf[c.rpos:]"
    let got := c.unread.take k
    pure ({ c with rpos := c.rpos + got.length }, got, none)

/-- `Uint8/16/32/64()` -/
def readFixedP (c : Chunk) (k : Nat) : PRes (Chunk × Except Err Bytes) :=
  if c.rpos + k > c.len then pure (c, .error .eof)
  else do
    guardP (idxOK c ((c.rpos : Int) + k - 1)) "UintN: _ = c.buf[c.rpos+k-1]"
    guardP (idxOK c c.rpos) "UintN: c.buf[c.rpos]"
    pure ({ c with rpos := c.rpos + k }, .ok (c.unread.take k))

/-- `Truncate(n)` -/
def truncateP (c : Chunk) (n : Int) : PRes (Chunk × Option Err) :=
  if n = 0 then do
    let c' ← resetP c
    pure (c', none)
  else if n < 0 ∨ n > (c.len : Int) - c.rpos then pure (c, some .invalidIndex)
  else do
    guardP (toOK c ((c.rpos : Int) + n)) "Truncate: c.buf[:c.rpos+n]"
    pure ({ c with len := c.rpos + n.toNat }, none)

/-- `Payload()`: `none` = the nil return -/
def payloadP (c : Chunk) : PRes (Option Bytes) :=
  if c.isEmpty ∨ c.rpos > c.size then pure none
  else do
    guardP (idxOK c ((c.size : Int) - 1)) "Payload: _ = c.buf[c.Size()-1]"
    guardP (sliceOK c c.rpos c.size) "Payload: c.buf[c.rpos:c.Size()]"
    pure (some c.unread)

/-- `String()`: `none` = "<nil>" -/
def stringP (c : Chunk) : PRes (Option Bytes) :=
  if c.isEmpty then pure none
  else do
    guardP (idxOK c c.rpos) "String: _ = c.buf[c.rpos]"
    guardP (fromOK c c.rpos) "String: c.buf[c.rpos:]"
    pure (some c.unread)

/-- the argument `MarshalStream` hands to `w.WriteBytes` (no `Empty()` test in the source) -/
def marshalArgP (c : Chunk) : PRes Bytes := do
  guardP (fromOK c c.rpos) "MarshalStream: c.buf[c.rpos:]"
  pure c.unread

section
variable (cf : Nat → Nat)

/-- `Grow(n)` -/
def growOpP (c : Chunk) (n : Int) : PRes (Chunk × Option Err) :=
  if n ≤ 0 then pure (c, some .invalidIndex)
  else match grow cf c n.toNat with
    | (c, .error e) => pure (c, some e)
    | (c, .ok m) => do
      guardP (toOK c m) "Grow: c.buf[:m]"
      pure ({ c with len := m }, none)

/-- `Write(b)` -/
def writeP (c : Chunk) (b : Bytes) : PRes (Chunk × Nat × Option Err) :=
  match quickSlice cf c b.length with
  | (c, .error e) => pure (c, 0, some e)
  | (c, .ok m) => do
    guardP (fromOK c m) "Write: c.buf[m:]"
    let n := min (c.len - m) b.length
    let c := poke c m (b.take n)
    if n < b.length ∧ c.limit > 0 ∧ (c.len : Int) ≥ c.limit then pure (c, n, some .limit) else pure (c, n, none)

/-- `WriteUint8/16/32/64`, `WriteBool` -/
def writeFixedP (c : Chunk) (b : Bytes) : PRes (Chunk × Option Err) :=
  match checkWriteSize cf c b.length with
  | (c, .error e) => pure (c, some e)
  | (c, .ok i) => do
    guardP (idxOK c ((i : Int) + b.length - 1)) "WriteUintN: _ = c.buf[i+k-1]"
    guardP (idxOK c i) "WriteUintN: c.buf[i] = …"
    pure (poke c i b, none)

/-- one operation, with the panic outcome (`seek` indexes nothing; `bytes` = WriteBytes goes through the
total model, its guarded version is `writeBytesP` in XMT/ChunkPanicGrow.lean) -/
def stepP (c : Chunk) : Op → PRes (Chunk × Out)
  | .write b => do let r ← writeP cf c b; pure (r.1, .wrote r.2.1 r.2.2)
  | .read k => do let r ← readP c k; pure (r.1, .got r.2.1 r.2.2)
  | .fixed b => do let r ← writeFixedP cf c b; pure (r.1, .err r.2)
  | .bytes b => let r := c.writeBytes cf b; pure (r.1, .err r.2)
  | .readFixed k => do
    let r ← readFixedP c k
    pure (r.1, match r.2 with | .ok b => .got b none | .error e => .got [] (some e))
  | .truncate n => do let r ← truncateP c n; pure (r.1, .err r.2)
  | .grow n => do let r ← growOpP cf c n; pure (r.1, .err r.2)
  | .seek o w => let r := c.seek o w; pure (r.1, .off r.2.1 r.2.2)
  | .pos p b => do let r ← writePosP true c p b; pure (r.1, .err r.2)
  | .reset => do let c' ← resetP c; pure (c', .err none)
  | .clear => pure (c.clear, .err none)

def runP (c : Chunk) : List Op → PRes (Chunk × List Out)
  | [] => pure (c, [])
  | op :: ops => do
    let r ← stepP cf c op
    let rs ← runP r.1 ops
    pure (rs.1, r.2 :: rs.2)

end

/-- the widths the Go methods use are at least one byte -/
def OpOKP (op : Op) : Prop :=
  (∀ p b, op = .pos p b → 0 < b.length) ∧ (∀ b, op = .fixed b → 0 < b.length) ∧
  (∀ k, op = .readFixed k → 0 < k)

theorem resetP_ok (c : Chunk) : resetP c = .ok c.reset := by
  unfold resetP
  rw [guardP_pos (by constructor <;> omega)]
  rfl

theorem writePosP_ok (c : Chunk) (p : Int) (b : Bytes) (hb : 0 < b.length) :
    writePosP true c p b = .ok (c.writePos p b) := by
  unfold writePosP writePos
  simp only [true_and]
  refine ite_ok (fun _ => rfl) fun _ => ite_ok (fun _ => rfl) fun _ => ite_ok (fun _ => rfl) fun _ => ?_
  rw [guardP_pos (by constructor <;> omega), guardP_pos (by constructor <;> omega)]
  rfl

theorem readP_ok (c : Chunk) (k : Nat) (h : c.Inv) : readP c k = .ok (c.read k) := by
  unfold readP read
  refine ite_ok (fun _ => by rw [resetP_ok]; rfl) fun _ => ?_
  rw [guardP_pos (by have := h.rl; constructor <;> omega)]
  rfl

theorem readFixedP_ok (c : Chunk) (k : Nat) (hk : 0 < k) : readFixedP c k = .ok (c.readFixed k) := by
  unfold readFixedP readFixed
  refine ite_ok (fun _ => rfl) fun _ => ?_
  rw [guardP_pos (by constructor <;> omega), guardP_pos (by constructor <;> omega)]
  rfl

theorem truncateP_ok (c : Chunk) (n : Int) (h : c.Inv) : truncateP c n = .ok (c.truncate n) := by
  unfold truncateP truncate
  refine ite_ok (fun _ => by rw [resetP_ok]; rfl) fun _ => ite_ok (fun _ => rfl) fun _ => ?_
  rw [guardP_pos (by have := h.lc; have := h.rl; unfold toOK cap; constructor <;> omega)]
  rfl

theorem payloadP_ok (c : Chunk) (h : c.Inv) :
    payloadP c = .ok (if c.isEmpty then none else some c.unread) := by
  unfold payloadP
  split
  · rename_i hc
    rw [if_pos (hc.elim id fun hgt => (isEmpty_iff c).mpr (Nat.le_of_lt hgt))]
    rfl
  · rename_i hc
    have : ¬ c.len ≤ c.rpos := fun hh => hc (Or.inl ((isEmpty_iff c).mpr hh))
    rw [guardP_pos (by unfold size; constructor <;> omega),
      guardP_pos (by have := h.lc; unfold sliceOK size cap; refine ⟨?_, ?_, ?_⟩ <;> omega),
      if_neg fun he => hc (Or.inl he)]
    rfl

theorem stringP_ok (c : Chunk) : stringP c = .ok (if c.isEmpty then none else some c.unread) := by
  unfold stringP
  split
  · rfl
  · rename_i hc
    have : ¬ c.len ≤ c.rpos := fun hh => hc ((isEmpty_iff c).mpr hh)
    rw [guardP_pos (by constructor <;> omega), guardP_pos (by constructor <;> omega)]
    rfl

theorem marshalArgP_ok (c : Chunk) (h : c.Inv) : marshalArgP c = .ok c.unread := by
  unfold marshalArgP
  rw [guardP_pos (by have := h.rl; constructor <;> omega)]
  rfl

variable (cf : Nat → Nat)

theorem growOpP_ok (c : Chunk) (n : Int) (h : c.Inv) : growOpP cf c n = .ok (c.growOp cf n) := by
  unfold growOpP growOp
  refine ite_ok (fun _ => rfl) fun _ => ?_
  rcases hq : grow cf c n.toNat with ⟨c1, e1 | m⟩
  · rfl
  · have r := grow_ok h hq
    dsimp only
    rw [guardP_pos (by have := r.idx; have := r.inv.lc; unfold toOK cap; constructor <;> omega)]
    rfl

theorem writeP_ok (c : Chunk) (b : Bytes) (h : c.Inv) : writeP cf c b = .ok (c.write cf b) := by
  unfold writeP write
  rcases hq : quickSlice cf c b.length with ⟨c1, e1 | m⟩
  · rfl
  · have r := quickSlice_ok h hq
    dsimp only
    rw [guardP_pos (by have := r.idx; constructor <;> omega)]
    exact ite_ok (fun _ => rfl) fun _ => rfl

theorem writeFixedP_ok (c : Chunk) (b : Bytes) (hb : 0 < b.length) (h : c.Inv) :
    writeFixedP cf c b = .ok (c.writeFixed cf b) := by
  unfold writeFixedP writeFixed
  rcases hq : checkWriteSize cf c b.length with ⟨c1, e1 | i⟩
  · rfl
  · obtain ⟨_, hl⟩ := checkWriteSize_ok h hq
    dsimp only
    rw [guardP_pos (by constructor <;> omega), guardP_pos (by constructor <;> omega)]
    rfl

theorem stepP_ok (c : Chunk) (op : Op) (hop : OpOKP op) (h : c.Inv) :
    stepP cf c op = .ok (step cf c op) := by
  cases op with
  | write b => simp only [stepP, step, writeP_ok cf c b h]; rfl
  | read k => simp only [stepP, step, readP_ok c k h]; rfl
  | fixed b => simp only [stepP, step, writeFixedP_ok cf c b (hop.2.1 b rfl) h]; rfl
  | bytes b => rfl
  | readFixed k => simp only [stepP, step, readFixedP_ok c k (hop.2.2 k rfl)]; rfl
  | truncate n => simp only [stepP, step, truncateP_ok c n h]; rfl
  | grow n => simp only [stepP, step, growOpP_ok cf c n h]; rfl
  | seek o w => rfl
  | pos p b => simp only [stepP, step, writePosP_ok c p b (hop.1 p b rfl)]; rfl
  | reset => simp only [stepP, step, resetP_ok]; rfl
  | clear => rfl

end Chunk
end XMT.Chunk
