/-
  XMT.CfgTotal — totality of the profile parser model (lemmas for Props/C09): `Safe`, the checked
  accesses as functions of the bytes, and what `next` and `stride` return (`nextV`, `stride_eq`).
  That no entry point panics or runs out of fuel is proved where each is analysed: Validate and Build
  in CfgEquiv (run side by side), Groups and Group in CfgGroups, MarshalJSON and String in
  CfgJsonTotal.
-/
import XMT.Cfg
namespace XMT.Cfg

@[simp] theorem ok_bind {α β} (a : α) (f : α → M β) : (Except.ok a >>= f) = f a := rfl
@[simp] theorem pure_bind' {α β} (a : α) (f : α → M β) : ((pure a : M α) >>= f) = f a := rfl
@[simp] theorem err_bind {α β} (e : Fault) (f : α → M β) :
    ((Except.error e : M α) >>= f) = Except.error e := rfl
@[simp] theorem inv_bind {α β} (l) (f : α → M β) : ((inv l : M α) >>= f) = inv l := rfl
@[simp] theorem multiConn_bind {α β} (l) (f : α → M β) : ((multiConn l : M α) >>= f) = multiConn l := rfl
@[simp] theorem multiTrans_bind {α β} (l) (f : α → M β) : ((multiTrans l : M α) >>= f) = multiTrans l := rfl
@[simp] theorem extErr_bind {α β} (l) (f : α → M β) : ((extErr l : M α) >>= f) = extErr l := rfl

@[simp] theorem ok_map {α β} (a : α) (f : α → β) : (f <$> (Except.ok a : M α)) = Except.ok (f a) := rfl
@[simp] theorem err_map {α β} (e : Fault) (f : α → β) :
    (f <$> (Except.error e : M α)) = Except.error e := rfl

theorem pure_ok {α} (a : α) : (pure a : M α) = Except.ok a := rfl

/-- Returns a value or a package error: no panic, no divergence. -/
def Safe {α} : M α → Prop
  | .ok _ => True
  | .error (.err _ _) => True
  | .error (.panic _) => False
  | .error .diverge => False

@[simp] theorem safe_ok {α} (a : α) : Safe (Except.ok a : M α) = True := rfl
@[simp] theorem safe_pure {α} (a : α) : Safe (pure a : M α) = True := rfl
@[simp] theorem safe_err {α} (l k) : Safe (Except.error (.err l k) : M α) = True := rfl
@[simp] theorem safe_inv {α} (l) : Safe (inv l : M α) = True := rfl
@[simp] theorem safe_multiConn {α} (l) : Safe (multiConn l : M α) = True := rfl
@[simp] theorem safe_multiTrans {α} (l) : Safe (multiTrans l : M α) = True := rfl
@[simp] theorem safe_extErr {α} (l) : Safe (extErr l : M α) = True := rfl

theorem safe_bind {α β} {x : M α} {f : α → M β} (hx : Safe x) (hf : ∀ a, Safe (f a)) :
    Safe (x >>= f) := by
  cases x with
  | ok a => exact hf a
  | error e => cases e <;> first | trivial | exact hx

theorem safe_bind_pure {α β} {x : M α} {f : α → β} : Safe (x >>= fun a => pure (f a)) ↔ Safe x := by
  cases x with
  | ok a => exact Iff.rfl
  | error e => cases e <;> exact Iff.rfl

theorem safe_of_ok {α} {x : M α} (h : ∃ a, x = .ok a) : Safe x := by
  obtain ⟨a, rfl⟩ := h; trivial

theorem safe_ite {α} {p : Prop} [Decidable p] {a b : M α} (ha : p → Safe a) (hb : ¬p → Safe b) :
    Safe (if p then a else b) :=
  iteInduction ha hb

theorem safe_guard {α} {p : Prop} [Decidable p] {l : String} {k : ErrK} {x : M α} (h : ¬p → Safe x) :
    Safe (if p then .error (.err l k) else x) :=
  safe_ite (fun _ => trivial) h

/-- The shape a `switch` arm `if i + k ≥ n then inv l else x` takes once `Safe` has been pushed
through the `if`s by `apply_ite Safe`. -/
theorem safe_ite_guard {α} (i k n : Nat) {x : M α} (h : ¬ i + k ≥ n → Safe x) :
    (if i + k ≥ n then True else Safe x) = True := by
  split
  · rfl
  · exact eq_true (h ‹_›)

/-- proof-side reading of a byte (never used by the model) -/
def rdv (c : Bytes) (k : Nat) : Nat := (c.getD k 0).toNat

theorem rdv_getElem {c : Bytes} {k : Nat} (h : k < c.length) : rdv c k = c[k].toNat := by
  unfold rdv; rw [List.getD_eq_getElem?_getD, List.getElem?_eq_getElem h]; rfl

theorem rd_ok {c : Bytes} {k : Nat} (h : k < c.length) : rd c k = .ok (rdv c k) := by
  unfold rd; rw [List.getElem?_eq_getElem h, rdv_getElem h]

theorem rd_safe {c : Bytes} {k : Nat} (h : k < c.length) : Safe (rd c k) := by rw [rd_ok h]; trivial

theorem rdv_lt (c : Bytes) (k : Nat) : rdv c k < 256 := UInt8.toNat_lt _

def rdv16 (c : Bytes) (k : Nat) : Nat := rdv c (k + 1) ||| (rdv c k <<< 8)

theorem rd16_ok {c : Bytes} {k : Nat} (h : k + 1 < c.length) : rd16 c k = .ok (rdv16 c k) := by
  unfold rd16
  rw [rd_ok (by omega : k < c.length), rd_ok h]; rfl

theorem rdv16_eq (c : Bytes) (k : Nat) : rdv16 c k = rdv c (k + 1) + rdv c k * 256 := ofBe16_eq _ _

theorem rdv16_lt (c : Bytes) (k : Nat) : rdv16 c k < 65536 := ofBe16_lt _ _

theorem slice_ok {c : Bytes} {a b : Nat} (h1 : a ≤ b) (h2 : b ≤ c.length) :
    slice c a b = .ok ((c.drop a).take (b - a)) := by
  unfold slice; simp [h1, h2]

theorem slice_ok_len (c : Bytes) (a b : Nat) (h1 : a ≤ b) (h2 : b ≤ c.length) :
    ∃ r, slice c a b = .ok r ∧ r.length = b - a :=
  ⟨_, slice_ok h1 h2, by simp only [List.length_take, List.length_drop]; omega⟩

theorem slice_safe {c : Bytes} {a b : Nat} (h1 : a ≤ b) (h2 : b ≤ c.length) : Safe (slice c a b) := by
  rw [slice_ok h1 h2]; trivial

theorem rd64_ok (c : Bytes) (i : Nat) (h : i + 8 < c.length) : ∃ u, rd64 c i = .ok u := by
  unfold rd64
  rw [rd_ok (by omega : i + 8 < c.length), rd_ok (by omega : i + 7 < c.length),
    rd_ok (by omega : i + 6 < c.length), rd_ok (by omega : i + 5 < c.length),
    rd_ok (by omega : i + 4 < c.length), rd_ok (by omega : i + 3 < c.length),
    rd_ok (by omega : i + 2 < c.length), rd_ok (by omega : i + 1 < c.length)]
  exact ⟨_, rfl⟩

theorem rd32_ok (c : Bytes) (i : Nat) (h : i + 4 < c.length) : ∃ u, rd32 c i = .ok u := by
  unfold rd32
  rw [rd_ok (by omega : i + 4 < c.length), rd_ok (by omega : i + 3 < c.length),
    rd_ok (by omega : i + 2 < c.length), rd_ok (by omega : i + 1 < c.length)]
  exact ⟨_, rfl⟩

def dnsEnd (c : Bytes) : Nat → Nat → Nat
  | 0, n => n
  | x + 1, n => if n < c.length then dnsEnd c x (n + (rdv c n + 1)) else n

theorem nextDNS_eq (c : Bytes) : ∀ x n, nextDNS c x n = .ok (dnsEnd c x n) := by
  intro x
  induction x with
  | zero => intro n; rfl
  | succ x ih =>
    intro n
    unfold nextDNS dnsEnd
    split
    · rename_i h; rw [rd_ok h]; exact ih _
    · rfl

theorem dnsEnd_ge (c : Bytes) : ∀ x n, n ≤ dnsEnd c x n := by
  intro x
  induction x with
  | zero => intro n; exact Nat.le_refl n
  | succ x ih =>
    intro n
    unfold dnsEnd
    split
    · have := ih (n + (rdv c n + 1)); omega
    · omega

def wc2HdrEnd (c : Bytes) : Nat → Nat → Option Nat
  | 0, n => some n
  | x + 1, n =>
    if n < c.length ∧ n > 0 then
      if n + 1 ≥ c.length then none else wc2HdrEnd c x (n + (rdv c n + rdv c (n + 1) + 2))
    else some n

theorem nextWC2Hdr_eq (c : Bytes) : ∀ x n, nextWC2Hdr c x n = .ok (wc2HdrEnd c x n) := by
  intro x
  induction x with
  | zero => intro n; rfl
  | succ x ih =>
    intro n
    unfold nextWC2Hdr wc2HdrEnd
    split
    · split
      · rfl
      · rw [rd_ok (by omega), rd_ok (by omega)]; exact ih _
    · rfl

theorem wc2HdrEnd_ge (c : Bytes) : ∀ x n r, wc2HdrEnd c x n = some r → n ≤ r := by
  intro x
  induction x with
  | zero => intro n r h; cases h; exact Nat.le_refl n
  | succ x ih =>
    intro n r h
    unfold wc2HdrEnd at h
    split at h
    · split at h
      · cases h
      · have := ih _ _ h; omega
    · cases h; exact Nat.le_refl n

/-! What the arms of `next` with a function of their own return, as functions of the bytes. -/

def nextWC2V (c : Bytes) (i : Nat) : Option Nat :=
  if i + 7 ≥ c.length then none
  else if i + 8 + rdv16 c (i + 1) + rdv16 c (i + 3) + rdv16 c (i + 5) ≥ c.length then none
  else if rdv c (i + 7) = 0 then some (i + 8 + rdv16 c (i + 1) + rdv16 c (i + 3) + rdv16 c (i + 5))
  else wc2HdrEnd c (rdv c (i + 7)) (i + 8 + rdv16 c (i + 1) + rdv16 c (i + 3) + rdv16 c (i + 5))

def nextXorHostV (c : Bytes) (i : Nat) : Option Nat :=
  if i + 3 ≥ c.length then none else some (i + 3 + rdv16 c (i + 1))

def nextAESV (c : Bytes) (i : Nat) : Option Nat :=
  if i + 3 ≥ c.length then none else some (i + 3 + rdv c (i + 1) + rdv c (i + 2))

def nextMuTLSV (c : Bytes) (i : Nat) : Option Nat :=
  if i + 7 ≥ c.length then none else some (i + 8 + rdv16 c (i + 2) + rdv16 c (i + 4) + rdv16 c (i + 6))

def nextTLSxCAV (c : Bytes) (i : Nat) : Option Nat :=
  if i + 3 ≥ c.length then none else some (i + 4 + rdv16 c (i + 2))

def nextTLSCertV (c : Bytes) (i : Nat) : Option Nat :=
  if i + 6 ≥ c.length then none else some (i + 6 + rdv16 c (i + 2) + rdv16 c (i + 4))

def nextDNSArmV (c : Bytes) (i : Nat) : Option Nat :=
  if i + 1 ≥ c.length then none else some (dnsEnd c (rdv c (i + 1)) (i + 2))

/-- what `next c i` returns for `i < len(c)`, on the tag `t = c[i]` -/
def nextArmV (c : Bytes) (i t : Nat) : Option Nat :=
  if stride1.contains t then some (i + 1)
  else if stride2.contains t then some (i + 2)
  else if t = tCBK ∨ t = tWorkHours then some (i + 6)
  else if t = tSleep ∨ t = tKillDate then some (i + 9)
  else if t = tKeyPin then some (i + 5)
  else if t = tWC2 then nextWC2V c i
  else if t = tXOR ∨ t = tHost then nextXorHostV c i
  else if t = tAES then nextAESV c i
  else if t = tMuTLS then nextMuTLSV c i
  else if t = tTLSxCA then nextTLSxCAV c i
  else if t = tTLSCert then nextTLSCertV c i
  else if t = tDNS then nextDNSArmV c i
  else none

theorem nextWC2_eq (c : Bytes) (i : Nat) : nextWC2 c i = .ok (nextWC2V c i) := by
  unfold nextWC2 nextWC2V
  split
  · rfl
  · rw [rd_ok (by omega), rd16_ok (by omega), rd16_ok (by omega), rd16_ok (by omega)]
    simp only [ok_bind]
    split
    · rfl
    · rw [rd_ok (by omega)]
      simp only [ok_bind]
      split
      · rfl
      · exact nextWC2Hdr_eq _ _ _

theorem nextXorHost_eq (c : Bytes) (i : Nat) : nextXorHost c i = .ok (nextXorHostV c i) := by
  unfold nextXorHost nextXorHostV
  split
  · rfl
  · rw [rd_ok (by omega), rd16_ok (by omega)]; rfl

theorem nextAES_eq (c : Bytes) (i : Nat) : nextAES c i = .ok (nextAESV c i) := by
  unfold nextAES nextAESV
  split
  · rfl
  · rw [rd_ok (by omega : i + 2 < c.length), rd_ok (by omega : i + 1 < c.length)]; rfl

theorem nextMuTLS_eq (c : Bytes) (i : Nat) : nextMuTLS c i = .ok (nextMuTLSV c i) := by
  unfold nextMuTLS nextMuTLSV
  split
  · rfl
  · rw [rd_ok (by omega), rd16_ok (by omega), rd16_ok (by omega), rd16_ok (by omega)]; rfl

theorem nextTLSxCA_eq (c : Bytes) (i : Nat) : nextTLSxCA c i = .ok (nextTLSxCAV c i) := by
  unfold nextTLSxCA nextTLSxCAV
  split
  · rfl
  · rw [rd_ok (by omega), rd16_ok (by omega)]; rfl

theorem nextTLSCert_eq (c : Bytes) (i : Nat) : nextTLSCert c i = .ok (nextTLSCertV c i) := by
  unfold nextTLSCert nextTLSCertV
  split
  · rfl
  · rw [rd_ok (by omega), rd16_ok (by omega), rd16_ok (by omega)]; rfl

theorem nextDNSArm_eq (c : Bytes) (i : Nat) : nextDNSArm c i = .ok (nextDNSArmV c i) := by
  unfold nextDNSArm nextDNSArmV
  split
  · rfl
  · rw [rd_ok (by omega)]
    simp only [ok_bind]
    rw [nextDNS_eq]; rfl

theorem nextArm_eq (c : Bytes) (i t : Nat) : nextArm c i t = .ok (nextArmV c i t) := by
  simp only [nextArm, nextArmV, nextWC2_eq, nextXorHost_eq, nextAES_eq, nextMuTLS_eq, nextTLSxCA_eq,
    nextTLSCert_eq, nextDNSArm_eq, pure_ok, apply_ite (Except.ok (ε := Fault))]

/-- what `next c i` returns for `i < len(c)` -/
def nextV (c : Bytes) (i : Nat) : Option Nat := nextArmV c i (rdv c i)

theorem nextV_of_tag {c : Bytes} {i t : Nat} (h : rdv c i = t) : nextV c i = nextArmV c i t := by
  subst h; rfl

theorem next_eq (c : Bytes) (i : Nat) (hi : i < c.length) : next c i = .ok (nextV c i) := by
  unfold next
  rw [if_neg (by omega), rd_ok hi]
  exact nextArm_eq _ _ _

/-- `next` returns normally at every offset other than `len(c)` (where the source indexes `c[i]`
unguarded; no caller passes it). -/
theorem next_ok (c : Bytes) (i : Nat) (hi : i ≠ c.length) : ∃ r, next c i = .ok r := by
  by_cases h : i < c.length
  · exact ⟨_, next_eq c i h⟩
  · exact ⟨none, by unfold next; rw [if_pos (by omega)]; rfl⟩

theorem ite_some_gt {p : Prop} [Decidable p] {a b : Option Nat} {i : Nat}
    (ha : ∀ r, a = some r → i < r) (hb : ∀ r, b = some r → i < r) :
    ∀ r, (if p then a else b) = some r → i < r := by
  split <;> assumption

/-- Every arm returns `i + k` with `k ≥ 1` plus lengths read from the bytes; the two header loops only
move forward (`wc2HdrEnd_ge`, `dnsEnd_ge`). -/
theorem nextArmV_gt (c : Bytes) (i t : Nat) : ∀ r, nextArmV c i t = some r → i < r := by
  unfold nextArmV nextWC2V nextXorHostV nextAESV nextMuTLSV nextTLSxCAV nextTLSCertV nextDNSArmV
  repeat' (with_reducible apply ite_some_gt)
  all_goals first
    | (intro r h; cases h; omega)
    | (intro r h; cases h; done)
    | (intro r h; have := wc2HdrEnd_ge _ _ _ _ h; omega)
    | (intro r h; cases h; have := dnsEnd_ge c (rdv c (i + 1)) (i + 2); omega)

theorem nextV_gt {c : Bytes} {i r : Nat} (h : nextV c i = some r) : i < r := nextArmV_gt c i _ r h

theorem clamp_none (c : Bytes) (i : Nat) : clamp c i none = c.length := rfl

theorem clamp_some {c : Bytes} {i n : Nat} (h : i < n) : clamp c i (some n) = min n c.length := by
  unfold clamp
  simp only
  split <;> omega

theorem clamp_bounds (c : Bytes) (i : Nat) (r : Option Nat) (hi : i < c.length) :
    i < clamp c i r ∧ clamp c i r ≤ c.length := by
  unfold clamp
  cases r with
  | none => exact ⟨hi, Nat.le_refl _⟩
  | some n =>
    simp only
    split <;> omega

theorem stride_eq (c : Bytes) (i : Nat) (hi : i < c.length) : stride c i = .ok (clamp c i (nextV c i)) := by
  have hb := clamp_bounds c i (nextV c i) hi
  unfold stride
  rw [next_eq c i hi]
  simp only [ok_bind]
  rw [rd_ok (by omega)]
  rfl

theorem stride_ok (c : Bytes) (i : Nat) (hi : i < c.length) :
    ∃ n, stride c i = .ok n ∧ i < n ∧ n ≤ c.length :=
  ⟨_, stride_eq c i hi, clamp_bounds c i _ hi⟩

end XMT.Cfg
