/-
  XMT.InfoOrder — lemmas for the order → effect → echo path (server setter, client MvTime / MvProfile
  handler, absorption of the echo), and the example sessions used as non-vacuity instances and as the
  witness for the repaired KeyPair reader.
-/
import XMT.InfoRoundtrip

namespace XMT.Info
open XMT.Codec

/-- "The server's view equals the client's": jitter and sleep exactly, the kill date at the
resolution it travels with (whole seconds, epoch 0 = none), work hours up to nil ↔ `Empty()`. -/
def Synced (srv cli : Session) : Prop :=
  srv.jitter = cli.jitter ∧ srv.sleep = cli.sleep ∧ srv.kill = normKill cli.kill ∧
  srv.work = normWork cli.work

/-- `infoSync` against the guards of `writeItems` / `readInfoWith` / `absorb`: not the proxy update, no
head, no proxy section, no keys. -/
theorem sync_kind_facts :
    Facts.c12_infoSync ≠ Facts.c12_infoProxy ∧
    ¬ (Facts.c12_infoSync = Facts.c12_infoHello ∨ Facts.c12_infoSync = Facts.c12_infoRefresh ∨
      Facts.c12_infoSync = Facts.c12_infoSyncMigrate) ∧
    Facts.c12_infoSync ≠ Facts.c12_infoMigrate ∧ Facts.c12_infoSync > Facts.c12_infoRefresh := by
  decide

theorem WF_sync {s : Session} (h : SettingsWF s) : WF Facts.c12_infoSync s := by
  obtain ⟨k1, k2, k3, k4⟩ := sync_kind_facts
  rw [WF, if_neg k1]
  exact ⟨(absurd · k2), fun _ => (absurd · k3), h, (absurd k4 ·)⟩

theorem writeInfo_sync (s : Session) :
    writeInfo Facts.c12_infoSync s = .ok (encItems (settingsItems s)) := by
  obtain ⟨k1, k2, k3, k4⟩ := sync_kind_facts
  simp only [writeInfo, writeItems, headItems, if_neg k1, if_neg k2, if_neg k3, if_pos k4,
    List.nil_append]
  rfl

theorem echoSync_eq (s : Session) : echoSync s = encItems (settingsItems s) := by
  rw [echoSync, writeInfo_sync]

theorem absorb_sync (snd rcv : Session) :
    absorb Facts.c12_infoSync snd rcv = (absorbSettings snd rcv, []) := by
  obtain ⟨k1, k2, k3, k4⟩ := sync_kind_facts
  rw [absorb, if_neg k1, if_pos k4, absorbHead, if_neg k2, if_neg k3]

theorem synced_absorbSettings {cli srv : Session} : Synced (absorbSettings cli srv) cli :=
  ⟨rfl, rfl, rfl, rfl⟩

theorem echo_absorbed (srv1 cli' : Session) (hw : SettingsWF cli') :
    Reads id (fun _ => True) (readInfo chunkX Facts.c12_infoSync srv1) (echoSync cli')
      (absorbSettings cli' srv1, []) := by
  obtain ⟨bs, hwr, hr⟩ := reads_info chunkX_lawful Facts.c12_infoSync cli' srv1 (WF_sync hw)
  rw [writeInfo_sync] at hwr
  cases hwr
  rw [echoSync_eq, ← absorb_sync]
  exact hr

/-- completion of an order once the client handler is known to read the payload: the client is what
the handler returns, the server what it was with the client's settings (`synced_absorbSettings`) -/
theorem orderVia_ok {handler : M Bytes Session} {cli' : Session} {payload : Bytes} (srv1 : Session)
    (hm : Reads id (fun _ => True) handler payload cli') (hw : SettingsWF cli') :
    orderVia handler srv1 payload = .ok (absorbSettings cli' srv1, cli') := by
  have e2 := (echo_absorbed srv1 cli' hw).chunk []
  have e := hm.chunk []
  rw [List.append_nil] at e e2
  simp only [orderVia, StateT.run, e] at e2 ⊢
  simp only [e2]

/-- The MvTime payload `SetDuration` builds: tag 0 (the high byte of the jitter written as `uint16`),
the jitter byte and the sleep the server now holds. -/
theorem setDuration_snd (srv : Session) (t j : Int) :
    (setDuration srv t j).2 = [0] ++ ([(setDuration srv t j).1.jitter] ++
      be64 (toU64 (setDuration srv t j).1.sleep)) := by
  have h8 : ∀ b : UInt8, b.toNat >>> 8 = 0 := fun b => by
    have := UInt8.toNat_lt b
    rw [Nat.shiftRight_eq_div_pow]; omega
  simp only [setDuration, be16, h8, byteOf_toNat_eq]
  rfl

/-- The MvTime payload `SetKillDate` builds: the tag and the kill date as it travels everywhere. -/
theorem setKillDate_snd (srv : Session) (k : Time) :
    (setKillDate srv k).2 = [byteOf Facts.c12_timeKillDate] ++ be64 (toU64 (killWire k)) := by
  simp only [setKillDate, killWire]
  split <;> rfl

/-- What the order path needs of the three `time*` tags: each travels as one byte and selects its own
arm of `muxTime`. -/
structure TimeTagsOK : Prop where
  sleep : (0 : UInt8).toNat = Facts.c12_timeSleepJitter
  kill : (byteOf Facts.c12_timeKillDate).toNat = Facts.c12_timeKillDate
  kill_ne_sleep : (byteOf Facts.c12_timeKillDate).toNat ≠ Facts.c12_timeSleepJitter
  work : (byteOf Facts.c12_timeWorkHours).toNat = Facts.c12_timeWorkHours
  work_ne_sleep : (byteOf Facts.c12_timeWorkHours).toNat ≠ Facts.c12_timeSleepJitter
  work_ne_kill : (byteOf Facts.c12_timeWorkHours).toNat ≠ Facts.c12_timeKillDate

theorem timeTagsOK : TimeTagsOK := by
  constructor <;> decide

/-- the jitter the client ends up with when the order carries the byte `jb` -/
def clientJitter (cur jb : UInt8) : UInt8 :=
  if int8Of jb = -1 then cur else if int8Of jb > 100 then 100 else if int8Of jb < 0 then 0 else jb

theorem clientJitter_of_le {cur jb : UInt8} (h : jb.toNat ≤ 100) : clientJitter cur jb = jb := by
  have : int8Of jb = jb.toNat := by unfold int8Of; split <;> omega
  rw [clientJitter, if_neg (by omega), if_neg (by omega), if_neg (by omega)]

theorem muxTime_duration (cli : Session) (jb : UInt8) (d : Int) (hd : I64 d) :
    Reads id (fun _ => True) (muxTime cli) ([0] ++ ([jb] ++ be64 (toU64 d)))
      { cli with jitter := clientJitter cli.jitter jb, sleep := if d > 0 then d else cli.sleep } := by
  refine (chunkX_lawful.reads_u8 0).bind ?_
  rw [if_pos timeTagsOK.sleep]
  exact (chunkX_lawful.reads_u8 jb).bind (Reads.map _ (chunkX_lawful.reads_i64 d hd))

theorem muxTime_kill (cli : Session) (u : Int) (hu : I64 u) :
    Reads id (fun _ => True) (muxTime cli) ([byteOf Facts.c12_timeKillDate] ++ be64 (toU64 u))
      { cli with kill := killOfWire u } := by
  refine (chunkX_lawful.reads_u8 _).bind ?_
  rw [if_neg timeTagsOK.kill_ne_sleep, if_pos timeTagsOK.kill]
  exact Reads.map _ (chunkX_lawful.reads_i64 u hu)

theorem muxTime_work (cli : Session) (w : WorkHours) :
    Reads id (fun _ => True) (muxTime cli)
      ([byteOf Facts.c12_timeWorkHours] ++ encItems (workItems w))
      { cli with work := workOfWire w } := by
  refine (chunkX_lawful.reads_u8 _).bind ?_
  rw [if_neg timeTagsOK.work_ne_sleep, if_neg timeTagsOK.work_ne_kill, if_pos timeTagsOK.work]
  exact Reads.map _ (reads_work chunkX_lawful w)

theorem muxProfile_ok (parseOK : Bytes → Bool) (cli : Session) (b : Bytes)
    (hb : b.length ≤ Facts.maxSlice) (hp : parseOK b = true) :
    Reads id (fun _ => True) (muxProfile parseOK cli) (setProfilePayload b) cli := by
  refine (chunkX_lawful.reads_str b hb).bind_nil ?_
  rw [if_pos hp]
  exact Reads.pure cli

/-! ### example sessions (non-vacuity) and the stream that splits the public key -/

deriving instance DecidableEq for Except

def exampleSession : Session where
  device := { id := List.replicate 32 7, system := 0x21, pid := 4000000000, ppid := 1, user := [114, 111, 111, 116],
              version := [49, 46, 48], hostname := [], elevated := 0x81, caps := 65536,
              network := [⟨[101, 116, 104, 48], 0x0242ac110002, [⟨0, 0xffffac110002⟩, ⟨0xfe80000000000000, 1⟩]⟩,
                          ⟨[], 0, []⟩] }
  id := List.replicate 32 9
  jitter := 100
  sleep := 1000000000
  kill := ⟨1700000000, 0⟩
  work := some ⟨62, 9, 0, 17, 30⟩
  client := true
  proxy := some ⟨[112], [58, 56, 48], some [1, 2, 3], true⟩
  keys := ⟨List.replicate 133 4, List.replicate 66 5, List.replicate 65 6⟩

def exampleReceiver : Session where
  device := { id := List.replicate 32 1, system := 0, pid := 0, ppid := 0, user := [], version := [],
              hostname := [], elevated := 0, caps := 0, network := [] }
  id := List.replicate 32 2
  jitter := 5
  sleep := -1
  kill := Time.zero
  work := none
  client := false
  proxy := none
  keys := ⟨List.replicate 133 0, List.replicate 66 0, List.replicate 65 0⟩

theorem exampleSession_WF :
    WF Facts.c12_infoHello exampleSession ∧ WF Facts.c12_infoMigrate exampleSession ∧
    WF Facts.c12_infoProxy exampleSession ∧ WF Facts.c12_infoSync exampleSession := by
  refine ⟨?_, ?_, ?_, ?_⟩ <;> decide +kernel

def exampleMigrateBytes : Bytes :=
  match writeInfo Facts.c12_infoMigrate exampleSession with
  | .ok b => b
  | .error _ => []

/-- split a byte string after its first `n` bytes into two pieces (dropping an empty piece) -/
def splitAt2 (n : Nat) (b : Bytes) : Stream := [b.take n, b.drop n].filter (· ≠ [])

theorem splitAt2_noEmpty (n : Nat) (b : Bytes) : NoEmpty (splitAt2 n b) :=
  fun _ hc => of_decide_eq_true (List.mem_filter.mp hc).2

theorem splitAt2_flatten (n : Nat) (b : Bytes) : (splitAt2 n b).flatten = b := by
  rw [splitAt2, List.flatten_filter_ne_nil]
  simp

end XMT.Info
