/-
  XMT.ChunkLemmas — the representation invariant of a chunk and what the reservation code
  (`reslice`, `grow`, `quickSlice`, `checkWriteSize`) guarantees: a successful reservation is a
  `Reserve`, a failed one returns `growPre c` (which is `Kept`).
-/
import XMT.Chunk
namespace XMT.Chunk

/-- one level of an `if` cascade whose value is known: which branch, and the rest of the equation -/
theorem ite_cases {α : Type} {p : Prop} [Decidable p] {a b r : α} (h : (if p then a else b) = r) :
    (p ∧ a = r) ∨ (¬ p ∧ b = r) := by
  split at h
  · exact Or.inl ⟨‹_›, h⟩
  · exact Or.inr ⟨‹_›, h⟩

namespace Chunk

/-- Representation invariant of a chunk. -/
structure Inv (c : Chunk) : Prop where
  rl : c.rpos ≤ c.len
  lc : c.len ≤ c.arr.length
  lim : c.limit > 0 → (c.len : Int) ≤ c.limit
  nil : c.isNil = true → c.arr = []

theorem inv_empty (l : Int) : (empty l).Inv :=
  ⟨Nat.le_refl _, Nat.le_refl _, fun h => Int.le_of_lt h, fun _ => rfl⟩

theorem inv_ofBytes (b : Bytes) : (ofBytes b).Inv :=
  ⟨Nat.zero_le _, Nat.le_refl _, fun h => absurd h (Int.lt_irrefl 0), nofun⟩

theorem unread_empty (l : Int) : (empty l).unread = [] := rfl

theorem zeros_length (n : Nat) : (zeros n).length = n := List.length_replicate

theorem Inv.window {c : Chunk} (h : c.Inv) {r l : Nat} (hr : r ≤ l) (hl : l ≤ c.len) :
    ({ c with rpos := r, len := l } : Chunk).Inv :=
  ⟨hr, Nat.le_trans hl h.lc, fun hp => by have := h.lim hp; simp only; omega, h.nil⟩

theorem Inv.nil_len {c : Chunk} (h : c.Inv) (hn : c.isNil = true) : c.len = 0 := by
  have := h.lc; rw [h.nil hn] at this; exact Nat.le_zero.mp this

theorem view_length {c : Chunk} (h : c.Inv) : c.view.length = c.len := by
  rw [view, List.length_take, Nat.min_eq_left h.lc]

theorem unread_length {c : Chunk} (h : c.Inv) : c.unread.length = c.len - c.rpos := by
  rw [unread, List.length_drop, List.length_take, Nat.min_eq_left h.lc]

theorem unread_eq_view_drop (c : Chunk) : c.unread = c.view.drop c.rpos := rfl

theorem unread_nil {c : Chunk} (h : c.len ≤ c.rpos) : c.unread = [] :=
  List.drop_eq_nil_of_le (by rw [List.length_take]; omega)

theorem isEmpty_iff (c : Chunk) : c.isEmpty = true ↔ c.len ≤ c.rpos := decide_eq_true_iff

/-- result specification shared by `reslice`, `grow`, `quickSlice`: room for up to `n` bytes was
reserved at index `i`, the unread bytes are intact in front of it. -/
structure Reserve (c c' : Chunk) (n i : Nat) : Prop where
  inv : c'.Inv
  limit : c'.limit = c.limit
  unread : (c'.arr.take i).drop c'.rpos = c.unread
  ir : c'.rpos ≤ i
  idx : i ≤ c'.len
  room : c'.len ≤ i + n
  roomFull : (c.limit ≤ 0 ∨ (c.len : Int) + n < c.limit) → c'.len = i + n
  clamped : c'.len < i + n → (c'.len : Int) = c.limit
  ix : c.len - c.rpos ≤ i
  rp : c'.rpos = c.rpos ∨ c'.rpos = 0

/-- `Reserve` without what it says about the clamp under a limit (`roomFull` only for `limit ≤ 0`, no
`clamped`, `ix`, `rp`). The reservation lemmas below all give the full `Reserve`. -/
structure GrowSpec (c c' : Chunk) (n i : Nat) : Prop where
  inv : c'.Inv
  limit : c'.limit = c.limit
  unread : (c'.arr.take i).drop c'.rpos = c.unread
  idx : i ≤ c'.len
  room : c'.len ≤ i + n
  roomFull : c.limit ≤ 0 → c'.len = i + n
  ir : c'.rpos ≤ i

/-- an operation that failed (or only rewound an empty buffer) kept the queue content -/
structure Kept (c c' : Chunk) : Prop where
  inv : c'.Inv
  limit : c'.limit = c.limit
  unread : c'.unread = c.unread
  len_le : c'.len ≤ c.len
  rp : c'.rpos = c.rpos ∨ c'.rpos = 0

theorem Kept.refl {c : Chunk} (h : c.Inv) : Kept c c := ⟨h, rfl, rfl, Nat.le_refl _, Or.inl rfl⟩

theorem Reserve.index {c c' : Chunk} {n i : Nat} (h : c.Inv) (r : Reserve c c' n i) :
    i = c'.rpos + (c.len - c.rpos) := by
  have h1 := congrArg List.length r.unread
  rw [unread_length h, List.length_drop, List.length_take] at h1
  have := r.idx; have := r.inv.lc; have := r.ir
  omega

theorem Reserve.of_len_eq {c c' : Chunk} {n i : Nat} (inv : c'.Inv) (limit : c'.limit = c.limit)
    (unread : (c'.arr.take i).drop c'.rpos = c.unread) (ir : c'.rpos ≤ i) (len : c'.len = i + n)
    (ix : c.len - c.rpos ≤ i) (rp : c'.rpos = c.rpos ∨ c'.rpos = 0) : Reserve c c' n i :=
  ⟨inv, limit, unread, ir, by omega, by omega, fun _ => len, fun hl => by omega, ix, rp⟩

theorem Reserve.short {c c' : Chunk} {n i : Nat} (r : Reserve c c' n i) (hs : c'.len < i + n) :
    c.limit > 0 ∧ (c'.len : Int) = c.limit := by
  refine ⟨?_, r.clamped hs⟩
  by_cases hl : c.limit ≤ 0
  · have := r.roomFull (Or.inl hl); omega
  · omega

theorem take_drop_take {α : Type} (l : List α) {a b : Nat} (r : Nat) (hab : a ≤ b) :
    (l.take a).drop r = ((l.take b).drop r).take (a - r) := by
  rw [List.drop_take, List.drop_take, List.take_take, Nat.min_eq_left (by omega)]

/-- two full reservations in a row make one: the bytes reserved first lie right in front of the
second index, and the unread bytes in front of those -/
theorem reserve_twice {c c1 c2 : Chunk} {n1 n2 i x : Nat} (r1 : Reserve c c1 n1 i)
    (l1 : c1.len = i + n1) (r2 : Reserve c1 c2 n2 x) :
    n1 ≤ x ∧ c2.rpos ≤ x - n1 ∧ (c2.arr.take (x - n1)).drop c2.rpos = c.unread := by
  have i2 := r2.index r1.inv
  have := r1.ir
  refine ⟨by omega, by omega, ?_⟩
  have hu := r2.unread
  unfold unread at hu
  rw [← r1.unread, take_drop_take c2.arr c2.rpos (b := x) (Nat.sub_le _ _), hu,
    take_drop_take c1.arr c1.rpos (a := i) (b := c1.len) (by omega)]
  congr 1
  omega

theorem growN_spec (c : Chunk) (x n : Nat) (hx : c.limit > 0 → (x : Int) < c.limit) :
    growN c x n ≤ n ∧ (c.limit > 0 → (x : Int) + growN c x n ≤ c.limit) ∧
    ((c.limit ≤ 0 ∨ (x : Int) + n < c.limit) → growN c x n = n) ∧
    (growN c x n < n → c.limit > 0 ∧ (x : Int) + growN c x n ≥ c.limit) := by
  unfold growN
  split
  · rename_i hc
    have := hx hc.1
    exact ⟨by omega, fun _ => by omega, fun h => by omega, fun _ => ⟨hc.1, by omega⟩⟩
  · rename_i hc
    exact ⟨Nat.le_refl _, fun hp => by omega, fun _ => rfl, fun h => absurd h (Nat.lt_irrefl _)⟩

/-- `reslice(n)` clamps like `grow` does, but counting the whole buffer (`x = len`, read bytes
included). -/
theorem reslice_eq (c : Chunk) (n : Nat) (hlc : c.len ≤ c.cap) :
    reslice c n = if n ≤ c.cap - c.len ∧ ¬ (c.limit > 0 ∧ (c.len : Int) ≥ c.limit) then
      some ({ c with len := c.len + growN c c.len n }, c.len) else none := by
  unfold reslice growN
  by_cases h1 : (n : Int) ≤ (c.cap : Int) - c.len
  · rw [if_pos h1]
    by_cases h2 : c.limit > 0
    · rw [if_pos h2]
      by_cases h3 : (c.len : Int) ≥ c.limit
      · rw [if_pos h3, if_neg (fun h => h.2 ⟨h2, h3⟩)]
      · have hR : n ≤ c.cap - c.len ∧ ¬ (c.limit > 0 ∧ (c.len : Int) ≥ c.limit) := ⟨by omega, by omega⟩
        have hg : (if (c.len : Int) + n ≥ c.limit then (c.limit - c.len).toNat else n) =
            if c.limit > 0 ∧ (n : Int) > c.limit - c.len then (c.limit - c.len).toNat else n := by
          split <;> split <;> omega
        rw [if_neg h3, if_pos hR, hg]
    · have hR : n ≤ c.cap - c.len ∧ ¬ (c.limit > 0 ∧ (c.len : Int) ≥ c.limit) := ⟨by omega, by omega⟩
      rw [if_neg h2, if_pos hR, if_neg (fun h => h2 h.1)]
  · rw [if_neg h1, if_neg (fun h => h1 (by omega))]

theorem reslice_reserve {c c' : Chunk} {n i : Nat} (h : c.Inv) (hr : reslice c n = some (c', i)) :
    Reserve c c' n i := by
  rw [reslice_eq c n h.lc] at hr
  rcases ite_cases hr with ⟨hc, hr⟩ | ⟨_, hr⟩
  · cases hr
    obtain ⟨g1, g2, g3, g4⟩ := growN_spec c c.len n (fun hp => by omega)
    have hrl := h.rl; have hlc := h.lc; have hcap : c.cap = c.arr.length := rfl
    refine ⟨⟨?_, ?_, g2, h.nil⟩, rfl, rfl, hrl, ?_, ?_, fun hl => ?_, fun hl => ?_, Nat.sub_le _ _, Or.inl rfl⟩
    all_goals dsimp only
    · omega
    · omega
    · omega
    · omega
    · rw [g3 hl]
    · dsimp only at hl; have := g4 (by omega); have := g2 this.1; omega
  · cases hr

theorem growPre_eq (c : Chunk) : growPre c = if c.rpos < c.len then c else c.reset := by
  unfold growPre
  by_cases h1 : c.rpos < c.len
  · rw [if_neg (by omega), if_pos h1]
  · rw [if_neg h1]
    by_cases h2 : c.rpos = 0
    · have h3 : c.len = 0 := by omega
      rw [if_neg (by omega)]
      cases c
      cases h2; cases h3
      rfl
    · rw [if_pos ⟨by omega, h2⟩]; rfl

theorem growPre_id {c : Chunk} (h : c.rpos < c.len ∨ c.rpos = 0) : growPre c = c := by
  unfold growPre; rw [if_neg]; omega

theorem reset_kept {c : Chunk} (h : c.Inv) (he : c.len ≤ c.rpos) : Kept c c.reset :=
  ⟨h.window (Nat.le_refl 0) (Nat.zero_le _), rfl, by rw [unread_nil he]; exact unread_nil (Nat.le_refl 0),
    Nat.zero_le _, Or.inr rfl⟩

theorem growPre_kept {c : Chunk} (h : c.Inv) : Kept c (growPre c) := by
  rw [growPre_eq]
  split
  · exact Kept.refl h
  · exact reset_kept h (by omega)

/-- the capacity asked of the allocator, whatever it is rounded to, holds the unread bytes and the
request -/
theorem realloc_fits (x r n k m : Nat) : x + n ≤ max k (max (x + (r + n)) m) := by omega

variable {cf : Nat → Nat}

/-- the last conjunct: it got there by sliding, or the limit allows the larger buffer -/
theorem growAlloc_ok {c c' : Chunk} {n i : Nat} (h : c.Inv)
    (hn : c.limit > 0 → ((c.len - c.rpos : Nat) : Int) + n ≤ c.limit)
    (hg : growAlloc cf c (c.len - c.rpos) n = (c', .ok i)) :
    Reserve c c' n i ∧ c'.len = i + n ∧ i = c.len - c.rpos ∧
    ((n : Int) ≤ ((c.cap / 2 : Nat) : Int) - ((c.len - c.rpos : Nat) : Int) ∨
      ¬ (c.limit > 0 ∧ (c.cap : Int) > c.limit + n)) := by
  have hu := unread_length h
  have hrl := h.rl; have hcap : c.cap = c.arr.length := rfl
  have hfront : ∀ t : Bytes, ((c.unread ++ t).take (c.len - c.rpos)).drop 0 = c.unread := fun t => by
    rw [List.drop_zero, List.take_append_of_le_length (by omega), List.take_of_length_le (by omega)]
  unfold growAlloc at hg
  rcases ite_cases hg with ⟨hc, hg⟩ | ⟨_, hg⟩
  · cases hg
    have hl := h.nil_len hc.1
    have hx : c.len - c.rpos = 0 := by omega
    refine ⟨Reserve.of_len_eq ⟨by simp only; omega, by rw [zeros_length]; exact hc.2, fun hp => by have := hn hp; simp only; omega,
      fun hf => by cases hf⟩ rfl (by rw [unread_nil (by omega), List.take_zero, List.drop_nil]) (by simp only; omega)
      (Nat.zero_add n).symm (by omega) (Or.inl rfl), (Nat.zero_add n).symm, hx.symm, Or.inr fun hp => ?_⟩
    rw [h.nil hc.1] at hcap; rw [hcap] at hp; simp only [List.length_nil] at hp; omega
  rcases ite_cases hg with ⟨hs, hg⟩ | ⟨_, hg⟩
  · cases hg
    refine ⟨Reserve.of_len_eq ⟨Nat.zero_le _, ?_, fun hp => by have := hn hp; simp only; omega, fun hf => ?_⟩ rfl
      (hfront _) (Nat.zero_le _) rfl (Nat.le_refl _) (Or.inr rfl), rfl, rfl, Or.inl hs⟩
    · simp only [List.length_append, List.length_drop, hu]; omega
    · simp only [unread, h.nil hf, List.take_nil, List.drop_nil, List.append_nil]
  rcases ite_cases hg with ⟨_, hg⟩ | ⟨hl, hg⟩
  · cases hg
  rcases ite_cases hg with ⟨_, hg⟩ | ⟨_, hg⟩
  · cases hg
  rcases ite_cases hg with ⟨_, hg⟩ | ⟨_, hg⟩
  · cases hg
  cases hg
  refine ⟨Reserve.of_len_eq ⟨Nat.zero_le _, ?_, fun hp => by have := hn hp; simp only; omega,
    fun hf => by cases hf⟩ rfl (hfront _) (Nat.zero_le _) rfl (Nat.le_refl _) (Or.inr rfl), rfl, rfl,
    Or.inr fun hp => hl ⟨hp.1, Or.inl hp.2⟩⟩
  have hfit := realloc_fits (c.len - c.rpos) c.rpos n
  simp only [List.length_append, zeros_length, hu]
  rw [Nat.add_sub_cancel' (Nat.le_trans (Nat.le_add_right _ n) (hfit _ _))]
  exact hfit _ _

theorem growAlloc_err {c c' : Chunk} {n x : Nat} {e : Err} (hg : growAlloc cf c x n = (c', .error e)) :
    c' = c ∧ ¬ ((n : Int) ≤ ((c.cap / 2 : Nat) : Int) - x) ∧
    ((e = .limit ∧ c.limit > 0 ∧ ((c.cap : Int) > c.limit + n ∨ ((x + n : Nat) : Int) > c.limit)) ∨
     (e = .tooLarge ∧ ((c.cap : Int) > (maxInt : Int) - c.cap - n ∨ c.rpos + n > Facts.maxSlice))) := by
  unfold growAlloc at hg
  rcases ite_cases hg with ⟨_, hg⟩ | ⟨_, hg⟩
  · cases hg
  rcases ite_cases hg with ⟨_, hg⟩ | ⟨hs, hg⟩
  · cases hg
  rcases ite_cases hg with ⟨hl, hg⟩ | ⟨_, hg⟩
  · cases hg; exact ⟨rfl, hs, Or.inl ⟨rfl, hl⟩⟩
  rcases ite_cases hg with ⟨hm, hg⟩ | ⟨_, hg⟩
  · cases hg; exact ⟨rfl, hs, Or.inr ⟨rfl, Or.inl hm⟩⟩
  rcases ite_cases hg with ⟨hm, hg⟩ | ⟨_, hg⟩
  · cases hg; exact ⟨rfl, hs, Or.inr ⟨rfl, Or.inr hm⟩⟩
  · cases hg

/-- a reservation of the clamped request `n'` is one of the request `n` -/
theorem Reserve.mono {c c' : Chunk} {n n' i : Nat} (h : Reserve c c' n' i) (hn : n' ≤ n)
    (hf : (c.limit ≤ 0 ∨ (c.len : Int) + n < c.limit) → n' = n)
    (hc : n' < n → c.limit > 0 ∧ ((c.len - c.rpos : Nat) : Int) + n' ≥ c.limit) : Reserve c c' n i :=
  ⟨h.inv, h.limit, h.unread, h.ir, h.idx, Nat.le_trans h.room (by omega),
   fun hl => by have := hf hl; subst this; exact h.roomFull hl,
   fun hl => by
     by_cases h1 : c'.len < i + n'
     · exact h.clamped h1
     · have h2 := h.room
       obtain ⟨h4, h5⟩ := hc (by omega)
       have h6 := h.inv.lim (by rw [h.limit]; exact h4)
       have h7 := h.ix
       rw [h.limit] at h6
       omega,
   h.ix, h.rp⟩

theorem Reserve.trans_kept {c0 c c' : Chunk} {n i : Nat} (k : Kept c0 c) (h : Reserve c c' n i)
    (hx : c0.len - c0.rpos ≤ c.len - c.rpos) :
    Reserve c0 c' n i :=
  ⟨h.inv, by rw [h.limit, k.limit], by rw [h.unread, k.unread], h.ir, h.idx, h.room,
   fun hl => h.roomFull (by have := k.len_le; rw [k.limit]; omega),
   fun hl => by rw [← k.limit]; exact h.clamped hl,
   Nat.le_trans hx h.ix, by rcases h.rp with h1 | h1 <;> rcases k.rp with h2 | h2 <;> simp [h1, h2]⟩

theorem grow_ok {c c' : Chunk} {n i : Nat} (h : c.Inv) (hg : grow cf c n = (c', .ok i)) :
    Reserve c c' n i := by
  have k := growPre_kept h
  have hxx : c.len - c.rpos ≤ (growPre c).len - (growPre c).rpos := by
    rw [← unread_length k.inv, k.unread, unread_length h]; exact Nat.le_refl _
  unfold grow at hg
  rcases ite_cases hg with ⟨_, hg⟩ | ⟨hlim, hg⟩
  · cases hg
  obtain ⟨g1, g2, g3, g4⟩ := growN_spec (growPre c) ((growPre c).len - (growPre c).rpos) n (by omega)
  have g3' : ((growPre c).limit ≤ 0 ∨ ((growPre c).len : Int) + n < (growPre c).limit) → _ :=
    fun hl => g3 (by omega)
  dsimp only at hg
  split at hg
  · rename_i hr
    cases hg
    exact ((reslice_reserve k.inv hr).mono g1 g3' g4).trans_kept k hxx
  · exact ((growAlloc_ok k.inv g2 hg).1.mono g1 g3' g4).trans_kept k hxx

theorem grow_err {c c' : Chunk} {n : Nat} {e : Err} (hg : grow cf c n = (c', .error e)) :
    c' = growPre c ∧ (e = .limit → c.limit > 0) := by
  have hl : (growPre c).limit = c.limit := by unfold growPre; split <;> rfl
  unfold grow at hg
  simp only at hg
  split at hg
  · rename_i hc; cases hg; exact ⟨rfl, fun _ => hl ▸ hc.1⟩
  · split at hg
    · cases hg
    · obtain ⟨e1, _, ⟨_, hp, _⟩ | ⟨rfl, _⟩⟩ := growAlloc_err hg
      · exact ⟨e1, fun _ => hl ▸ hp⟩
      · exact ⟨e1, fun he => by cases he⟩

theorem quickSlice_ok {c c' : Chunk} {n i : Nat} (h : c.Inv) (hg : quickSlice cf c n = (c', .ok i)) :
    Reserve c c' n i := by
  unfold quickSlice at hg
  split at hg
  · rename_i hr; cases hg; exact reslice_reserve h hr
  · exact grow_ok h hg

theorem quickSlice_err {c c' : Chunk} {n : Nat} {e : Err} (hg : quickSlice cf c n = (c', .error e)) :
    c' = growPre c ∧ (e = .limit → c.limit > 0) := by
  unfold quickSlice at hg
  split at hg
  · cases hg
  · exact grow_err hg

/-- under the invariant the `ErrShortWrite` return is unreachable: without a limit the whole request is
reserved -/
theorem checkWriteSize_eq {c : Chunk} (h : c.Inv) (n : Nat) :
    checkWriteSize cf c n =
      if c.limit > 0 ∧ ¬ c.available n then (c, .error .limit) else quickSlice cf c n := by
  unfold checkWriteSize
  split
  · rfl
  · rcases hs : quickSlice cf c n with ⟨c1, e1 | i⟩
    · rfl
    · have r := quickSlice_ok h hs
      exact if_neg fun hsw => by
        have := r.roomFull (Or.inl (by rw [← r.limit]; exact hsw.1))
        omega

theorem checkWriteSize_ok {c c' : Chunk} {n i : Nat} (h : c.Inv)
    (hq : checkWriteSize cf c n = (c', .ok i)) : Reserve c c' n i ∧ c'.len = i + n := by
  rw [checkWriteSize_eq h] at hq
  rcases ite_cases hq with ⟨_, hq⟩ | ⟨hav, hq⟩
  · cases hq
  · have r := quickSlice_ok h hq
    refine ⟨r, r.roomFull ?_⟩
    -- under a limit `Available(n)` was checked first: `Limit - len > n`
    by_cases hl : c.limit ≤ 0
    · exact Or.inl hl
    · have ha : c.available n = true := Decidable.by_contra fun ha => hav ⟨by omega, ha⟩
      simp only [available, Bool.or_eq_true, decide_eq_true_eq] at ha
      omega

theorem checkWriteSize_err {c c' : Chunk} {n : Nat} {e : Err} (h : c.Inv)
    (hq : checkWriteSize cf c n = (c', .error e)) : Kept c c' ∧ (c.rpos < c.len → c' = c) := by
  rw [checkWriteSize_eq h] at hq
  rcases ite_cases hq with ⟨_, hq⟩ | ⟨_, hq⟩
  · cases hq
    exact ⟨Kept.refl h, fun _ => rfl⟩
  · obtain ⟨rfl, _⟩ := quickSlice_err hq
    exact ⟨growPre_kept h, fun hp => growPre_id (Or.inl hp)⟩

end Chunk
end XMT.Chunk
