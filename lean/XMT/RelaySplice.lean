/-
  XMT.RelaySplice — a tagged device's batch is encrypted and then SPLICED into the reply.

  Go (c2/listener.go, c2/vars.go):
    conn.resolve   n := v.next(true); n.KeyCrypt(v.keyValue()); c.add = append(c.add, n)
    conn.process   c.next = &Packet{Flags: Multi|MultiDevice, Device: A}; writeUnpack(c.next, c.add[i])
    writeUnpack    src is Multi → dst.payload ++= src.payload; Len += src.Len        (SPLICE)
                   otherwise   → dst.payload ++= MarshalStream(src); Len += 1        (NEST)
  `next` returns ONE packet, or — with two or more queued — a Multi container whose payload is the
  nested stream form of the packets.  `KeyCrypt` XORs the container's PAYLOAD with the device key,
  so what the splice arm copies is ciphertext, not `Len` well-formed elements.

  This file: the two arms, the receiver's unpack loop, B's decrypt-and-unpack, and
    * `nest_relay`, `nest_delivers_carries`
                             nesting the encrypted batch (any well-formed packet that `Carries` the
                             queued ones) as one element delivers exactly them (the repair shape);
    * `single_relay`         the one-packet case of the current code (which nests) is correct;
    * `witness_relay_eof`    the current code on two packets: the reply does not parse (EOF);
    * `splice_is_ciphertext` what the splice arm copies is `xorOp elements key`; it parses when the
                             key leaves the elements unchanged (e.g. an all-zero key);
    * `splice_never_delivers` with a non-zero first key byte it never yields the queued packets.
-/
import XMT.BatchLemmas
import XMT.KeysXor

namespace XMT.RelaySplice
open XMT.Packet XMT.Codec XMT.Batch
open XMT.Keys (xorOp)

abbrev Pkt := Packet.Packet

/-- the nested stream form of a list of packets, concatenated (`MarshalStream` each) -/
def elems (ps : List Pkt) : Bytes := (ps.map marshalStream).flatten

/-- B's transmission when `ps` (two or more) are queued: what `nextPacket` builds from
`&Packet{Flags: Multi, Device: B}` by `writeUnpack` of each plain packet: it `Carries` `ps` in the
sense of the batching model (`container_carries`) and is what the model of `(*Session).next`
returns on the witness (`witness_next_two`). -/
def container (dev : Bytes) (ps : List Pkt) : Pkt :=
  { id := 0, job := 0, flags := Flag.setLen Facts.flagMulti (ps.length % 2^16), tags := [],
    dev := dev, payload := elems ps }

/-- `n.KeyCrypt(key)`: XOR of the payload bytes with the shared secret -/
def encryptFor (key : Bytes) (n : Pkt) : Pkt := { n with payload := xorOp n.payload key }

/-- the SPLICE arm of `writeUnpack(dst, src)` (taken when `src` is Multi / MultiDevice) -/
def spliceInto (dst src : Pkt) : Pkt :=
  { dst with payload := dst.payload ++ src.payload,
             flags := Flag.setLen dst.flags ((Flag.len dst.flags + Flag.len src.flags) % 2^16) }

/-- the NEST arm of `writeUnpack(dst, src, true, true)`: `src` becomes one element -/
def nestInto (dst src : Pkt) : Pkt :=
  { dst with payload := dst.payload ++ marshalStream src,
             flags := packedFlags dst.flags src.flags,
             tags := dst.tags ++ src.tags }

/-- `c.next = &Packet{Flags: Multi|MultiDevice, Device: A}` -/
def emptyReply (devA : Bytes) : Pkt := emptyBatch devA (Facts.flagMulti ||| Facts.flagMultiDevice)

/-- the receiver's loop `for x := Len; x > 0; x-- { v.UnmarshalStream(payload) }`: the elements and
the bytes left over -/
def unpackRest : Nat → Bytes → Except PErr (List Pkt × Bytes)
  | 0, bs => .ok ([], bs)
  | k + 1, bs =>
    match unmarshalStream chunkPrim devReadChunk bs with
    | .error e => .error e
    | .ok (v, rest) =>
      match unpackRest k rest with
      | .error e => .error e
      | .ok (vs, rest) => .ok (v :: vs, rest)

/-- the elements only -/
def unpack (count : Nat) (payload : Bytes) : Except PErr (List Pkt) :=
  match unpackRest count payload with
  | .error e => .error e
  | .ok (vs, _) => .ok vs

/-- the proxy forwards the elements that name `dev` -/
def routeTo (dev : Bytes) (es : List Pkt) : List Pkt := es.filter (fun e => e.dev = dev)

/-- B on one forwarded element: `KeyCrypt` (decrypt), then the Multi arm of `receive` -/
def openElem (key : Bytes) (e : Pkt) : Except PErr (List Pkt) :=
  if hasFlag e.flags Facts.flagMulti then
    if Flag.len e.flags = 0 then .error .invalidType     -- ErrInvalidPacketCount
    else unpack (Flag.len e.flags) (xorOp e.payload key)
  else .ok [{ e with payload := xorOp e.payload key }]

/-- B on all forwarded elements: the leaves, in order -/
def deliverToB (key : Bytes) : List Pkt → Except PErr (List Pkt)
  | [] => .ok []
  | e :: es =>
    match openElem key e with
    | .error x => .error x
    | .ok vs =>
      match deliverToB key es with
      | .error x => .error x
      | .ok ws => .ok (vs ++ ws)

/-- server packs B's encrypted transmission `n` into the reply for A with `arm`; A unpacks the reply
and forwards the elements naming B; B decrypts and unpacks them -/
def relay (arm : Pkt → Pkt → Pkt) (key devA devB : Bytes) (n : Pkt) : Except PErr (List Pkt) :=
  match unpack (Flag.len (arm (emptyReply devA) (encryptFor key n)).flags)
      (arm (emptyReply devA) (encryptFor key n)).payload with
  | .error e => .error e
  | .ok es => deliverToB key (routeTo devB es)

/-- what `writeUnpack` does (its error is ignored by the callers) -/
def currentArm (dst src : Pkt) : Pkt :=
  match writeUnpack dst src with
  | .ok o => o
  | .error _ => dst

def devA : Bytes := List.replicate 32 0xA1
def devB : Bytes := List.replicate 32 0xB2
def key65 : Bytes := (List.range 65).map (fun i => UInt8.ofNat (i + 1))
def p1 : Pkt := { id := 0x20, job := 1, flags := 0, tags := [], dev := devB, payload := [0x11] }
def p2 : Pkt := { id := 0x21, job := 2, flags := 0, tags := [], dev := devB, payload := [0x22, 0x33] }

def splicedReply : Pkt := spliceInto (emptyReply devA) (encryptFor key65 (container devB [p1, p2]))
def nestedReply : Pkt := nestInto (emptyReply devA) (encryptFor key65 (container devB [p1, p2]))

theorem unpack_eq_unpackLevel (k : Nat) (bs : Bytes) :
    unpack k bs = unpackLevel (fun v => .ok [v]) k bs := by
  induction k generalizing bs with
  | zero => rfl
  | succ k ih =>
    unfold unpack at ih ⊢
    unfold unpackRest unpackLevel
    cases unmarshalStream chunkPrim devReadChunk bs with
    | error e => rfl
    | ok r =>
      simp only [← ih r.2]
      cases unpackRest k r.2 <;> rfl

theorem unpack_ok {k : Nat} {bs rest : Bytes} {vs : List Pkt} (h : unpackRest k bs = .ok (vs, rest)) :
    unpack k bs = .ok vs := by
  unfold unpack; rw [h]

theorem currentArm_ok {dst src o : Pkt} (h : writeUnpack dst src = .ok o) : currentArm dst src = o := by
  unfold currentArm; rw [h]

theorem container_flags (dev : Bytes) (ps : List Pkt) (hl : ps.length ≤ Facts.fragMax) :
    Flag.len (container dev ps).flags = ps.length ∧
    hasFlag (container dev ps).flags Facts.flagMulti = true ∧
    hasFlag (container dev ps).flags Facts.flagMultiDevice = false ∧
    (container dev ps).flags < 2^64 := by
  have K := flagsOK
  have hn : ps.length < 2^16 := by have := K.fragMax; omega
  have hm : ps.length % 2^16 = ps.length := Nat.mod_eq_of_lt hn
  have t (k : Nat) := Flag.testBit_setLen Facts.flagMulti ps.length hn (k := k)
  unfold container
  simp only [hm]
  refine ⟨len_setLen' _ _ hn, ?_, ?_, ?_⟩
  · exact (hasFlag_pow _ 1).trans ((t 1 (by decide) (by decide)).trans (by decide))
  · exact (hasFlag_pow _ 7).trans ((t 7 (by decide) (by decide)).trans (by decide))
  · exact Nat.mod_lt _ (by decide)

theorem container_carries (dev : Bytes) (ps : List Pkt) (hl : ps.length ≤ Facts.fragMax) :
    Carries (container dev ps) ps :=
  ⟨rfl, (container_flags dev ps hl).1, fun _ => (container_flags dev ps hl).2.1⟩

theorem writeUnpack_splice (dst src : Pkt)
    (hm : hasFlag src.flags Facts.flagMulti = true ∨ hasFlag src.flags Facts.flagMultiDevice = true)
    (h0 : Flag.len src.flags ≠ 0) (hfit : Flag.len src.flags + Flag.len dst.flags ≤ Facts.fragMax) :
    writeUnpack dst src = .ok (spliceInto dst src) := by
  unfold writeUnpack
  rw [if_pos (by rcases hm with h | h <;> simp [h])]
  simp only
  rw [if_neg h0, if_neg (by omega)]
  rfl

theorem elems_append (a b : List Pkt) : elems (a ++ b) = elems a ++ elems b := by
  simp [elems]

theorem unpackRest_elems (ps : List Pkt) (hps : ∀ p ∈ ps, WF p) (rest : Bytes) :
    unpackRest ps.length (elems ps ++ rest) = .ok (ps, rest) := by
  induction ps with
  | nil => rfl
  | cons a ps ih =>
    simp only [elems, List.map_cons, List.flatten_cons, List.append_assoc, List.length_cons]
    unfold unpackRest
    rw [unmarshalStream_chunk a (hps a List.mem_cons_self)]
    simp only
    have := ih (fun x hx => hps x (List.mem_cons_of_mem _ hx))
    unfold elems at this
    rw [this]

theorem unpack_elems (ps : List Pkt) (hps : ∀ p ∈ ps, WF p) : unpack ps.length (elems ps) = .ok ps := by
  have h := unpackRest_elems ps hps []
  rw [List.append_nil] at h
  exact unpack_ok h

/-- a reply that carries the well-formed elements `prev` -/
structure Holds (dst : Pkt) (prev : List Pkt) : Prop where
  wf : ∀ a ∈ prev, WF a
  pay : dst.payload = elems prev
  len : Flag.len dst.flags = prev.length

theorem emptyReply_holds (devA : Bytes) : Holds (emptyReply devA) [] :=
  ⟨by simp, rfl, by show Flag.len (Facts.flagMulti ||| Facts.flagMultiDevice) = 0; decide⟩

theorem Holds.unpackRest {dst : Pkt} {prev : List Pkt} (h : Holds dst prev) :
    unpackRest (Flag.len dst.flags) dst.payload = .ok (prev, []) := by
  rw [h.len, h.pay]
  simpa using unpackRest_elems prev h.wf []

/-- nesting ANY well-formed packet `n` (a container or not, encrypted or not) adds exactly one
element -/
theorem Holds.nest {dst : Pkt} {prev : List Pkt} (hd : Holds dst prev) (n : Pkt) (hn : WF n)
    (hfit : prev.length + 1 ≤ Facts.fragMax) : Holds (nestInto dst n) (prev ++ [n]) := by
  obtain ⟨f1, _, _⟩ := packedFlags_fields dst.flags n.flags (by rw [hd.len]; exact hfit)
  refine ⟨List.forall_mem_append.mpr ⟨hd.wf, List.forall_mem_singleton.mpr hn⟩, ?_, ?_⟩
  · show dst.payload ++ marshalStream n = _
    rw [hd.pay, elems_append]; simp [elems]
  · show Flag.len (packedFlags dst.flags n.flags) = _
    rw [f1, hd.len]; simp

theorem encryptFor_wf (key : Bytes) (n : Pkt) (hn : WF n) : WF (encryptFor key n) := by
  obtain ⟨h1, h2, h3, h4, h5, h6, h7⟩ := hn
  exact ⟨h1, h2, h3, h4, h5, h6, by
    show (xorOp n.payload key).length ≤ _
    rw [Keys.xorOp_length]; exact h7⟩

theorem container_wf (dev : Bytes) (ps : List Pkt) (hl : ps.length ≤ Facts.fragMax)
    (hd : dev.length = Facts.idSize) (hz : dev.head? ≠ some 0)
    (hpay : (elems ps).length ≤ Facts.maxSlice) : WF (container dev ps) :=
  ⟨by show (0 : Nat) < 2^16; decide, (container_flags dev ps hl).2.2.2, Nat.zero_le _,
   by simp [container], hd, hz, hpay⟩

theorem openElem_batch (key : Bytes) (n : Pkt) (ps : List Pkt) (hc : Carries n ps) (hne : ps ≠ [])
    (hps : ∀ p ∈ ps, WF p) : openElem key (encryptFor key n) = .ok ps := by
  unfold openElem
  have hm : hasFlag (encryptFor key n).flags Facts.flagMulti = true := hc.multi hne
  have hl : Flag.len (encryptFor key n).flags = ps.length := hc.len
  rw [hm, hl]
  simp only [if_true]
  rw [if_neg (by intro h; exact hne (List.length_eq_zero_iff.mp h))]
  show unpack ps.length (xorOp (xorOp n.payload key) key) = _
  rw [Keys.xorOp_involutive, hc.pay]
  exact unpack_elems ps hps

theorem openElem_single (key : Bytes) (e : Pkt) (h : hasFlag e.flags Facts.flagMulti = false) :
    openElem key e = .ok [{ e with payload := xorOp e.payload key }] := by
  unfold openElem
  rw [h]
  rfl

theorem openElem_plain (key : Bytes) (p : Pkt) (hp : hasFlag p.flags Facts.flagMulti = false) :
    openElem key (encryptFor key p) = .ok [p] := by
  rw [openElem_single key (encryptFor key p) hp]
  show Except.ok [{ encryptFor key p with payload := xorOp (xorOp p.payload key) key }] = _
  rw [Keys.xorOp_involutive]
  rfl

theorem deliverToB_one (key : Bytes) (e : Pkt) (vs : List Pkt) (h : openElem key e = .ok vs) :
    deliverToB key [e] = .ok vs := by
  simp [deliverToB, h]

/-- Whenever `arm` NESTS B's encrypted transmission `n` into the empty reply: A's unpack loop finds
that one element, it names B, and B gets whatever it opens to. -/
theorem relay_nested (arm : Pkt → Pkt → Pkt) (key devA : Bytes) (n : Pkt) (vs : List Pkt) (hn : WF n)
    (harm : arm (emptyReply devA) (encryptFor key n) = nestInto (emptyReply devA) (encryptFor key n))
    (ho : openElem key (encryptFor key n) = .ok vs) : relay arm key devA n.dev n = .ok vs := by
  have h := ((emptyReply_holds devA).nest _ (encryptFor_wf key n hn) (by decide)).unpackRest
  unfold relay
  rw [harm, unpack_ok h]
  have : routeTo n.dev [encryptFor key n] = [encryptFor key n] :=
    List.filter_cons_of_pos (by show decide (n.dev = n.dev) = true; simp)
  simp only [List.nil_append, this]
  exact deliverToB_one key _ _ ho

/-- **The repair shape delivers**, end to end on an empty reply, ANY well-formed batch `n` that carries
`ps` (`container`, or what `nextPacket` builds, with a Channel bit or merged tags): NESTED, the
encrypted batch is one element, which B opens to exactly `ps`. -/
theorem nest_relay (key devA : Bytes) (n : Pkt) (ps : List Pkt) (hn : WF n) (hc : Carries n ps)
    (hps : ∀ p ∈ ps, WF p) (hne : ps ≠ []) : relay nestInto key devA n.dev n = .ok ps :=
  relay_nested nestInto key devA n ps hn rfl (openElem_batch key n ps hc hne hps)

/-- the same into a reply that already holds elements -/
theorem nest_delivers_carries (key : Bytes) (n : Pkt) (ps : List Pkt) (hn : WF n) (hc : Carries n ps)
    (hps : ∀ p ∈ ps, WF p) (hne : ps ≠ [])
    (dst : Pkt) (prev : List Pkt) (hdst : Holds dst prev) (hfit : prev.length + 1 ≤ Facts.fragMax) :
    unpackRest (Flag.len (nestInto dst (encryptFor key n)).flags) (nestInto dst (encryptFor key n)).payload
      = .ok (prev ++ [encryptFor key n], []) ∧
    deliverToB key [encryptFor key n] = .ok ps :=
  ⟨(hdst.nest _ (encryptFor_wf key n hn) hfit).unpackRest,
   deliverToB_one key _ _ (openElem_batch key n ps hc hne hps)⟩

/-- With one packet queued `next` returns the packet `p` itself; it is plain, so `writeUnpack` takes
the NEST arm. -/
theorem single_relay (key devA : Bytes) (p : Pkt) (hp : WF p) (hpl : Plain p) :
    relay currentArm key devA p.dev p = .ok [p] := by
  refine relay_nested currentArm key devA p [p] hp (currentArm_ok ?_) (openElem_plain key p hpl.1)
  exact writeUnpack_plain _ (encryptFor key p) hpl (by rw [(emptyReply_holds devA).len]; decide)

/-- **What the current code puts into the reply** for a batch of `ps`: the announced count grows by
`ps.length`, the payload grows by the ENCRYPTED element bytes `xorOp (elems ps) key`. -/
theorem splice_is_ciphertext (key devB : Bytes) (ps : List Pkt) (hl : ps.length ≤ Facts.fragMax)
    (hne : ps ≠ []) (dst : Pkt) (prev : List Pkt) (hd : Holds dst prev)
    (hfit : prev.length + ps.length ≤ Facts.fragMax) :
    writeUnpack dst (encryptFor key (container devB ps))
      = .ok (spliceInto dst (encryptFor key (container devB ps))) ∧
    Flag.len (spliceInto dst (encryptFor key (container devB ps))).flags = prev.length + ps.length ∧
    (spliceInto dst (encryptFor key (container devB ps))).payload
      = elems prev ++ xorOp (elems ps) key := by
  obtain ⟨c1, c2, _, _⟩ := container_flags devB ps hl
  have hlen : Flag.len (encryptFor key (container devB ps)).flags = ps.length := c1
  have hn : prev.length + ps.length < 2^16 := by have := flagsOK.fragMax; omega
  refine ⟨?_, ?_, ?_⟩
  · apply writeUnpack_splice dst (encryptFor key (container devB ps)) (Or.inl c2)
    · rw [hlen]; intro h; exact hne (List.length_eq_zero_iff.mp h)
    · rw [hlen, hd.len]; omega
  · show Flag.len (Flag.setLen dst.flags ((Flag.len dst.flags + Flag.len _) % 2^16)) = _
    rw [hd.len, hlen, Nat.mod_eq_of_lt hn]
    exact len_setLen' _ _ hn
  · show dst.payload ++ xorOp (elems ps) key = _
    rw [hd.pay]

/-- the spliced reply parses as `ps` whenever the cipher happens to leave the element bytes
unchanged … -/
theorem splice_parses_of_fixed (key devB : Bytes) (ps : List Pkt) (hps : ∀ p ∈ ps, WF p)
    (hl : ps.length ≤ Facts.fragMax) (hne : ps ≠ [])
    (hfix : xorOp (elems ps) key = elems ps)
    (dst : Pkt) (prev : List Pkt) (hd : Holds dst prev)
    (hfit : prev.length + ps.length ≤ Facts.fragMax) :
    unpackRest (Flag.len (spliceInto dst (encryptFor key (container devB ps))).flags)
        (spliceInto dst (encryptFor key (container devB ps))).payload = .ok (prev ++ ps, []) := by
  obtain ⟨_, h2, h3⟩ := splice_is_ciphertext key devB ps hl hne dst prev hd hfit
  exact Holds.unpackRest ⟨List.forall_mem_append.mpr ⟨hd.wf, hps⟩, by rw [h3, hfix, elems_append],
    by rw [h2, List.length_append]⟩

theorem deliverToB_zero_key (key : Bytes) (hk : ∀ k ∈ key, k = 0) (ps : List Pkt)
    (hpl : ∀ p ∈ ps, hasFlag p.flags Facts.flagMulti = false) : deliverToB key ps = .ok ps := by
  induction ps with
  | nil => rfl
  | cons p ps ih =>
    have h1 : openElem key p = .ok [p] := by
      rw [openElem_single key p (hpl p List.mem_cons_self), Keys.xorOp_zero_key _ _ hk]
    unfold deliverToB
    rw [h1, ih (fun x hx => hpl x (List.mem_cons_of_mem _ hx))]
    rfl

/-- … e.g. under an all-zero key, the only reason the splice arm can work: then the reply parses as
`prev ++ ps` and B (for whom decryption is the identity too) gets `ps`. -/
theorem splice_zero_key (key devB : Bytes) (hk : ∀ k ∈ key, k = 0) (ps : List Pkt)
    (hps : ∀ p ∈ ps, WF p) (hpl : ∀ p ∈ ps, hasFlag p.flags Facts.flagMulti = false)
    (hl : ps.length ≤ Facts.fragMax) (hne : ps ≠ [])
    (dst : Pkt) (prev : List Pkt) (hd : Holds dst prev)
    (hfit : prev.length + ps.length ≤ Facts.fragMax) :
    unpackRest (Flag.len (spliceInto dst (encryptFor key (container devB ps))).flags)
        (spliceInto dst (encryptFor key (container devB ps))).payload = .ok (prev ++ ps, []) ∧
    deliverToB key ps = .ok ps :=
  ⟨splice_parses_of_fixed key devB ps hps hl hne (Keys.xorOp_zero_key _ _ hk) dst prev hd hfit,
   deliverToB_zero_key key hk ps hpl⟩

theorem unmarshalStream_id (b : UInt8) (r : Bytes) (v : Pkt) (rest : Bytes)
    (h : unmarshalStream chunkPrim devReadChunk (b :: r) = .ok (v, rest)) : v.id = b := by
  unfold unmarshalStream at h
  simp only [chunkPrim] at h
  repeat' split at h
  all_goals (cases h <;> rfl)

theorem unpackRest_head (n : Nat) (b : UInt8) (r : Bytes) (got : List Pkt) (rest : Bytes)
    (h : unpackRest (n + 1) (b :: r) = .ok (got, rest)) : ∃ g gs, got = g :: gs ∧ g.id = b := by
  unfold unpackRest at h
  split at h
  · cases h
  · rename_i v r hv
    split at h
    · cases h
    · cases h
      exact ⟨v, _, rfl, unmarshalStream_id _ _ _ _ hv⟩

theorem xor_ne (k a : UInt8) (hk : k ≠ 0) : k ^^^ a ≠ a := by
  intro h
  have := Keys.xor_cancel a k
  rw [UInt8.xor_comm a k, h, UInt8.xor_self] at this
  exact hk this.symm

/-- The first spliced byte is `key[0] ^ p.ID`, and the receiver's loop reads it as the ID of the first
element. -/
theorem splice_never_delivers (k : UInt8) (ks : Bytes) (hk : k ≠ 0) (devA devB : Bytes) (p : Pkt)
    (tl : List Pkt) (hl : (p :: tl).length ≤ Facts.fragMax) (got : List Pkt) (rest : Bytes)
    (h : unpackRest
          (Flag.len (spliceInto (emptyReply devA) (encryptFor (k :: ks) (container devB (p :: tl)))).flags)
          (spliceInto (emptyReply devA) (encryptFor (k :: ks) (container devB (p :: tl)))).payload
        = .ok (got, rest)) :
    (∃ g gs, got = g :: gs ∧ g.id = k ^^^ p.id) ∧ got ≠ p :: tl := by
  obtain ⟨_, h2, h3⟩ := splice_is_ciphertext (k :: ks) devB (p :: tl) hl (by simp) (emptyReply devA) []
    (emptyReply_holds devA) (by simpa using hl)
  have he : ∃ t, elems (p :: tl) = p.id :: t := ⟨_, by simp [elems, marshalStream]; rfl⟩
  obtain ⟨t, ht⟩ := he
  obtain ⟨c, hc⟩ := Keys.xorOp_head p.id k t ks
  rw [h2, h3, ht, hc] at h
  obtain ⟨g, gs, rfl, hg⟩ := unpackRest_head _ _ _ _ _ h
  exact ⟨⟨g, gs, rfl, hg⟩, fun heq => xor_ne k p.id hk (hg ▸ congrArg Packet.id (List.cons.inj heq).1)⟩

theorem p1_wf : WF p1 :=
  ⟨by decide, by decide, by decide, by simp [p1], by decide, by decide, by decide⟩
theorem p2_wf : WF p2 :=
  ⟨by decide, by decide, by decide, by simp [p2], by decide, by decide, by decide⟩
theorem p1_plain : Plain p1 := ⟨by decide, by decide⟩
theorem p2_plain : Plain p2 := ⟨by decide, by decide⟩
theorem key65_length : key65.length = 65 := by decide

/-- with the standard limits (`limits.Packets = 256`, `limits.Frag = 33554432`) the batching model's
`(*Session).next` returns exactly `container devB [p1, p2]` when both packets are queued … -/
theorem witness_next_two :
    (Batch.next 256 33554432 { q := [p1, p2], peek := none, last := 0 } devB).1
      = some (container devB [p1, p2]) := by rfl

/-- … and the packet itself when one is queued -/
theorem witness_next_one :
    (Batch.next 256 33554432 { q := [p1], peek := none, last := 0 } devB).1 = some p1 := by rfl

theorem witness_built :
    writeUnpack (emptyReply devA) (encryptFor key65 (container devB [p1, p2])) = .ok splicedReply := by
  rfl

theorem witness_len : Flag.len splicedReply.flags = 2 := by decide

/-- the receiver's loop on the spliced reply: EOF on the first element (the ciphertext announces
0x0405 tags) -/
theorem witness_eof : unpackRest 2 splicedReply.payload = .error .eof := by rfl

theorem witness_unpack_eof : unpack 2 splicedReply.payload = .error .eof := by
  unfold unpack; rw [witness_eof]

theorem witness_relay_eof : relay currentArm key65 devA devB (container devB [p1, p2]) = .error .eof := by
  unfold relay
  rw [currentArm_ok witness_built, witness_len, witness_unpack_eof]

theorem witness_nest : relay nestInto key65 devA devB (container devB [p1, p2]) = .ok [p1, p2] := by
  apply nest_relay key65 devA (container devB [p1, p2]) [p1, p2]
  · exact container_wf devB _ (by decide) (by decide) (by decide) (by decide)
  · exact container_carries devB _ (by decide)
  · exact List.forall_mem_cons.mpr ⟨p1_wf, List.forall_mem_singleton.mpr p2_wf⟩
  · decide

theorem single_witness : relay currentArm key65 devA devB p1 = .ok [p1] :=
  single_relay key65 devA p1 p1_wf p1_plain

end XMT.RelaySplice
