/-
  XMT.DecodeStream — allocation of the stream reader (`data/data_reader.go`): `(*reader).Bytes()`
  requests the announced length from the allocator (`make([]byte, l)`, `l ≤ MaxSlice`) before a
  single body byte has been read.  Outcomes are those of XMT.Codec (`decBytes streamPrim`), the
  allocation is computed next to them.

  Index / reslice expressions.  Unlike the in-memory reader (XMT.Decode), the stream reader never
  indexes a buffer with a value taken from the wire: `r.buf[0:1]`, `r.buf[0:2]`, `r.buf[0:4]`,
  `r.buf[:]`, `_ = r.buf[7]`, `r.buf[k]` are constant expressions on the reader's own `[8]byte`
  array (checked by the compiler).  The one reslice with a run-time bound is `b[:n]` at the end of
  `(*reader).Bytes()`, `b = make([]byte, l)` and `n` the count `io.ReadFull(r.r, b)` returned; it is
  modelled below as a panicking operation (`bodyP`) and proved in range for every stream
  (`bodyP_eq`): `n ≤ l` because `ReadFull` hands out at most `len(b)` bytes (`readFull_fst`).

  Also here: the allocation of `data.ReadStringList` over the stream reader (`strsAllocN` / `strsAlloc`): per
  entry the body buffer `(*reader).Bytes()` makes from the announced length, its `string` copy and the
  amortised `append`.
-/
import XMT.Codec
import XMT.CodecLemmas
import XMT.Decode

namespace XMT.Decode.Stream
open XMT.Codec

/-- bytes requested by one `(*reader).Bytes()` call -/
def bytesAlloc (s : Stream) : Nat :=
  match decLen streamPrim s with
  | .ok (some l, _) => if l = 0 ∨ l > Facts.maxSlice then 0 else l
  | _ => 0

/-- bytes requested by the entry loop of `ReadStringList` (after the fix) over the stream reader:
per entry the body buffer, its `string` copy and the amortised `append` -/
def strsAllocN : Nat → Stream → Nat
  | 0, _ => 0
  | n + 1, s =>
    bytesAlloc s +
      (match decBytes streamPrim s with
       | .ok (b, s') => b.length + XMT.Decode.appendCost + strsAllocN n s'
       | .error _ => 0)

def strsAlloc (s : Stream) : Nat :=
  match decLen streamPrim s with
  | .ok (some l, s') => if l ≥ 2 ^ 63 then 0 else strsAllocN l s'
  | _ => 0

theorem bytesAlloc_le (s : Stream) : bytesAlloc s ≤ Facts.maxSlice := by
  unfold bytesAlloc
  split
  · split <;> omega
  · omega

/-- `b[:n]` for `b = make([]byte, l)` whose first `n` bytes are `got`; `none` = "slice bounds out
of range" -/
def prefixP (l : Nat) (got : Bytes) : Option Bytes :=
  if got.length > l then none else some got

/-- the tail of `(*reader).Bytes()` with the reslice evaluated as Go does (`none` = panic):
```
b := make([]byte, l)
if n, err = io.ReadFull(r.r, b); err != nil { switch { case err == io.EOF: case err == ErrLimit: default: return nil, err } }
if uint64(n) != l { return b[:n], io.EOF }
return b, nil
``` -/
def bodyP (l : Nat) (s : Stream) : Option (Except Codec.Err (Bytes × Stream)) :=
  let r := readFull l s
  if r.1.length = l then some (.ok r)
  else match prefixP l r.1 with
    | none => none
    | some _ => some (.error (shortErr r.1))

theorem prefixP_some {l : Nat} {got : Bytes} (h : got.length ≤ l) : prefixP l got = some got :=
  if_neg (by omega)

theorem readFull_len_le (l : Nat) (s : Stream) : (readFull l s).1.length ≤ l := by
  rw [readFull_fst]
  exact List.length_take_le _ _

theorem bodyP_eq (l : Nat) (s : Stream) : bodyP l s = some (streamPrim.body l s) := by
  unfold bodyP
  simp only [prefixP_some (readFull_len_le l s), streamPrim]
  split <;> rfl

/-- the bound is what `bodyP_eq` rests on: a count above `len(b)` would panic -/
example : prefixP 2 [1, 2, 3] = none := by decide

/-- a successful `(*reader).Bytes()` returns at most `MaxSlice` bytes -/
theorem decBytes_stream_len {s s' : Stream} {b : Bytes} (h : decBytes streamPrim s = .ok (b, s')) :
    b.length ≤ Facts.maxSlice := by
  unfold decBytes at h
  cases hl : decLen streamPrim s with
  | error e => rw [hl] at h; cases h
  | ok r =>
    obtain ⟨l, s1⟩ := r
    rw [hl] at h
    cases l with
    | none =>
      simp only [Except.ok_bind, Except.pure_eq_ok] at h
      cases h
      exact Nat.zero_le _
    | some l =>
      simp only [Except.ok_bind] at h
      split at h
      · cases h
      · split at h
        · cases h
        · rename_i hm
          simp only [streamPrim] at h
          split at h
          · rename_i hlen
            injection h with h
            rw [h] at hlen
            exact hlen ▸ Nat.le_of_not_gt hm
          · cases h

end XMT.Decode.Stream
