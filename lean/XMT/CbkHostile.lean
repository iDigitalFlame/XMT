/-
  XMT.CbkHostile — the CBK stream reader (`(*CBK).Read` of data/crypto/cbk.go, model XMT/Cbk.lean) on
  ARBITRARY wire bytes: no panic, output bounded by the bytes consumed, termination; at the end the
  totality of the Base64-shift transform reader (`Wrap.b64Read_total`).  Core-only.

  Invariant (`HInv n s`, XMT/CbkStream.lean): `len(buf) = n+1` and `0 ≤ pos` — nothing about `total`,
  which is the attacker's count byte.  `newSource` establishes it (`init_hostile`), every `Read`
  preserves it whatever the outcome (`read_hostile`).  The bounds and the termination argument start
  from a state whose count is within the block (`total ≤ n`), which holds initially and after every
  `Read` that reported no error; `read_stuck` shows why.
-/
import XMT.CbkStream
namespace XMT.Cbk
variable {n : Nat} {s : St}

/-- Payload bytes of the current block still to hand out: `buf[pos : min total n]` — the count byte
`buf[n]` itself is never payload. -/
def avail (n : Nat) (s : St) : Nat := (min s.total (n : Int) - s.pos).toNat

theorem avail_le (hp : 0 ≤ s.pos) : avail n s ≤ n := by
  simp only [avail]; omega

theorem avail_nil (h : s.total ≤ s.pos) : avail n s = 0 := by
  simp only [avail]; omega

theorem avail_step {i : Nat} (hi : s.pos + i ≤ s.total) (ht : s.total ≤ n) :
    avail n s = avail n { s with pos := s.pos + i } + i := by
  simp only [avail]; omega

/-- Payload capacity of the wire still unread: `n` bytes for every whole block of `n+1` bytes. -/
def cap (n : Nat) (r : Codec.Stream) : Nat := n * (r.flatten.length / (n + 1))

theorem cap_block {r r' : Codec.Stream} (h : r'.flatten = r.flatten.drop (n + 1))
    (hl : n + 1 ≤ r.flatten.length) : cap n r = cap n r' + n := by
  have : r.flatten.length = r'.flatten.length + (n + 1) := by rw [h, List.length_drop]; omega
  simp only [cap]
  rw [this, Nat.add_div_right _ (by omega : 0 < n + 1), Nat.mul_succ]

theorem cap_nil {r : Codec.Stream} (h : r.flatten = []) : cap n r = 0 := by
  simp [cap, h]

theorem cap_le (n : Nat) (r : Codec.Stream) : cap n r ≤ r.flatten.length := by
  simp only [cap]
  calc n * (r.flatten.length / (n + 1)) ≤ (n + 1) * (r.flatten.length / (n + 1)) :=
        Nat.mul_le_mul_right _ (Nat.le_succ n)
    _ ≤ r.flatten.length := Nat.mul_div_le _ _

/-- `readInput` in the form the loops use it: total, keeps the invariant, never makes more payload
available than the wire it took can carry; unless it reports a hard error the count is within the
block afterwards — above 0, at position 0, on success; EOF comes with 0 bytes. -/
theorem readInput_hostile (hn : 16 ≤ n) (r : Codec.Stream) (h : HInv n s) :
    ∃ s' r' o e, readInput s r = some (s', r', o, e) ∧ HInv n s' ∧
      avail n s' + cap n r' ≤ avail n s + cap n r ∧
      (¬ (e.isSome ∧ e ≠ some .eof) → s'.total ≤ n) ∧ (e = none → s'.pos < s'.total) ∧
      (e = some .eof → o = 0) := by
  obtain ⟨hl, hp⟩ := h
  obtain ⟨heof, hshort, hblk⟩ := readInput_cases s r
  by_cases h0 : r.flatten = []
  · obtain ⟨r', h2, e⟩ := heof h0
    refine ⟨_, _, _, _, e, ⟨hl, hp⟩, ?_, fun _ => Int.natCast_nonneg n, by simp, fun _ => rfl⟩
    rw [avail_nil (s := { s with total := 0 }) hp, cap_nil h2]; exact Nat.zero_le _
  · by_cases h4 : r.flatten.length < s.buf.length
    · obtain ⟨b, r', h1, h2, e⟩ := hshort h0 h4
      refine ⟨_, _, _, _, e, ⟨h1.trans hl, hp⟩, ?_, by simp, by simp, by simp⟩
      rw [cap_nil h2]; exact Nat.le_add_right _ _
    · rw [hl] at h4 hblk
      obtain ⟨b, eb, lb⟩ := decBlock_total s.key (bump s.index) (r.flatten.take (n + 1))
        (by rw [List.length_take]; omega)
      have hne : b ≠ [] := List.ne_nil_of_length_pos (by rw [lb, List.length_take]; omega)
      rw [← List.dropLast_concat_getLast hne] at eb lb
      generalize b.dropLast = b' at eb lb
      generalize b.getLast hne = c at eb lb
      have h2 : b'.length = n := by
        rw [List.length_append, List.length_singleton, List.length_take] at lb; omega
      obtain ⟨r', h3, e⟩ := hblk b' c (by omega) (by omega) eb
      rw [h2] at e
      refine ⟨_, _, _, _, e, ⟨by simp [h2], Int.le_refl 0⟩, ?_, ?_, ?_, ?_⟩
      · have := avail_le (n := n) (s := { s with buf := b' ++ [c], index := bump s.index, total := c.toNat, pos := 0 })
          (Int.le_refl 0)
        rw [cap_block h3 (by omega)]; omega
      all_goals by_cases c0 : c.toNat = 0 <;> by_cases c1 : c.toNat > n <;> simp [c0, c1] <;> omega

/-- **The copy loop of `Read` on hostile input**, entered with a count within the block: with the
fuel `Read` gives it, it never panics and never runs out of fuel; it keeps the invariant and delivers
at most `k` bytes; the bytes delivered plus the payload still available stay within any bound `B` on
what was available plus what the wire can carry; and a loop that ends without error leaves the count
within the block and has delivered at least `L` bytes if the first turn was bound to (`L` is 1 more
than was delivered before when there is room and data). -/
theorem readLoop_hostile (hn : 16 ≤ n) (k B L : Nat) :
    ∀ (fuel : Nat) (s : St) (r : Codec.Stream) (acc : Bytes), HInv n s → s.total ≤ n →
      acc.length ≤ k → k - acc.length < fuel → acc.length + avail n s + cap n r ≤ B →
      (L ≤ acc.length ∨ (acc.length < k ∧ s.pos < s.total ∧ L ≤ acc.length + 1)) →
    ∃ s' r' out e, readLoop fuel s r k acc = some (s', r', out, e) ∧ HInv n s' ∧ out.length ≤ k ∧
      out.length + avail n s' + cap n r' ≤ B ∧ (e = none → s'.total ≤ n ∧ L ≤ out.length) := by
  intro fuel
  induction fuel with
  | zero => intro s r acc _ _ _ hf; omega
  | succ fuel ih =>
    intro s r acc h ht hacc hf hB hL
    by_cases hC : acc.length < k ∧ s.pos < s.total ∧ s.total ≤ n
    · obtain ⟨i, X, hi0, hX, hik, hit, -, e⟩ := readLoop_copy h fuel r hC.1 hC.2.1 ht
      have hlen : (acc ++ X).length = acc.length + i := by rw [List.length_append, hX]
      have hav := avail_step hit ht
      have hacc' : (acc ++ X).length ≤ k := by omega
      have hf' : k - (acc ++ X).length < fuel := by omega
      have hL' : L ≤ (acc ++ X).length := by omega
      rw [e]
      by_cases hA : s.pos + (i : Int) = s.total ∧ s.total = n
      · obtain ⟨s2, r2, o, e2, hre, hinv2, hpot2, hsoft2, -, -⟩ := readInput_hostile hn r (h.advance i)
        rw [if_pos hA, hre, Option.bind_some]
        by_cases hE : e2.isSome = true ∧ e2 ≠ some .eof
        · rw [if_pos hE]
          exact ⟨s2, r2, acc, e2, rfl, hinv2, hacc, by omega, fun he => by rw [he] at hE; simp at hE⟩
        · rw [if_neg hE]
          exact ih s2 r2 (acc ++ X) hinv2 (hsoft2 hE) hacc' hf' (by omega) (.inl hL')
      · rw [if_neg hA]
        exact ih _ r (acc ++ X) (h.advance i) ht hacc' hf' (by omega) (.inl hL')
    · rw [readLoop_stop h.len fuel r hC]
      exact ⟨s, r, acc, _, rfl, h, hacc, by omega, fun _ => ⟨ht, by omega⟩⟩

/-- **One `Read` of any size `k`, in any state satisfying `HInv`, on any stream**: it does not
panic, the invariant holds afterwards whatever the outcome (also after an error), and at most `k`
bytes are delivered (no write beyond the caller's buffer).  From a state whose count is within the
block: delivered + still available ≤ previously available + what the wire taken can carry; and a
`Read` that reports no error leaves the count within the block and, for `k > 0`, delivered at least
one byte. -/
theorem read_hostile (hn : 16 ≤ n) (r : Codec.Stream) (k : Nat) (h : HInv n s) :
    ∃ s' r' got e, Cbk.read s r k = some (s', r', got, e) ∧ HInv n s' ∧ got.length ≤ k ∧
      (s.total ≤ n →
        got.length + avail n s' + cap n r' ≤ avail n s + cap n r ∧
        (e = none → s'.total ≤ n ∧ min k 1 ≤ got.length)) := by
  obtain ⟨hl, hp0⟩ := id h
  -- the copy loop, entered with nothing delivered yet
  have loop : ∀ s2 r2, HInv n s2 → s2.total ≤ n → s2.pos < s2.total →
      avail n s2 + cap n r2 ≤ avail n s + cap n r →
      ∃ s' r' got e, readLoop (k + 1) s2 r2 k [] = some (s', r', got, e) ∧ HInv n s' ∧ got.length ≤ k ∧
        (s.total ≤ n →
          got.length + avail n s' + cap n r' ≤ avail n s + cap n r ∧
          (e = none → s'.total ≤ n ∧ min k 1 ≤ got.length)) := by
    intro s2 r2 hinv2 ht2 hlt2 hpot2
    obtain ⟨s', r', out, e, hrl, hinv', hk', hrest⟩ :=
      readLoop_hostile hn k (avail n s + cap n r) (min k 1) (k + 1) s2 r2 [] hinv2 ht2 (Nat.zero_le _)
        (by simp) (by simpa using hpot2) (by simp only [List.length_nil]; omega)
    exact ⟨s', r', out, e, hrl, hinv', hk', fun _ => hrest⟩
  by_cases hfast : s.total - s.pos > k
  · by_cases hsb : s.pos + k > s.buf.length
    · exact ⟨s, r, [], some .shortBuffer, read_short hfast hsb, h, Nat.zero_le _, fun _ => ⟨by simp, by simp⟩⟩
    · obtain ⟨X, hX, -, e⟩ := read_fast (r := r) hfast hp0 (by omega)
      exact ⟨_, _, _, _, e, h.advance k, by omega, fun ht =>
        ⟨by rw [hX, avail_step (i := k) (by omega) ht]; omega, fun _ => ⟨ht, by omega⟩⟩⟩
  · by_cases hge : s.pos ≥ s.total
    · obtain ⟨s2, r2, o, e2, hre, hinv2, hpot2, hsoft2, hok2, heof2⟩ := readInput_hostile hn r h
      rw [read_next hfast hge hre]
      cases e2 with
      | some x =>
        rw [if_pos ⟨rfl, by
          by_cases hx : x = .eof
          · exact .inr (heof2 (by rw [hx]))
          · exact .inl fun e => hx (Option.some.inj e)⟩]
        exact ⟨s2, r2, [], some x, rfl, hinv2, Nat.zero_le _, fun _ => ⟨by simpa using hpot2, by simp⟩⟩
      | none =>
        rw [if_neg (by simp)]
        exact loop s2 r2 hinv2 (hsoft2 (by simp)) (hok2 rfl) hpot2
    · rw [read_cont hfast hge]
      by_cases ht : s.total ≤ n
      · exact loop s r h ht (by omega) (Nat.le_refl _)
      · rw [readLoop_stop hl k r (fun hC => ht hC.2.2)]
        exact ⟨s, r, [], _, rfl, h, Nat.zero_le _, fun ht' => absurd ht' ht⟩

theorem readSeq_hostile (hn : 16 ≤ n) (ks : List Nat) :
    ∀ {s : St} (r : Codec.Stream), HInv n s → s.total ≤ n →
      ∃ pieces e, readSeq s r ks = some (pieces, e) ∧
        pieces.flatten.length ≤ avail n s + cap n r ∧
        pieces.flatten.length ≤ ks.sum ∧ pieces.length ≤ ks.length := by
  induction ks with
  | nil => intro s r _ _; exact ⟨[], none, rfl, by simp, by simp, by simp⟩
  | cons k ks ih =>
    intro s r h ht
    obtain ⟨s', r', got, e, hrd, hinv', hk, hT⟩ := read_hostile hn r k h
    obtain ⟨hpot, hok⟩ := hT ht
    unfold readSeq
    simp only [hrd, Option.bind_eq_bind, Option.bind_some]
    cases e with
    | some x =>
      refine ⟨[got], some x, rfl, ?_, ?_, by simp⟩
      · simp only [List.flatten_cons, List.flatten_nil, List.append_nil]; omega
      · simp only [List.flatten_cons, List.flatten_nil, List.append_nil, List.sum_cons]; omega
    | none =>
      obtain ⟨rest, e', hrs, hb1, hb2, hb3⟩ := ih r' hinv' (hok rfl).1
      simp only [hrs, Option.bind_some]
      refine ⟨got :: rest, e', rfl, ?_, ?_, by simp; omega⟩
      · simp only [List.flatten_cons, List.length_append]; omega
      · simp only [List.flatten_cons, List.length_append, List.sum_cons]; omega

/-- **`io.ReadAll` on any stream, for every fuel at once**: there is one result `(out, e)` — `e` is
never `io.EOF` (EOF is success), `out` is no longer than the payload available plus what the wire
can carry — and whatever the fuel the model returns that result, unless it runs out of fuel
(`none`), which only a fuel within the same bound can do: every `Read` that reports no error
delivers at least one byte, so the loop ends by EOF or an error after at most that many `Read`s. -/
theorem readAll_total (hn : 16 ≤ n) (r : Codec.Stream) (h : HInv n s) (ht : s.total ≤ n) :
    ∃ out e, e ≠ some .eof ∧ out.length ≤ avail n s + cap n r ∧
      ∀ fuel, readAll fuel s r = some (out, e) ∨
        (readAll fuel s r = none ∧ fuel ≤ avail n s + cap n r) := by
  suffices hm : ∀ (m : Nat) {s : St} (r : Codec.Stream), HInv n s → s.total ≤ n →
      avail n s + cap n r < m →
      ∃ out e, e ≠ some .eof ∧ out.length ≤ avail n s + cap n r ∧
        ∀ fuel, readAll fuel s r = some (out, e) ∨
          (readAll fuel s r = none ∧ fuel ≤ avail n s + cap n r) from
    hm _ r h ht (Nat.lt_succ_self _)
  intro m
  induction m with
  | zero => intro s r _ _ hf; omega
  | succ m ih =>
    intro s r h ht hf
    obtain ⟨s', r', got, e1, hrd, hinv', _, hT⟩ := read_hostile hn r 512 h
    obtain ⟨hpot, hok⟩ := hT ht
    cases e1 with
    | some x =>
      refine ⟨got, if x = .eof then none else some x, by split <;> simp [*], by omega, fun fuel => ?_⟩
      cases fuel with
      | zero => exact .inr ⟨rfl, Nat.zero_le _⟩
      | succ f =>
        rw [readAll, hrd]
        cases x <;> exact .inl rfl
    | none =>
      have hg := (hok rfl).2
      obtain ⟨rest, e', he', hb, hrs⟩ := ih r' hinv' (hok rfl).1 (by omega)
      refine ⟨got ++ rest, e', he', by rw [List.length_append]; omega, fun fuel => ?_⟩
      cases fuel with
      | zero => exact .inr ⟨rfl, Nat.zero_le _⟩
      | succ f =>
        rw [readAll, hrd]
        simp only [Option.bind_eq_bind, Option.bind_some]
        rcases hrs f with e2 | ⟨e2, hf2⟩
        · exact .inl (by rw [e2]; rfl)
        · exact .inr ⟨by rw [e2]; rfl, by omega⟩

/-- A state with `total = len(buf)` (count byte `n+1`; `readInput` reports `ErrShortBuffer` when it
creates it, so it is only met by a consumer that goes on reading after that error): every `Read`
asking for at least the rest of the buffer returns `(0, nil)` and changes nothing — no panic, but no
progress either.  This is why `readAll_total` / `read_hostile`'s progress clause assume
`s.total ≤ n`, which holds initially and after every `Read` that did not report `ErrShortBuffer`. -/
theorem read_stuck {n : Nat} {s : St} (r : Codec.Stream) (k : Nat) (hl : s.buf.length = n + 1)
    (hp' : s.pos ≤ n) (ht : s.total = n + 1) (hk : (n : Int) + 1 - s.pos ≤ k) :
    Cbk.read s r k = some (s, r, [], none) := by
  rw [read_cont (by omega) (by omega), readLoop_stop hl k r (by omega), if_neg (by omega)]

theorem init_hostile {a b c d sz : UInt8} {s0 : St} (h : newSource a b c d sz = some s0) :
    ∃ n, 16 ≤ n ∧ s0.buf.length = n + 1 ∧ HInv n s0 ∧ s0.total ≤ n ∧ avail n s0 = 0 := by
  obtain ⟨n, hn, _, hl, hp, ht, _⟩ := newSource_spec h
  exact ⟨n, hn, hl, ⟨hl, by omega⟩, by omega, avail_nil (by omega)⟩

theorem cbk_readSeq_hostile (a b c d sz : UInt8) (s0 : St) (h : newSource a b c d sz = some s0)
    (cs : Codec.Stream) (ks : List Nat) :
    ∃ pieces e, readSeq s0 cs ks = some (pieces, e) ∧
      pieces.flatten.length ≤ cs.flatten.length ∧
      pieces.flatten.length ≤ (s0.buf.length - 1) * (cs.flatten.length / s0.buf.length) ∧
      pieces.flatten.length ≤ ks.sum ∧ pieces.length ≤ ks.length := by
  obtain ⟨n, hn, hl, hinv, ht, ha⟩ := init_hostile h
  obtain ⟨pieces, e, hrs, h1, h2, h3⟩ := readSeq_hostile hn ks cs hinv ht
  rw [ha, Nat.zero_add] at h1
  exact ⟨pieces, e, hrs, Nat.le_trans h1 (cap_le n cs), by rw [hl]; exact h1, h2, h3⟩

theorem cbk_readSeq_no_panic (a b c d sz : UInt8) (s0 : St) (h : newSource a b c d sz = some s0)
    (cs : Codec.Stream) (ks : List Nat) : readSeq s0 cs ks ≠ none := by
  obtain ⟨_, _, e, _⟩ := cbk_readSeq_hostile a b c d sz s0 h cs ks
  rw [e]; simp

theorem cbk_readAll_hostile_partial (a b c d sz : UInt8) (s0 : St) (h : newSource a b c d sz = some s0)
    (cs : Codec.Stream) :
    (∀ fuel, cs.flatten.length < fuel → ∃ out e, readAll fuel s0 cs = some (out, e) ∧ e ≠ some .eof) ∧
    (∀ fuel out e, readAll fuel s0 cs = some (out, e) →
      out.length ≤ cs.flatten.length ∧
      out.length ≤ (s0.buf.length - 1) * (cs.flatten.length / s0.buf.length)) ∧
    (∀ fuel, readAll fuel s0 cs = none → fuel ≤ cs.flatten.length) ∧
    (∀ f1 f2, cs.flatten.length < f1 → cs.flatten.length < f2 → readAll f1 s0 cs = readAll f2 s0 cs) := by
  obtain ⟨n, hn, hl, hinv, ht, ha⟩ := init_hostile h
  have hcap := cap_le n cs
  obtain ⟨out, e, he, hb, tot⟩ := readAll_total hn cs hinv ht
  rw [ha, Nat.zero_add] at hb tot
  have big : ∀ fuel, cs.flatten.length < fuel → readAll fuel s0 cs = some (out, e) :=
    fun fuel hf => (tot fuel).resolve_right fun hx => by omega
  refine ⟨fun fuel hf => ⟨out, e, big fuel hf, he⟩, fun fuel out' e' hra => ?_, fun fuel hnone => ?_,
    fun f1 f2 h1 h2 => by rw [big f1 h1, big f2 h2]⟩
  · rcases tot fuel with hx | ⟨hx, -⟩
    · rw [hx] at hra; cases hra
      exact ⟨Nat.le_trans hb hcap, by rw [hl]; exact hb⟩
    · rw [hx] at hra; cases hra
  · rcases tot fuel with hx | ⟨-, hx⟩
    · rw [hx] at hnone; cases hnone
    · omega

/-- The full statement asked for, `∀ fuel, readAll fuel s0 cs ≠ none`, fails at `fuel = 0` for every
input (fuel artefact of the model, not a behaviour of the Go code). -/
theorem cbk_readAll_fuel_zero (s : St) (cs : Codec.Stream) : readAll 0 s cs = none := rfl

/-- The reader of the CBK layer of the wrapper stack (`cbkLayer.dec`, fuel `len + 2`) never hits the
model's panic/fuel value on any wire: `none` from `dec` is always an error *return* of `Read`. -/
theorem cbkLayer_dec_no_panic (a b c d sz : UInt8) (s0 : St) (h : newSource a b c d sz = some s0)
    (wire : Bytes) : ∃ out e, readAll (wire.length + 2) s0 [wire] = some (out, e) ∧
      out.length ≤ wire.length := by
  obtain ⟨tot, bnd, _, _⟩ := cbk_readAll_hostile_partial a b c d sz s0 h [wire]
  obtain ⟨out, e, hra, _⟩ := tot (wire.length + 2) (by simp)
  exact ⟨out, e, hra, by simpa using (bnd _ out e hra).1⟩

end XMT.Cbk

namespace XMT.Wrap

/-- The Base64-shift reader on arbitrary input, read from the decoder's side: where the decoder
returns bytes, so does `b64Read`, as many (the other facts about `b64Read` are in XMT/WrapLemmas.lean). -/
theorem b64Read_total (dec64 : Bytes → Option Bytes) (shift : UInt8) (p raw : Bytes)
    (h : dec64 p = some raw) : b64Read dec64 shift p = some (raw.map (· - shift)) := by
  rw [b64Read_eq, h]; rfl

end XMT.Wrap
