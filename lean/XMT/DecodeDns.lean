/-
  XMT.DecodeDns — model of the DNS transform's reader (c2/transform/dns.go `decodePacket`,
  `decodePackets`, `DNSTransform.Read`) after the bounds fix.  Every index expression of the Go code
  is an `idx` and every reslice (`b[s : s+i]`, `b[i:]`) a `sliceP` / `sliceFromP`; they are `none`
  out of range and the decoder then PANICS, as Go does.  The guards in front of them are the code's
  own; that they suffice is what `read_sat` proves (each `*_sat` lemma discharges the bounds of its loop
  from the guards),
  that they are needed is shown in XMT/DecodeGuardsMatter.lean.
-/
import XMT.Decode

namespace XMT.Decode.Dns
open XMT.Decode

inductive R (α : Type) where
  | ok (a : α)
  | err (e : Err)
  | panic (site : String)
  | hang
  deriving Repr

/-- `int(b[i])` -/
def idx (b : Bytes) (i : Nat) : Option Nat := (b[i]?).map UInt8.toNat

theorem idx_lt {b : Bytes} {i : Nat} (h : i < b.length) : idx b i = some b[i].toNat := by
  rw [idx, List.getElem?_eq_getElem h]; rfl

/-- `b[lo:hi]`: `none` = "slice bounds out of range" -/
def sliceP (b : Bytes) (lo hi : Nat) : Option Bytes :=
  if hi > b.length ∨ lo > hi then none else some ((b.drop lo).take (hi - lo))

/-- `b[lo:]` -/
def sliceFromP (b : Bytes) (lo : Nat) : Option Bytes :=
  if lo > b.length then none else some (b.drop lo)

theorem sliceP_some {b : Bytes} {lo hi : Nat} (h1 : lo ≤ hi) (h2 : hi ≤ b.length) :
    sliceP b lo hi = some ((b.drop lo).take (hi - lo)) :=
  if_neg (by omega)

theorem sliceP_none {b : Bytes} {lo hi : Nat} (h : b.length < hi ∨ hi < lo) : sliceP b lo hi = none :=
  if_pos (by omega)

theorem sliceFromP_some {b : Bytes} {lo : Nat} (h : lo ≤ b.length) : sliceFromP b lo = some (b.drop lo) :=
  if_neg (by omega)

theorem sliceFromP_none {b : Bytes} {lo : Nat} (h : b.length < lo) : sliceFromP b lo = none :=
  if_pos h

/-- the label walk of one question: `for i := 0; i < 64; { … }`; returns the new `s` -/
def labels : Nat → Bytes → Nat → Nat → R Nat
  | 0, _, _, _ => .hang
  | fuel + 1, b, s, i =>
    if ¬ (i < 64) then .ok s
    else if i ≥ b.length ∨ s ≥ b.length then .err .ueof
    else match idx b s with
      | none => .panic "dns: b[s] (label)"
      | some x => if x = 0 then .ok (s + 1) else labels fuel b (s + x + 1) x

/-- `for ; q > 0; q-- { labels; if s += 4; s >= len(b) { ueof } }` -/
def questions : Nat → Bytes → Nat → R Nat
  | 0, _, s => .ok s
  | q + 1, b, s =>
    match labels (b.length + 1) b s 0 with
    | .ok s1 => if s1 + 4 ≥ b.length then .err .ueof else questions q b (s1 + 4)
    | .err e => .err e
    | .panic m => .panic m
    | .hang => .hang

/-- `for ; c > 0; c-- { if s += 10; s+2 > len(b) { ueof }; s += int(b[s])<<8 | int(b[s+1]) + 2 }` -/
def answers : Nat → Bytes → Nat → R Nat
  | 0, _, s => .ok s
  | c + 1, b, s =>
    if s + 10 + 2 > b.length then .err .ueof
    else match idx b (s + 10), idx b (s + 10 + 1) with
      | some x, some y => answers c b (s + 10 + (((x <<< 8) ||| y) + 2))
      | _, _ => .panic "dns: b[s] (answer)"

/-- the additional records carrying the payload; `w` = bytes written so far:
```
for i := 0; t > 0; t-- {
    if s+12 > len(b) { return 0, io.ErrUnexpectedEOF }
    if b[s] != 0xC0 || … || b[s+5] != 1 { return 0, io.ErrNoProgress }
    s += 10
    i = int(b[s])<<8 | int(b[s+1])
    if s += 2; s+i > len(b) { return 0, io.ErrUnexpectedEOF }
    if _, err := w.Write(b[s : s+i]); err != nil { return 0, err }
    s += i
}
``` -/
def additional : Nat → Bytes → Nat → Bytes → R (Nat × Bytes)
  | 0, _, s, w => .ok (s, w)
  | t + 1, b, s, w =>
    if s + 12 > b.length then .err .ueof
    else match idx b s, idx b (s + 1), idx b (s + 2), idx b (s + 3), idx b (s + 4), idx b (s + 5) with
      | some c0, some c1, some c2, some c3, some c4, some c5 =>
        if c0 ≠ 0xC0 ∨ c1 ≠ 0x0C ∨ c2 ≠ 0 ∨ c3 ≠ 0xA ∨ c4 ≠ 0 ∨ c5 ≠ 1 then .err .noProgress
        else match idx b (s + 10), idx b (s + 10 + 1) with
          | some x, some y =>
            let i := (x <<< 8) ||| y
            if s + 12 + i > b.length then .err .ueof
            else match sliceP b (s + 12) (s + 12 + i) with
              | some d => additional t b (s + 12 + i) (w ++ d)
              | none => .panic "dns: b[s : s+i] (record data)"
          | _, _ => .panic "dns: b[s] (record length)"
      | _, _, _, _, _, _ => .panic "dns: b[s] (record header)"

/-- `decodePacket(w, b)`: bytes consumed and bytes written
(`if len(b) < 13 { ueof }; _ = b[12]; q = int(b[4])<<8 | int(b[5]); …`) -/
def decodePacket (b : Bytes) : R (Nat × Bytes) :=
  if b.length < 13 then .err .ueof
  else match idx b 12, idx b 4, idx b 5, idx b 6, idx b 7, idx b 10, idx b 11 with
    | some _, some q1, some q0, some c1, some c0, some t1, some t0 =>
      match questions ((q1 <<< 8) ||| q0) b 12 with
      | .ok s =>
        match answers ((c1 <<< 8) ||| c0) b s with
        | .ok s => additional ((t1 <<< 8) ||| t0) b s []
        | .err e => .err e
        | .panic m => .panic m
        | .hang => .hang
      | .err e => .err e
      | .panic m => .panic m
      | .hang => .hang
    | _, _, _, _, _, _, _ => .panic "dns: b[12]"

/-- `decodePackets`: `for i < len(b) { n, err := decodePacket(w, b[i:]); i += n }` -/
def packets : Nat → Bytes → Nat → Bytes → R (Nat × Bytes)
  | 0, _, _, _ => .hang
  | fuel + 1, b, i, w =>
    if ¬ (i < b.length) then .ok (i, w)
    else match sliceFromP b i with
      | none => .panic "dns: b[i:]"
      | some bi =>
        match decodePacket bi with
        | .ok (n, w') => packets fuel b (i + n) (w ++ w')
        | .err e => .err e
        | .panic m => .panic m
        | .hang => .hang

/-- `DNSTransform.Read(b, w)`: the bytes written to `w` -/
def read (b : Bytes) : R Bytes :=
  if b.length = 0 then .ok []
  else match packets (b.length + 1) b 0 [] with
    | .ok (n, w) => if b.length ≠ n then .err .ueof else .ok w
    | .err e => .err e
    | .panic m => .panic m
    | .hang => .hang

/-- the code before the fix (`_ = b[12]` unguarded, `s > len(b)`, `s+6 >= len(b)`): only what is
needed for the concrete counterexample -/
def decodePacketOld (b : Bytes) : R (Nat × Bytes) :=
  match idx b 12 with
  | none => .panic "dns: b[12]"
  | some _ => decodePacket b

def Fine {α : Type} : R α → Prop
  | .ok _ => True | .err _ => True | .panic _ => False | .hang => False

/-- `Fine`, with a postcondition on the value -/
def R.Sat {α : Type} (r : R α) (P : α → Prop) : Prop :=
  match r with
  | .ok a => P a | .err _ => True | .panic _ => False | .hang => False

variable {α : Type} {r : R α} {P Q : α → Prop}

theorem R.Sat.mono (h : r.Sat P) (hPQ : ∀ a, P a → Q a) : r.Sat Q := by
  cases r with
  | ok a => exact hPQ a h
  | err e => trivial
  | panic m => exact h
  | hang => exact h

/-- what a match on such an outcome has to look at -/
theorem R.Sat.cases (h : r.Sat P) : (∃ a, r = .ok a ∧ P a) ∨ ∃ e, r = .err e := by
  cases r with
  | ok a => exact .inl ⟨a, rfl, h⟩
  | err e => exact .inr ⟨e, rfl⟩
  | panic m => exact h.elim
  | hang => exact h.elim

theorem R.Sat.fine (h : r.Sat P) : Fine r ∧ ∀ a, r = .ok a → P a := by
  rcases h.cases with ⟨a, rfl, hp⟩ | ⟨e, rfl⟩
  · exact ⟨trivial, fun _ e => R.ok.inj e ▸ hp⟩
  · exact ⟨trivial, nofun⟩

theorem labels_sat (fuel : Nat) (b : Bytes) (s i : Nat) (hf : 1 ≤ fuel) (h : b.length + 2 ≤ fuel + s) :
    (labels fuel b s i).Sat (s ≤ ·) := by
  induction fuel generalizing s i with
  | zero => omega
  | succ n ih =>
    unfold labels
    split
    · exact Nat.le_refl s
    split
    · trivial
    simp (disch := omega) only [idx_lt]
    split
    · exact Nat.le_succ s
    · exact (ih _ _ (by omega) (by omega)).mono fun _ h => by omega

theorem questions_sat (q : Nat) (b : Bytes) (s : Nat) (hs : 1 ≤ s) : (questions q b s).Sat (s ≤ ·) := by
  induction q generalizing s with
  | zero => exact Nat.le_refl s
  | succ n ih =>
    unfold questions
    rcases (labels_sat (b.length + 1) b s 0 (by omega) (by omega)).cases with ⟨s1, hr, hle⟩ | ⟨e, hr⟩ <;>
      simp only [hr]
    · split
      · trivial
      · exact (ih (s1 + 4) (by omega)).mono fun _ h => by omega
    · trivial

theorem answers_sat (c : Nat) (b : Bytes) (s : Nat) : (answers c b s).Sat (s ≤ ·) := by
  induction c generalizing s with
  | zero => exact Nat.le_refl s
  | succ n ih =>
    unfold answers
    split
    · trivial
    simp (disch := omega) only [idx_lt]
    exact (ih _).mono fun _ h => by omega

/-- the records: the cursor only moves forward, and by at least what is written -/
theorem additional_sat (t : Nat) (b : Bytes) (s : Nat) (w : Bytes) :
    (additional t b s w).Sat fun r => s ≤ r.1 ∧ r.2.length + s ≤ w.length + r.1 := by
  induction t generalizing s w with
  | zero => exact ⟨Nat.le_refl s, Nat.le_refl _⟩
  | succ n ih =>
    unfold additional
    split
    · trivial
    simp (disch := omega) only [idx_lt]
    split
    · trivial
    split
    · trivial
    -- the guard `s+i > len(b)` failed: that is the upper bound of `b[s : s+i]`
    rw [sliceP_some (by omega) (by omega)]
    refine (ih _ _).mono fun r hr => ?_
    rw [List.length_append, List.length_take] at hr
    omega

theorem decodePacket_sat (b : Bytes) : (decodePacket b).Sat fun r => 12 ≤ r.1 ∧ r.2.length ≤ r.1 := by
  unfold decodePacket
  split
  · trivial
  simp (disch := omega) only [idx_lt]
  rcases (questions_sat (b[4].toNat <<< 8 ||| b[5].toNat) b 12 (by omega)).cases with ⟨s, hr, hs⟩ | ⟨e, hr⟩ <;>
    simp only [hr]
  · rcases (answers_sat (b[6].toNat <<< 8 ||| b[7].toNat) b s).cases with ⟨s2, hr2, hs2⟩ | ⟨e, hr2⟩ <;>
      simp only [hr2]
    · exact (additional_sat _ b s2 []).mono fun r hr => by have := hr.2; rw [List.length_nil] at this; omega
    · trivial
  · trivial

theorem decodePacket_fine (b : Bytes) :
    Fine (decodePacket b) ∧ ∀ r, decodePacket b = .ok r → 12 ≤ r.1 :=
  ((decodePacket_sat b).mono fun _ h => h.1).fine

theorem packets_sat (fuel : Nat) (b : Bytes) (i : Nat) (w : Bytes) (hf : 1 ≤ fuel)
    (h : b.length + 1 ≤ fuel + i) (hw : w.length ≤ i) : (packets fuel b i w).Sat fun r => r.2.length ≤ r.1 := by
  induction fuel generalizing i w with
  | zero => omega
  | succ n ih =>
    unfold packets
    split
    · exact hw
    -- the loop test `i < len(b)` is the bound of `b[i:]`
    rw [sliceFromP_some (by omega)]
    rcases (decodePacket_sat (b.drop i)).cases with ⟨⟨k, w'⟩, hr, hk⟩ | ⟨e, hr⟩ <;> simp only [hr]
    · have hk2 : w'.length ≤ k := hk.2
      exact ih (i + k) (w ++ w') (by omega) (by omega) (by rw [List.length_append]; omega)
    · trivial

theorem read_sat (b : Bytes) : (read b).Sat (·.length ≤ b.length) := by
  unfold read
  split
  · exact Nat.zero_le _
  rcases (packets_sat (b.length + 1) b 0 [] (by omega) (by omega) (Nat.le_refl _)).cases with
    ⟨⟨n, w⟩, hr, hn⟩ | ⟨e, hr⟩ <;> simp only [hr]
  · split
    · trivial
    · rename_i hne
      have : b.length = n := Decidable.not_not.mp hne
      exact this ▸ hn
  · trivial

theorem read_fine (b : Bytes) : Fine (read b) := (read_sat b).fine.1

/-- `Read` succeeds exactly when its loop over the packets stops at the end of the message; for the empty
message that is the loop's own answer, so the early return needs no case. -/
theorem read_eq_ok_iff (b w : Bytes) : read b = .ok w ↔ packets (b.length + 1) b 0 [] = .ok (b.length, w) := by
  unfold read
  by_cases h0 : b.length = 0
  · rw [if_pos h0, List.eq_nil_of_length_eq_zero h0]
    simp [packets]
  · rw [if_neg h0]
    cases packets (b.length + 1) b 0 [] with
    | ok r =>
      obtain ⟨n, w'⟩ := r
      by_cases hn : b.length = n
      · simp [hn]
      · simp [hn, Ne.symm hn]
    | _ => simp

end XMT.Decode.Dns
