/-
  XMT.FragAssemble — what `cluster.done` hands on when every fragment of `split` has arrived once:
  the sort puts the stored fragments into position order whatever the arrival order was, and folding
  `Add` over them gives back the original packet (`assemble_perm`).
-/
import XMT.FragRecv
namespace XMT.Frag
open XMT.Flag

def posLe (a b : Pkt) : Prop := position a.flags ≤ position b.flags

theorem insertByPos_spec (q : Pkt) (l : List Pkt) :
    (insertByPos q l).Perm (q :: l) ∧ (l.Pairwise posLe → (insertByPos q l).Pairwise posLe) :=
  ins_spec (ins := insertByPos) (fun p : Pkt => position p.flags) (fun _ => rfl) (fun _ _ _ => rfl) q l

theorem sortByPos_perm (l : List Pkt) : (sortByPos l).Perm l := by
  induction l with
  | nil => exact List.Perm.refl _
  | cons a l ih => exact (insertByPos_spec a _).1.trans (List.Perm.cons a ih)

theorem sortByPos_sorted (l : List Pkt) : (sortByPos l).Pairwise posLe := by
  induction l with
  | nil => exact List.Pairwise.nil
  | cons a l ih => exact (insertByPos_spec a _).2 ih

theorem or_bits_self (x : Nat) : x ||| (x % 2^16) = x := by
  apply Nat.eq_of_testBit_eq
  intro i
  rw [Nat.testBit_or, Nat.testBit_mod_two_pow]
  cases x.testBit i <;> simp

/-- folding `Add` over non-empty fragments whose flag bits `n` already has only appends payloads -/
theorem foldl_addTo (xs : List Pkt) (n : Pkt) (hne : ∀ x ∈ xs, x.payload.isEmpty = false)
    (hb : ∀ x ∈ xs, n.flags ||| bits x.flags = n.flags) :
    xs.foldl addTo n = { n with payload := n.payload ++ (xs.map (·.payload)).flatten } := by
  induction xs generalizing n with
  | nil => simp
  | cons x xs ih =>
    have hstep : addTo n x = { n with payload := n.payload ++ x.payload } := by
      unfold addTo
      rw [if_neg (by simp [hne x List.mem_cons_self]), hb x List.mem_cons_self]
    rw [List.foldl_cons, hstep, ih { n with payload := n.payload ++ x.payload } (fun y hy => hne y (List.mem_cons_of_mem _ hy))
      (fun y hy => hb y (List.mem_cons_of_mem _ hy))]
    simp only [List.map_cons, List.flatten_cons, List.append_assoc]

section
variable {F : Nat} {p : Pkt} {g m : Nat} (C : Ctx F p g m)
include C

/-- indices whose fragment carries payload -/
def neIdx (F : Nat) (p : Pkt) (i : Nat) : Bool := !(win F p i).isEmpty

omit C in
theorem nonEmpty_fr (i : Nat) : nonEmpty (fr F p g m i) = neIdx F p i := rfl

/-- sorting fragments by position puts them in index order, whatever order they came in -/
theorem sort_frs (J K : List Nat) (hJ : J.Perm K) (hK : K.Pairwise (· < ·)) (hm : ∀ i ∈ K, i < m) :
    sortByPos (J.map (fr F p g m)) = K.map (fr F p g m) := by
  have hperm := (sortByPos_perm (J.map (fr F p g m))).trans (hJ.map _)
  have hpos : ∀ i ∈ K, position (fr F p g m i).flags = i := fun i hi => fr_position C i (hm i hi)
  refine List.Perm.eq_of_pairwise (le := posLe) ?_ (sortByPos_sorted _) ?_ hperm
  · -- fragments with equal positions are equal
    intro a b ha hb hab hba
    obtain ⟨i, hi, rfl⟩ := List.mem_map.mp (hperm.subset ha)
    obtain ⟨j, hj, rfl⟩ := List.mem_map.mp hb
    unfold posLe at hab hba
    rw [hpos i hi, hpos j hj] at hab hba
    rw [Nat.le_antisymm hab hba]
  · rw [List.pairwise_map]
    refine List.Pairwise.imp_of_mem (fun {i j} hi hj hij => ?_) hK
    unfold posLe
    rw [hpos i hi, hpos j hj]
    exact Nat.le_of_lt hij

/-- tags are not carried by fragments: the reassembled packet has none -/
theorem assemble_perm (I : List Nat) (hI : I.Perm (List.range m)) :
    assemble (I.map (fr F p g m)) = some { p with tags := [] } := by
  have hm2 := C.m2
  have hKm : ∀ i ∈ (List.range m).filter (neIdx F p), i < m ∧ neIdx F p i = true := fun i hi =>
    ⟨List.mem_range.mp (List.mem_filter.mp hi).1, (List.mem_filter.mp hi).2⟩
  -- the stored fragments, sorted: the non-empty ones in index order, fragment 0 at the head
  obtain ⟨K', hK⟩ : ∃ K', (List.range m).filter (neIdx F p) = 0 :: K' := by
    obtain ⟨k, rfl⟩ : ∃ k, m = k + 1 := ⟨m - 1, by omega⟩
    rw [List.range_succ_eq_map, List.filter_cons_of_pos (show neIdx F p 0 = true from win0_ne C)]
    exact ⟨_, rfl⟩
  have hsort := sort_frs C _ _ (hI.filter (neIdx F p)) (List.pairwise_lt_range.filter _)
    fun i hi => (hKm i hi).1
  rw [hK] at hsort hKm
  have b0 := fr_bits C 0 (by omega)
  unfold assemble
  rw [List.filter_map, show nonEmpty ∘ fr F p g m = neIdx F p from rfl, hsort, List.map_cons]
  simp only
  rw [foldl_addTo (K'.map (fr F p g m)) (fr F p g m 0)
    (fun x hx => by
      obtain ⟨i, hi, rfl⟩ := List.mem_map.mp hx
      exact (Bool.not_eq_true' _).mp (hKm i (List.mem_cons_of_mem _ hi)).2)
    (fun x hx => by
      obtain ⟨i, hi, rfl⟩ := List.mem_map.mp hx
      rw [fr_bits C i (hKm i (List.mem_cons_of_mem _ hi)).1, ← b0]
      exact or_bits_self _)]
  -- payload: the windows of the non-empty fragments concatenate to the payload
  have hpay : (fr F p g m 0).payload ++ ((K'.map (fr F p g m)).map (·.payload)).flatten = p.payload := by
    rw [List.map_map, show (fun x : Pkt => x.payload) ∘ fr F p g m = win F p from rfl,
      show (fr F p g m 0).payload ++ (K'.map (win F p)).flatten = ((0 :: K').map (win F p)).flatten from rfl,
      ← hK, show ((List.range m).filter (neIdx F p)).map (win F p) =
        ((List.range m).map (win F p)).filter (fun b => !b.isEmpty) from
        (List.filter_map (f := win F p) (p := fun b => !b.isEmpty)).symm,
      List.flatten_filter_not_isEmpty]
    exact C.hm ▸ windows_cover F C.hF p
  -- flags: `FlagFrag` set by the setters, cleared again
  have hflags : Flag.clear (fr F p g m 0).flags = p.flags := by
    have := C.flEven
    rw [clear_of_frag _ (by omega), b0]
    rfl
  show some (Packet.Packet.mk p.id p.job (Flag.clear (fr F p g m 0).flags) [] p.dev _) = _
  rw [hflags, hpay]

end
end XMT.Frag
