/-
  XMT.DecodeSafe — every decoder of XMT.Decode is `Safe` with explicit constants.

  Most decoders are a sequence of reads that cost nothing, followed by a tail: `seq d rs`, safe
  whenever `d` is (`safe_seq`).  The allocating tails are a `make` from a count that is either bounded
  by its type (`safe_made`) or checked against the bytes left (`safe_list`), followed by that many
  entries.  The tag table of a nested packet and `result.Script` have accounts of their own.
-/
import XMT.DecodeLemmas

namespace XMT.Decode

variable {α : Type} {K M B E : Nat}

theorem safe_readAddr : Safe K 0 0 0 readAddr :=
  safe_bind0 safe_u64 fun _ => safe_bind0 safe_u64 fun _ => safe_pure _

/-- the reads that cost nothing at any rate `K ≥ 1` -/
inductive Read
  | u8 | u16 | u32 | u64 | bool | bytes | str | id | full (k : Nat) | guard (fl : Nat) | addr

def Read.ty : Read → Type
  | .u8 => UInt8
  | .u16 | .u32 | .u64 => Nat
  | .bool => Bool
  | .bytes | .str | .id | .full _ => Bytes
  | .guard _ | .addr => Unit

def Read.run : (r : Read) → D r.ty
  | .u8 => Decode.u8
  | .u16 => Decode.u16
  | .u32 => Decode.u32
  | .u64 => Decode.u64
  | .bool => Decode.bool
  | .bytes => Decode.bytes
  | .str => Decode.str
  | .id => idRead
  | .full k => readFullC k
  | .guard fl => guardResult fl
  | .addr => readAddr

theorem safe_read (hK : 1 ≤ K) : (r : Read) → Safe K 0 0 0 r.run
  | .u8 => safe_u8
  | .u16 => safe_u16
  | .u32 => safe_u32
  | .u64 => safe_u64
  | .bool => safe_bool
  | .bytes => safe_bytes hK
  | .str => safe_str hK
  | .id => safe_idRead
  | .full k => safe_readFullC k
  | .guard fl => safe_guardResult fl
  | .addr => safe_readAddr

/-- `do let _ ← r₁; …; let _ ← rₙ; d`.  A decoder of XMT.Decode written this way unfolds to `seq d [r₁, …, rₙ]`,
so `safe_seq` applies to it as it stands. -/
def seq (d : D α) : List Read → D α
  | [] => d
  | r :: rs => do let _ ← r.run; seq d rs

theorem safe_seq (hK : 1 ≤ K) {d : D α} (h : Safe K M B E d) : (rs : List Read) → Safe K M B E (seq d rs)
  | [] => h
  | r :: rs => safe_bind0 (safe_read hK r) fun _ => safe_seq hK h rs

theorem safe_reads (hK : 1 ≤ K) (rs : List Read) : Safe K 0 0 0 (seq (pure ()) rs) :=
  safe_seq hK (safe_pure ()) rs

def bIface : Nat := 255 * Facts.c04_sizeofAddress
def bNetwork : Nat := 255 * Facts.c04_sizeofIface + 255 * bIface
def bProxy : Nat := 255 * Facts.c04_sizeofProxyData
def bDevInfo : Nat := bNetwork + bProxy + 8

/-- `make([]T, n)` for a count that cannot exceed `N` (its type is narrower than `int`), then `n`
entries -/
theorem safe_made {body : D α} {n N size b : Nat} (site : String) (hn : n ≤ N)
    (hb : Safe K 0 b 0 body) (hN : N * size ≤ maxAlloc) (hB : N * size + N * b ≤ B) :
    Safe K 0 B 0 (do mk n size site; let _ ← rep n body; pure () : D Unit) :=
  safe_mono (safe_bind (safe_mk_le site hn hN) fun _ => safe_map_unit (safe_rep hb n)) (Nat.le_refl _)
    (Nat.le_trans (Nat.add_le_add_left (Nat.mul_le_mul_right b hn) _) hB) (Nat.le_refl _)

theorem safe_readIface (hK : 1 ≤ K) : Safe K 0 bIface 0 readIface :=
  safe_seq hK (safe_bind0 safe_u8 fun l =>
    safe_made "device.Address" (Nat.le_of_lt_succ l.toNat_lt) safe_readAddr (by decide) (Nat.le_refl _))
    [.str, .u64]

theorem safe_readNetwork (hK : 1 ≤ K) : Safe K 0 bNetwork 0 readNetwork :=
  safe_bind0 safe_u8 fun l => safe_made "device.Network" (Nat.le_of_lt_succ l.toNat_lt) (safe_readIface hK)
    (by decide) (Nat.le_refl _)

theorem safe_readMachine (hK : 1 ≤ K) : Safe K 0 bNetwork 0 readMachine :=
  safe_seq hK (safe_readNetwork hK) [.id, .u8, .u32, .u32, .str, .str, .str, .u8, .u32]

theorem safe_readProxyData (hK : 1 ≤ K) (f : Bool) : Safe K 0 bProxy 0 (readProxyData f) :=
  safe_bind0 safe_u8 fun n => safe_made (b := 0) "proxyData" (Nat.le_of_lt_succ n.toNat_lt)
    (safe_seq hK (safe_ite (safe_reads hK [.bytes]) (safe_pure ())) [.str, .str])
    (by decide) (Nat.le_refl _)

theorem safe_readInfoHead (hK : 1 ≤ K) (t : Nat) : Safe K 0 bNetwork 0 (readInfoHead t) :=
  safe_ite (safe_readMachine hK) (safe_ite (safe_seq hK (safe_pure ()) [.id]) (safe_pure ()))

theorem safe_readInfoTail (hK : 1 ≤ K) (t : Nat) : Safe K 0 bProxy 0 (readInfoTail t) :=
  safe_ite (safe_pure ()) <| safe_bind_tail0 (safe_readProxyData hK true) fun _ =>
    safe_ite (safe_pure ()) (safe_reads hK [.full _, .full _, .full _])

theorem safe_readDeviceInfo (hK : 1 ≤ K) (t : Nat) : Safe K 0 bDevInfo 0 (readDeviceInfo t) := by
  have hmid : Safe K 0 (8 + bProxy) 0 _ := safe_seq hK (safe_bind (safe_charge 8) fun _ =>
    safe_bind0 (safe_reads hK [.u8, .u8, .u8, .u8, .u8]) fun _ => safe_readInfoTail hK t)
    [.u8, .u64, .u64]
  have hall := safe_bind (safe_readInfoHead hK t) fun _ => hmid
  refine safe_ite (safe_mono (safe_readProxyData hK false) (Nat.le_refl _) ?_ (Nat.le_refl _))
    (safe_mono hall (Nat.le_refl _) ?_ (Nat.le_refl _)) <;> (unfold bDevInfo; omega)

/-! ### Packet tags: a table sized by the peer and bounded only by its 16-bit count (≤ 65535 × 4) -/

def bTags : Nat := 4 * 65535

/-- the loop test `i < t` is the bound of `p.Tags[i]` (`len(p.Tags) = t`): `hi` -/
theorem readTagsN_ends (len i n : Nat) (s : St) (hi : i + n ≤ len) : (readTagsN len i n s).Ends
    (fun _ s' => s'.alloc = s.alloc ∧ s'.rest.length + 4 * n = s.rest.length)
    (fun s' => s'.alloc = s.alloc ∧ s'.rest.length ≤ s.rest.length) := by
  induction n generalizing s i with
  | zero => exact ⟨rfl, rfl⟩
  | succ n ih =>
    unfold readTagsN
    rw [bind_of_ok (show tagIdx len i s = .ok () s from if_pos (by omega))]
    refine (u32_ends s).bind (fun t s1 _ h1 => ?_) (fun s1 h1 => h1 ▸ ⟨rfl, Nat.le_refl _⟩)
    split
    · exact ⟨h1.1, by omega⟩
    · exact (ih (i + 1) s1 (by omega)).mono (fun _ _ h2 => ⟨h2.1.trans h1.1, by omega⟩)
        (fun _ h2 => ⟨h2.1.trans h1.1, by omega⟩)

theorem safe_readTags (hK : 2 ≤ K) {t : Nat} (ht : t < 2 ^ 16) : Safe K 0 0 bTags (readTags t) := by
  refine .of_ends fun s hs => ?_
  unfold readTags
  split
  · exact Bound.refl s
  · rw [bind_of_ok (mk_nat_ok t 4 _ s (by rw [maxAlloc_val]; omega))]
    have hm : Facts.packetMaxTags = 32768 := by decide
    refine (readTagsN_ends t 0 _ _ (by omega)).mono (fun _ s2 ⟨ha, hl⟩ => ?_) (fun s2 ⟨ha, hl⟩ => ?_) <;>
      dsimp only at ha hl
    · -- every announced tag (up to the cap) was there: at two bytes of credit per byte read they
      -- pay for the table
      refine ⟨by omega, ?_⟩
      have := Nat.mul_le_mul_right (4 * min t Facts.packetMaxTags) hK
      rw [← hl, Nat.mul_add]
      omega
    · have := Nat.mul_le_mul_left K hl
      exact ⟨hl, by unfold bTags; omega⟩

theorem safe_unmarshalStream (hK : 2 ≤ K) : Safe K 0 0 bTags unmarshalStream :=
  have hK1 : 1 ≤ K := Nat.le_trans (by decide) hK
  safe_bind0 safe_u8 fun _ => safe_bind0 safe_u16 fun _ =>
  safe_bind0_post (· < 2 ^ 16) safe_u16 u16_lt fun _ ht => safe_bind0 safe_u64 fun _ =>
  safe_bind0 safe_idRead fun _ =>
  safe_bind_tail0 (safe_readTags hK ht) fun _ => safe_bind0 (safe_bytes hK1) fun _ => safe_pure _

theorem safe_list {entry : D Unit} {c size : Nat} (site : String) (hsz : Facts.maxSlice * size ≤ maxAlloc)
    (he : Safe K 0 0 0 entry) :
    Safe K size 0 0 (do mkChecked c size site; let _ ← rep c entry; pure () : D Unit) :=
  safe_bind_tail0 (safe_mkChecked site hsz) fun _ => safe_map_unit (safe_rep0 he c)

theorem safe_rMounts (fl : Nat) : Safe 129 0 0 0 (rMounts fl) :=
  safe_bind0 (safe_guardResult _) fun _ => safe_map_unit (safe_strList (Nat.le_refl _))

def kLs : Nat := 1 + Facts.c04_sizeofFileInfo

theorem safe_lsEntry : Safe kLs 0 0 0 lsEntry :=
  safe_consume_charge _ (safe_reads (Nat.le_refl 1) [.str, .u32, .u64, .u64])
    (consumes_bind consumes_str fun _ => safe_reads (Nat.le_refl 1) [.u32, .u64, .u64])

theorem safe_rLs (fl : Nat) : Safe kLs Facts.c04_sizeofInterface 0 0 (rLs fl) :=
  safe_bind0 (safe_guardResult _) fun _ => safe_bind0 safe_u32 fun _ =>
    safe_ite (safe_pure ()) (safe_list "result.Ls" (by decide) safe_lsEntry)

theorem safe_rWindowList (fl : Nat) : Safe 1 Facts.c04_sizeofWindow 0 0 (rWindowList fl) :=
  safe_bind0 (safe_guardResult _) fun _ => safe_bind0 safe_u32 fun _ =>
    safe_list "result.WindowList" (by decide)
      (safe_reads (Nat.le_refl 1) [.u64, .str, .u8, .u32, .u32, .u32, .u32])

theorem safe_rFuncRemapList (fl : Nat) : Safe 1 Facts.c04_sizeofFuncEntry 0 0 (rFuncRemapList fl) :=
  safe_bind0 (safe_guardResult _) fun _ => safe_bind0 safe_u32 fun _ =>
    safe_list "result.FuncRemapList" (by decide) (safe_reads (Nat.le_refl 1) [.u32, .u64, .u64])

theorem safe_rProcessList (fl : Nat) : Safe 1 Facts.c04_sizeofProcessInfo 0 0 (rProcessList fl) :=
  safe_bind0 (safe_guardResult _) fun _ => safe_bind0 safe_u32 fun _ =>
    safe_list "result.ProcessList" (by decide) (safe_reads (Nat.le_refl 1) [.u32, .u32, .str, .str])

def bLogins : Nat := 65535 * Facts.c04_sizeofLogin

theorem safe_rUserLogins (fl : Nat) : Safe 1 0 bLogins 0 (rUserLogins fl) :=
  safe_bind0 (safe_guardResult _) fun _ => safe_bind0_post (· < 2 ^ 16) safe_u16 u16_lt fun _ hc =>
    safe_made (b := 0) "result.UserLogins" (Nat.le_of_lt_succ hc)
      (safe_reads (Nat.le_refl 1) [.u32, .u8, .u64, .u64, .addr, .str, .str])
      (by decide) (Nat.le_refl _)

theorem safe_u8M : Safe K 0 0 0 u8M := by
  refine .of_ends fun s hs => ?_
  unfold u8M
  rcases (safe_u8.ends hs).cases with ⟨a, s1, e, h⟩ | ⟨a, s1, e, h⟩ <;> rw [e] <;> exact h

theorem safe_rSystemIO (fl : Nat) : Safe 1 0 0 0 (rSystemIO fl) :=
  safe_bind0 (safe_guardResult _) fun _ => safe_bind0 safe_u8M fun _ =>
    safe_ite (safe_pure ()) (safe_reads (Nat.le_refl 1) [.str, .u64])

theorem safe_rRegistry (fl : Nat) : Safe 1 Facts.c04_sizeofRegEntry 0 0 (rRegistry fl) :=
  safe_bind0 (safe_guardResult _) fun _ => safe_bind0 safe_u8M fun _ => safe_ite (safe_pure ()) <|
    safe_bind0 (safe_ite safe_u32 (safe_pure 1)) fun _ => safe_ite (safe_pure ()) <|
      safe_list "result.Registry" (by decide) (safe_reads (Nat.le_refl 1) [.str, .u32, .bytes])

def kScript : Nat := 2 + Facts.c04_sizeofPacket + 256 + appendCost

theorem scriptBytes_err {s s' : St} {e : Err} (h : bytes s = .err e s') : scriptBytes s =
    if e = .eof then .ok () { s' with alloc := s'.alloc + (256 + appendCost) } else .err e s' := by
  rw [scriptBytes, h]
  cases e <;> rfl

theorem scriptLoop_err {n : Nat} {s s' : St} {e : Err} (h : scriptRound s = .err e s') :
    scriptLoop (n + 1) s = if e = .eof then .ok () s' else .err e s' := by
  simp only [scriptLoop, h]
  cases e <;> rfl

/-- where `kScript` comes from: a round costs `sizeofPacket + 256 + appendCost` plus twice the body `d` it
appends, and has consumed at least `|d| + 2` bytes (ID and flag in front of the body) -/
theorem scriptRound_ends (s : St) (hs : s.rest.length ≤ Facts.maxSlice) : (scriptRound s).Ends
    (fun _ s' => s'.rest.length < s.rest.length ∧
      s'.alloc + kScript * s'.rest.length ≤ s.alloc + kScript * s.rest.length)
    (fun s' => s'.rest.length ≤ s.rest.length ∧
      s'.alloc + kScript * s'.rest.length ≤ s.alloc + kScript * s.rest.length + Facts.c04_sizeofPacket) := by
  have hk : kScript = 506 := by decide
  have hp : Facts.c04_sizeofPacket = 120 := by decide
  have hac : appendCost = 128 := rfl
  rw [hk, hp]
  rw [scriptRound, bind_of_ok (show charge _ s = .ok () { s with alloc := s.alloc + _ } from rfl), hp]
  refine (u8_ends _).bind (fun _ s1 _ h1 => ?_) (fun _ h1 => h1 ▸ ⟨Nat.le_refl _, Nat.le_of_eq (Nat.add_right_comm ..)⟩)
  dsimp only at h1
  refine (bool_ends s1).bind (fun e s2 _ h2 => ?_) (fun _ h2 => h2 ▸ ⟨by omega, by omega⟩)
  have hs2 : s2.rest.length ≤ Facts.maxSlice := by omega
  cases e
  · -- error flag: ReadString
    rw [if_neg (by decide), scriptStr]
    refine (str_ends hs2).bind (fun m s3 _ h3 => ?_) (fun s3 h3 => ⟨by omega, by omega⟩)
    show _ < _ ∧ _ ≤ _
    dsimp only
    omega
  · -- success flag: ReadBytes; `io.EOF` still appends a Packet
    rw [if_pos rfl]
    rcases (bytes_ends hs2).cases with ⟨d, s3, e3, h3⟩ | ⟨e, s3, e3, h3⟩
    · rw [scriptBytes, e3]
      show _ < _ ∧ _ ≤ _
      dsimp only
      omega
    · rw [scriptBytes_err e3]
      split
      · show _ < _ ∧ _ ≤ _
        dsimp only
        omega
      · exact ⟨by omega, by omega⟩

theorem scriptLoop_ends (fuel : Nat) (s : St) (hs : s.rest.length ≤ Facts.maxSlice)
    (hf : s.rest.length < fuel) : (scriptLoop fuel s).Ends
      (fun _ => Bound kScript 0 Facts.c04_sizeofPacket s) (Bound kScript 0 Facts.c04_sizeofPacket s) := by
  induction fuel generalizing s with
  | zero => omega
  | succ n ih =>
    rcases (scriptRound_ends s hs).cases with ⟨u, s1, e, hr⟩ | ⟨e', s1, e, hr⟩
    · simp only [scriptLoop, e]
      have hb : ∀ s2, Bound kScript 0 Facts.c04_sizeofPacket s1 s2 → Bound kScript 0 Facts.c04_sizeofPacket s s2 :=
        fun s2 b => ⟨by have := b.1; omega, by have := b.2; omega⟩
      exact (ih s1 (by omega) (by omega)).mono (fun _ => hb) hb
    · rw [scriptLoop_err e]
      split <;> exact ⟨hr.1, by omega⟩

theorem safe_rScript (fl : Nat) : Safe kScript 0 Facts.c04_sizeofPacket 0 (rScript fl) :=
  safe_bind0 (safe_guardResult fl) fun _ => .of_ends fun s hs =>
    scriptLoop_ends (s.rest.length + 1) s hs (Nat.lt_succ_self _)

end XMT.Decode
