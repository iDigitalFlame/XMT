/-
  XMT.ChunkRoom — the exact number of bytes `Chunk.Write` accepts.

  `room c k` is what the code of `quickSlice → reslice / grow` really leaves for a `k`-byte request
  under `Limit`, computed from the model state (length, cursor, capacity, limit):

  * the request fits the spare capacity and the buffer is below the limit: the limit counts the WHOLE
    buffer (read bytes included): `Limit - len`;
  * nothing is unread: `grow` rewinds the buffer, the whole `Limit` is free;
  * otherwise `grow` clamps the request to `Limit - unread` (`roomReq`) and then either reslices
    (buffer count again), slides / reallocates (the read bytes are reclaimed: `Limit - unread`), or —
    when the capacity is larger than `Limit + request` and sliding is not possible — refuses
    everything (`refused`).
-/
import XMT.ChunkOps
namespace XMT.Chunk
namespace Chunk

/-- the clamped request `grow` works with (`n = Limit - x` when `n > Limit - x`) -/
def roomReq (c : Chunk) (k : Nat) : Nat := min k (c.limit.toNat - (c.len - c.rpos))

/-- `quickSlice` (hence `Write`) refuses the whole request with `ErrLimit`: nothing is accepted. -/
def refused (c : Chunk) (k : Nat) : Prop :=
  c.limit > 0 ∧ ¬ ((c.len : Int) < c.limit ∧ k ≤ c.cap - c.len) ∧ c.len - c.rpos ≠ 0 ∧
    (((c.len - c.rpos : Nat) : Int) ≥ c.limit ∨
     (¬ ((c.len : Int) < c.limit ∧ roomReq c k ≤ c.cap - c.len) ∧
      ¬ ((roomReq c k : Int) ≤ ((c.cap / 2 : Nat) : Int) - ((c.len - c.rpos : Nat) : Int)) ∧
      (c.cap : Int) > c.limit + roomReq c k))

instance (c : Chunk) (k : Nat) : Decidable (refused c k) := by unfold refused; exact inferInstance

/-- The room `Write` has for a `k`-byte request when a limit is set. -/
def room (c : Chunk) (k : Nat) : Nat :=
  if (c.len : Int) < c.limit ∧ k ≤ c.cap - c.len then c.limit.toNat - c.len
  else if c.len - c.rpos = 0 then c.limit.toNat
  else if (c.len : Int) < c.limit ∧ roomReq c k ≤ c.cap - c.len then c.limit.toNat - c.len
  else if (roomReq c k : Int) ≤ ((c.cap / 2 : Nat) : Int) - ((c.len - c.rpos : Nat) : Int) then c.limit.toNat - (c.len - c.rpos)
  else if (c.cap : Int) > c.limit + roomReq c k then 0
  else c.limit.toNat - (c.len - c.rpos)

/-- no `ErrTooLarge` can come up: the sizes are far below `max int` / `MaxSlice` -/
def NoHuge (c : Chunk) (k : Nat) : Prop := 2 * c.cap + k ≤ maxInt ∧ c.rpos + k ≤ Facts.maxSlice
instance (c : Chunk) (k : Nat) : Decidable (NoHuge c k) := by unfold NoHuge; exact inferInstance

theorem maxInt_val : maxInt = 9223372036854775807 := by decide

theorem room_refused (c : Chunk) (k : Nat) (r : refused c k) : room c k = 0 := by
  obtain ⟨r1, r2, r3, r4⟩ := r
  unfold room
  rw [if_neg r2, if_neg r3]
  rcases r4 with r4 | ⟨r4, r5, r6⟩
  · rw [if_neg (by omega)]
    split
    · omega
    · split <;> omega
  · rw [if_neg r4, if_neg r5, if_pos r6]

theorem fits_room (c : Chunk) (k : Nat) (hfit : (c.len : Int) + k ≤ c.limit) (hk : 0 < k) :
    ¬ refused c k ∧ k ≤ room c k := by
  have hrq : roomReq c k = k := by unfold roomReq; omega
  refine ⟨fun r => ?_, ?_⟩
  · obtain ⟨_, r2, _, r4 | ⟨_, _, r6⟩⟩ := r
    · omega
    · rw [hrq] at r6; omega
  · unfold room
    rw [hrq]
    by_cases hA : (c.len : Int) < c.limit ∧ k ≤ c.cap - c.len
    · rw [if_pos hA]; omega
    · by_cases hx0 : c.len - c.rpos = 0
      · rw [if_neg hA, if_pos hx0]; omega
      · rw [if_neg hA, if_neg hx0, if_neg hA]
        split
        · omega
        · rw [if_neg (by omega)]; omega

/-- a buffer larger than `Limit + n` that cannot slide `n ≤ Limit - x` bytes has something unread -/
theorem no_slide_unread {cap n x : Nat} {L : Int} (hs : ¬ ((n : Int) ≤ ((cap / 2 : Nat) : Int) - x))
    (hc : (cap : Int) > L + n) (hl : (x : Int) + n ≤ L) : x ≠ 0 := by omega

variable (cf : Nat → Nat)

theorem grow_exact (c : Chunk) (k : Nat) (h : c.Inv) (hp : growPre c = c) :
    (∀ c1 m, grow cf c k = (c1, .ok m) → c.len - c.rpos ≠ 0 →
      ¬ refused c k ∧ (c.limit > 0 → room c k = c.limit.toNat - m)) ∧
    (∀ c1 e, grow cf c k = (c1, .error e) →
      (e = .limit ∧ refused c k) ∨ (e = .tooLarge ∧ ¬ NoHuge c k)) := by
  have hlc := h.lc; have hcap : c.cap = c.arr.length := rfl
  have hrq : c.limit > 0 → growN c (c.len - c.rpos) k = roomReq c k := fun hl => by
    unfold roomReq growN; split <;> omega
  unfold grow
  simp only [hp]
  by_cases hx : c.limit > 0 ∧ ((c.len - c.rpos : Nat) : Int) ≥ c.limit
  · rw [if_pos hx]
    refine ⟨fun c1 m heq => (by cases heq), fun c1 e heq => ?_⟩
    cases heq
    exact Or.inl ⟨rfl, hx.1, by omega, by omega, Or.inl hx.2⟩
  · rw [if_neg hx]
    obtain ⟨g1, g2, g3, g4⟩ := growN_spec c (c.len - c.rpos) k (by omega)
    generalize growN c (c.len - c.rpos) k = n' at *
    rw [reslice_eq c n' (by omega)]
    by_cases hB : n' ≤ c.cap - c.len ∧ ¬ (c.limit > 0 ∧ (c.len : Int) ≥ c.limit)
    · rw [if_pos hB]
      refine ⟨fun c1 m heq hx0 => ?_, fun c1 e heq => by cases heq⟩
      cases heq
      refine ⟨fun r => ?_, fun hl => ?_⟩
      · obtain ⟨r1, _, _, r4 | ⟨r4, _⟩⟩ := r
        · exact hx ⟨r1, r4⟩
        · rw [← hrq r1] at r4; omega
      · have := hrq hl
        unfold room
        by_cases hA : (c.len : Int) < c.limit ∧ k ≤ c.cap - c.len
        · rw [if_pos hA]
        · rw [if_neg hA, if_neg hx0, if_pos ⟨by omega, by omega⟩]
    · rw [if_neg hB]
      simp only
      refine ⟨fun c1 m heq hx0 => ?_, fun c1 e heq => ?_⟩
      · obtain ⟨_, _, rfl, a4⟩ := growAlloc_ok h g2 heq
        refine ⟨fun r => ?_, fun hl => ?_⟩
        · obtain ⟨r1, _, _, r4 | ⟨_, r5, r6⟩⟩ := r
          · exact hx ⟨r1, r4⟩
          · rw [← hrq r1] at r5 r6; omega
        · have := hrq hl
          unfold room
          rw [if_neg (by omega), if_neg hx0, if_neg (by omega)]
          split
          · rfl
          · rw [if_neg (by omega)]
      · obtain ⟨_, b2, ⟨rfl, b3, b4⟩ | ⟨rfl, b3⟩⟩ := growAlloc_err heq
        · have := hrq b3; have := g2 b3
          exact Or.inl ⟨rfl, b3, by omega, no_slide_unread b2 (by omega) this,
            Or.inr ⟨by omega, by omega, by omega⟩⟩
        · have hmi := maxInt_val
          exact Or.inr ⟨rfl, fun hh => by unfold NoHuge at hh; omega⟩

theorem quickSlice_exact (c : Chunk) (k : Nat) (h : c.Inv) :
    (∀ c1 m, quickSlice cf c k = (c1, .ok m) →
      ¬ refused c k ∧ (c.limit > 0 → room c k = c.limit.toNat - m)) ∧
    (∀ c1 e, quickSlice cf c k = (c1, .error e) →
      (e = .limit ∧ refused c k) ∨ (e = .tooLarge ∧ ¬ NoHuge c k)) := by
  unfold quickSlice
  rw [reslice_eq c k h.lc]
  by_cases hA : k ≤ c.cap - c.len ∧ ¬ (c.limit > 0 ∧ (c.len : Int) ≥ c.limit)
  · rw [if_pos hA]
    refine ⟨fun c1 m heq => ?_, fun c1 e heq => by cases heq⟩
    cases heq
    refine ⟨fun r => r.2.1 ⟨by have := r.1; omega, hA.1⟩, fun hl => ?_⟩
    unfold room; rw [if_pos ⟨by omega, hA.1⟩]
  · rw [if_neg hA]
    simp only
    have hg : grow cf c k = grow cf (growPre c) k := by
      unfold grow
      rw [growPre_id (c := growPre c) (by unfold growPre; split; exact Or.inr rfl; omega)]
    rw [hg, growPre_eq]
    split
    · rename_i hx0
      obtain ⟨ga, gb⟩ := grow_exact cf c k h (growPre_id (Or.inl hx0))
      exact ⟨fun c1 m heq => ga c1 m heq (by omega), gb⟩
    · -- nothing unread: `grow` rewinds and reserves at 0
      have hi := (reset_kept h (by omega)).inv
      obtain ⟨_, gb⟩ := grow_exact cf c.reset k hi (growPre_id (Or.inr rfl))
      refine ⟨fun c1 m heq => ?_, fun c1 e heq => ?_⟩
      · have r := grow_ok hi heq
        have hm : m = c1.rpos + (0 - 0) := r.index hi
        have hr : c1.rpos = 0 := r.rp.elim id id  -- `c.reset.rpos` is `0`
        refine ⟨fun rf => rf.2.2.1 (by omega), fun hl => ?_⟩
        unfold room; rw [if_neg (by omega), if_pos (by omega)]; omega
      · rcases gb c1 e heq with ⟨_, r⟩ | ⟨he, hn⟩
        · exact absurd rfl r.2.2.1
        · exact Or.inr ⟨he, fun hh => hn ⟨hh.1, Nat.le_trans (Nat.add_le_add_right (Nat.zero_le _) _) hh.2⟩⟩

variable {cf} in
theorem write_count {c c' : Chunk} {b : Bytes} {n : Nat} {e : Option Err} (h : c.Inv)
    (hh : NoHuge c b.length) (hw : write cf c b = (c', n, e)) :
    (c.limit ≤ 0 → n = b.length ∧ e = none) ∧
    (c.limit > 0 → n = min b.length (room c b.length) ∧
      (e = some .limit ↔ n < b.length ∨ refused c b.length) ∧ (e = none ∨ e = some .limit)) := by
  obtain ⟨qa, qb⟩ := quickSlice_exact cf c b.length h
  rcases hq : quickSlice cf c b.length with ⟨c1, e1 | m⟩
  · rw [write_err hq] at hw
    rcases qb c1 e1 hq with ⟨rfl, r⟩ | ⟨_, hn⟩
    · have hr := room_refused c b.length r
      cases hw
      exact ⟨fun hl => absurd r.1 (by omega), fun _ => ⟨by omega, ⟨fun _ => Or.inr r, fun _ => rfl⟩, Or.inr rfl⟩⟩
    · exact absurd hh hn
  · have r := quickSlice_ok h hq
    obtain ⟨a1, a2⟩ := qa c1 m hq
    rw [write_ok hq r] at hw
    cases hw
    have hroom := r.room; have hlim := r.limit
    refine ⟨fun hl => ?_, fun hl => ?_⟩
    · have := r.roomFull (Or.inl hl)
      exact ⟨by omega, if_neg (by omega)⟩
    · -- the room got is the request, or what the limit leaves behind the index
      have hcl := r.clamped; have := r.inv.lim (by omega); have := a2 hl
      refine ⟨by omega, ?_⟩
      split
      · exact ⟨⟨fun _ => Or.inl ‹_›, fun _ => rfl⟩, Or.inr rfl⟩
      · exact ⟨⟨nofun, fun hor => hor.elim (absurd · ‹_›) (absurd · a1)⟩, Or.inl rfl⟩

end Chunk
end XMT.Chunk
