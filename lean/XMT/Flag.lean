/-
  XMT.Flag — model of `com.Flag` (com/flag.go): a 64-bit word |len:16|pos:16|group:16|bits:16|,
  written with Go's own operators on `Nat` plus the explicit `uint64`/`uint32`/`uint16` truncations.
-/
import XMT.Base
namespace XMT.Flag

def flagFrag : Nat := 1

def u16 (x : Nat) : Nat := x % 2^16
def u32 (x : Nat) : Nat := x % 2^32
def u64 (x : Nat) : Nat := x % 2^64

/-- `uint16(f >> 48)` -/
def len (f : Nat) : Nat := u16 (f >>> 48)
/-- `uint16(f >> 16)` -/
def group (f : Nat) : Nat := u16 (f >>> 16)
/-- `uint16(f >> 32)` -/
def position (f : Nat) : Nat := u16 (f >>> 32)
/-- the 16 flag bits `uint16(f)` -/
def bits (f : Nat) : Nat := u16 f

/-- `*f = Flag(n)<<48 | Flag(f.Position())<<32 | Flag(uint32(*f)) | FlagFrag` -/
def setLen (f n : Nat) : Nat := u64 ((n <<< 48) ||| (position f <<< 32) ||| u32 f ||| flagFrag)
/-- `*f = ((*f >> 32) << 32) | Flag(n)<<16 | Flag(uint16(*f)) | FlagFrag` -/
def setGroup (f n : Nat) : Nat := u64 (((f >>> 32) <<< 32) ||| (n <<< 16) ||| u16 f ||| flagFrag)
/-- `*f = Flag(f.Len())<<48 | Flag(n)<<32 | Flag(uint32(*f)) | FlagFrag` -/
def setPosition (f n : Nat) : Nat := u64 ((len f <<< 48) ||| (n <<< 32) ||| u32 f ||| flagFrag)
/-- `*f = Flag(uint16(*f)) ^ FlagFrag` -/
def clear (f : Nat) : Nat := u16 f ^^^ flagFrag
/-- `*f = *f | n` -/
def set (f n : Nat) : Nat := f ||| n
/-- `*f = *f &^ n` -/
def unset (f n : Nat) : Nat := f - (f &&& n)

/-- `a ||| b = a + b` when `b` lies below the bits of `a` (`or_shl_eq_add` read the other way). -/
theorem or_eq_add (a b k : Nat) (ha : a % 2^k = 0) (hb : b < 2^k) : a ||| b = a + b := by
  have h := or_shl_eq_add b (a / 2^k) k hb
  rwa [Nat.shiftLeft_eq, Nat.div_mul_cancel (Nat.dvd_of_mod_eq_zero ha), Nat.or_comm,
    Nat.add_comm] at h

theorem or_one_eq (x : Nat) : x ||| 1 = x + 1 - x % 2 := by
  have hx := Nat.div_add_mod x 2
  rcases Nat.mod_two_eq_zero_or_one x with h | h
  · rw [or_eq_add x 1 1 (by simpa using h) (by decide)]; omega
  · have e : x = (x - 1) ||| 1 := by
      rw [or_eq_add (x - 1) 1 1 (by simp; omega) (by decide)]; omega
    have : x ||| 1 = x := by
      conv => lhs; rw [e]
      rw [Nat.or_assoc, Nat.or_self, ← e]
    omega

/-- the bits of Go's `a &^ b` as the hand models write it (`a - (a &&& b)`) -/
theorem testBit_sub_and (i : Nat) : ∀ a b : Nat, (a - (a &&& b)).testBit i = (a.testBit i && !b.testBit i) := by
  -- `x = a &&& b` is below `a`, its low bit is the `and` of the low bits, its other bits are `x / 2`
  induction i with
  | zero =>
    intro a b
    have hx := Nat.testBit_and a b 0
    have hle : a &&& b ≤ a := Nat.and_le_left
    simp only [Nat.testBit_zero] at hx ⊢
    generalize a &&& b = x at *
    by_cases ha : a % 2 = 1 <;> by_cases hb : b % 2 = 1 <;> simp [ha, hb] at hx ⊢ <;> omega
  | succ i ih =>
    intro a b
    have hx := Nat.testBit_and a b 0
    have hle : a &&& b ≤ a := Nat.and_le_left
    have hd : (a &&& b) / 2 = a / 2 &&& b / 2 := by simpa using @Nat.and_div_two_pow a b 1
    simp only [Nat.testBit_zero] at hx
    simp only [Nat.testBit_add_one]
    rw [← ih, ← hd]
    congr 1
    generalize a &&& b = x at *
    by_cases ha : a % 2 = 1 <;> simp [ha] at hx <;> omega

end XMT.Flag
