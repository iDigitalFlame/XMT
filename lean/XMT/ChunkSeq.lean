import XMT.Chunk
namespace XMT.Chunk
open XMT

/-- Operations on a chunk (the exported methods, with their arguments). -/
inductive Op
  | write (b : Bytes) | read (k : Nat) | fixed (b : Bytes) | bytes (b : Bytes) | readFixed (k : Nat)
  | truncate (n : Int) | grow (n : Int) | seek (o : Int) (w : Nat) | pos (p : Int) (b : Bytes)
  | reset | clear

/-- Observable result of an operation. -/
inductive Out
  | wrote (n : Nat) (e : Option Err)
  | got (b : Bytes) (e : Option Err)
  | err (e : Option Err)
  | off (o : Int) (e : Option Err)

namespace Chunk
variable (cf : Nat → Nat)

def step (c : Chunk) : Op → Chunk × Out
  | .write b => let r := c.write cf b; (r.1, .wrote r.2.1 r.2.2)
  | .read k => let r := c.read k; (r.1, .got r.2.1 r.2.2)
  | .fixed b => let r := c.writeFixed cf b; (r.1, .err r.2)
  | .bytes b => let r := c.writeBytes cf b; (r.1, .err r.2)
  | .readFixed k => let r := c.readFixed k
    (r.1, match r.2 with | .ok b => .got b none | .error e => .got [] (some e))
  | .truncate n => let r := c.truncate n; (r.1, .err r.2)
  | .grow n => let r := c.growOp cf n; (r.1, .err r.2)
  | .seek o w => let r := c.seek o w; (r.1, .off r.2.1 r.2.2)
  | .pos p b => let r := c.writePos p b; (r.1, .err r.2)
  | .reset => (c.reset, .err none)
  | .clear => (c.clear, .err none)

def run (c : Chunk) : List Op → Chunk × List Out
  | [] => (c, [])
  | op :: ops =>
    let r := step cf c op
    let rs := run r.1 ops
    (rs.1, r.2 :: rs.2)

end Chunk

/-- The plain byte-queue model: how the queue of unread bytes `q` evolves under an operation with
the observed result (`seek` / positional writes address retained bytes and are specified separately
by `seek_spec` / `writePos_spec`). -/
def QStep (q : Bytes) : Op → Out → Bytes → Prop
  | .write b, .wrote n e, q' => n ≤ b.length ∧ q' = q ++ b.take n ∧ (e = none → n = b.length)
  | .read k, .got g _, q' => g = q.take k ∧ q' = q.drop k
  | .fixed b, .err e, q' => (e = none ∧ q' = q ++ b) ∨ (e ≠ none ∧ q' = q)
  | .bytes b, .err e, q' => (e = none ∧ q' = q ++ (Codec.lenPrefix b.length ++ b)) ∨ (e ≠ none ∧ q' = q)
  | .readFixed k, .got g e, q' =>
      (k ≤ q.length ∧ g = q.take k ∧ e = none ∧ q' = q.drop k) ∨ (q.length < k ∧ e = some .eof ∧ q' = q)
  | .truncate n, .err e, q' => (e = none ∧ 0 ≤ n ∧ n ≤ q.length ∧ q' = q.take n.toNat) ∨ (e ≠ none ∧ q' = q)
  | .grow _, .err _, q' => q' = q
  | .reset, .err _, q' => q' = []
  | .clear, .err _, q' => q' = []
  | .seek _ _, .off _ _, _ => True
  | .pos _ _, .err _, _ => True
  | _, _, _ => False

end XMT.Chunk
