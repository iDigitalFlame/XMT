/-
  A concrete instance of the curve parameter (Diffie–Hellman in (Z/251)^*, generator 6) showing that
  the hypotheses `Curve.WF` are satisfiable, and `Decidable` instances for `Synced` / `Intact` used to
  evaluate the model on witness histories.
-/
import XMT.KeysLemmas
namespace XMT.Keys

/-- exponent of a private key (any function works; kept small so that the kernel evaluates it) -/
def toyExp (a : Bytes) : Nat := a.foldl (fun acc b => (acc + b.toNat) % 13) 0

/-- public key: tag 4, g^e mod 251, padded to the PublicKey size -/
def toyPub (a : Bytes) : Bytes := 4 :: byteOf (6 ^ toyExp a % 251) :: zeros (pubSize - 2)

/-- minimal big-endian encoding of a number below 256 -/
def toyEnc (x : Nat) : Bytes := if x = 0 then [] else [byteOf x]

def toyDh (m n : Bytes) : Option Bytes :=
  match n with
  | t :: y :: _ => if t = 4 ∧ n.length = pubSize then some (toyEnc (y.toNat ^ toyExp m % 251)) else none
  | _ => none

def toy : Curve := { pubOf := toyPub, dh := toyDh }

theorem toyPub_length (a : Bytes) : (toyPub a).length = pubSize := by
  have : 2 ≤ pubSize := by decide
  simp [toyPub]; omega

theorem toyDh_cons (m : Bytes) (y : UInt8) (r : Bytes) (h : (4 :: y :: r).length = pubSize) :
    toyDh m (4 :: y :: r) = some (toyEnc (y.toNat ^ toyExp m % 251)) := by
  unfold toyDh
  dsimp only
  rw [if_pos ⟨rfl, h⟩]

theorem toyDh_pub (a b : Bytes) :
    toyDh a (toyPub b) = some (toyEnc (6 ^ (toyExp b * toyExp a) % 251)) := by
  have hl := toyPub_length b
  unfold toyPub at hl ⊢
  rw [toyDh_cons a _ _ hl, byteOf_toNat]
  have : 6 ^ toyExp b % 251 % 256 = 6 ^ toyExp b % 251 := by omega
  rw [this, ← Nat.pow_mod, ← Nat.pow_mul]

-- Rewritten with, not unified through: matching `toy.dh a (toy.pubOf b)` against `toyDh a (toyPub b)`
-- by unfolding exhausts the recursion depth.
theorem toy_dh_eq : toy.dh = toyDh := rfl
theorem toy_pub_eq : toy.pubOf = toyPub := rfl

theorem toy_wf : toy.WF :=
  { comm := fun a b => by rw [toy_dh_eq, toy_pub_eq, toyDh_pub, toyDh_pub, Nat.mul_comm]
    total := fun a b _ _ => by rw [toy_dh_eq, toy_pub_eq]; exact ⟨_, toyDh_pub a b⟩
    pubLen := fun a => by rw [toy_pub_eq]; exact toyPub_length a
    pubNonzero := fun a => by
      rw [toy_pub_eq]; unfold toyPub
      generalize zeros (pubSize - 2) = z
      simp [allZero] }

def syncedB (s : State) : Bool :=
  match s.client, s.server.sess with
  | some cl, some sk => cl.keys.share == sk.share
  | _, _ => true

theorem syncedB_iff (s : State) : syncedB s = true ↔ Synced s := by
  unfold syncedB Synced
  cases s.client <;> cases s.server.sess <;> simp

instance (s : State) : Decidable (Synced s) := decidable_of_iff _ (syncedB_iff s)
instance (s : State) : Decidable (Intact s) := by unfold Intact; infer_instance

end XMT.Keys
