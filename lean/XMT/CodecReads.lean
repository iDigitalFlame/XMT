/-
  XMT.CodecReads — the relation "`rd` reads `bs` back as `x`" for decoders over any reader state: how
  it composes along a decoder's binds, what it says for the Chunk reader and for a stream reader, and
  the primitive reads of a lawful reader in this form. The round trips of TaskLemmas and InfoRoundtrip
  are stated with it; those of CodecRoundtrip with `Decodes`, which adds that `rd` fails on every strict
  prefix of `bs` and composes by the same rules.
-/
import XMT.CodecLemmas

namespace XMT.Codec

theorem strict_prefix_length {α : Type} {p x : List α} (h : p <+: x) (hne : p ≠ x) :
    p.length < x.length :=
  Nat.lt_of_le_of_ne h.length_le fun he => hne (h.eq_of_length he)

theorem strict_prefix_append {α : Type} {p x y : List α} (h : p <+: x ++ y)
    (hlt : p.length < (x ++ y).length) :
    (p <+: x ∧ p.length < x.length) ∨ ∃ p', p = x ++ p' ∧ p' <+: y ∧ p'.length < y.length := by
  rcases Nat.lt_or_ge p.length x.length with hl | hl
  · exact .inl ⟨List.prefix_of_prefix_length_le h (List.prefix_append x y) (Nat.le_of_lt hl), hl⟩
  · obtain ⟨p', rfl⟩ := List.prefix_of_prefix_length_le (List.prefix_append x y) h hl
    exact .inr ⟨p', rfl, (List.prefix_append_right_inj x).mp h, by simpa using hlt⟩

section
variable {S ε : Type} {abs : S → Bytes} {inv : S → Prop}

/-- `rd`, run on any state whose unread bytes start with `bs`, returns `x` and consumes exactly
`bs`. -/
def Reads (abs : S → Bytes) (inv : S → Prop) {α : Type} (rd : S → Except ε (α × S)) (bs : Bytes)
    (x : α) : Prop :=
  ∀ s r, inv s → abs s = bs ++ r → ∃ s', rd s = .ok (x, s') ∧ abs s' = r ∧ inv s'

theorem Reads.ret {α : Type} (x : α) :
    Reads abs inv (fun s => (pure (x, s) : Except ε (α × S))) [] x :=
  fun s _ hi h => ⟨s, rfl, h, hi⟩

theorem Reads.of_eq {α : Type} {rd : S → Except ε (α × S)} {b b' : Bytes} {x x' : α}
    (h : Reads abs inv rd b x) (hb : b' = b) (hx : x' = x) : Reads abs inv rd b' x' := by
  subst hb; subst hx; exact h

/-- A decoder written with the state passed by hand: `do let (a, s) ← f s; …`. The continuation has to
take the pair apart by a pattern, as `do` does: with `fun p => … p.1 … p.2 …` the instance `k (x, s)`
still mentions `s` in `(x, s).1`, and the rules for the rest of the decoder no longer elaborate against
it (give the second hypothesis its type with `have` then). -/
theorem Reads.bindE {α β : Type} {f : S → Except ε (α × S)} {k : α × S → Except ε (β × S)}
    {b1 b2 : Bytes} {x : α} {y : β} (h1 : Reads abs inv f b1 x)
    (h2 : Reads abs inv (fun s => k (x, s)) b2 y) :
    Reads abs inv (fun s => f s >>= k) (b1 ++ b2) y := by
  intro s r hi h
  rw [List.append_assoc] at h
  obtain ⟨s1, e1, a1, i1⟩ := h1 s _ hi h
  obtain ⟨s2, e2, a2, i2⟩ := h2 s1 _ i1 a1
  exact ⟨s2, by simp only [e1, Except.ok_bind, e2], a2, i2⟩

/-- … when the continuation consumes nothing (a final `pure`): then the bytes read are `b`, not
`b ++ []`. `bindE` with `Reads.ret` does as well only where `b` is a literal list, so that `b ++ []`
reduces; for a variable `b` this form is needed. -/
theorem Reads.bindE_nil {α β : Type} {f : S → Except ε (α × S)} {k : α × S → Except ε (β × S)}
    {b : Bytes} {x : α} {y : β} (h1 : Reads abs inv f b x)
    (h2 : Reads abs inv (fun s => k (x, s)) [] y) : Reads abs inv (fun s => f s >>= k) b y :=
  (h1.bindE h2).of_eq (List.append_nil b).symm rfl

/-- … and when it only computes on the result: the final `pure (g a, s)` of a `do` block. The side
condition is `rfl` once the goal has fixed `k` and `y`. -/
theorem Reads.mapE {α β : Type} {f : S → Except ε (α × S)} {k : α × S → Except ε (β × S)}
    {b : Bytes} {x : α} {y : β} (h : Reads abs inv f b x)
    (hk : ∀ s, k (x, s) = .ok (y, s) := by intro _; rfl) : Reads abs inv (fun s => f s >>= k) b y :=
  h.bindE_nil fun s _ hi hs => ⟨s, hk s, hs, hi⟩

theorem Reads.ite_pos {α : Type} {c : Prop} [Decidable c] {f g : S → Except ε (α × S)} {b : Bytes}
    {x : α} (hc : c) (h : Reads abs inv f b x) :
    Reads abs inv (fun s => if c then f s else g s) b x :=
  fun s r hi hs => by simpa only [if_pos hc] using h s r hi hs

theorem Reads.ite_neg {α : Type} {c : Prop} [Decidable c] {f g : S → Except ε (α × S)} {b : Bytes}
    {x : α} (hc : ¬ c) (h : Reads abs inv g b x) :
    Reads abs inv (fun s => if c then f s else g s) b x :=
  fun s r hi hs => by simpa only [if_neg hc] using h s r hi hs

/-- `rd` decodes `bs` as `x`: it reads `bs` back as `x`, and on a state that holds only a strict prefix
of `bs` it returns an error. The rules are those of `Reads`; a strict prefix of `b1 ++ b2` is a strict
prefix of `b1`, where the first read fails, or `b1` and a strict prefix of `b2`, where the first read
succeeds and the second fails. -/
structure Decodes (abs : S → Bytes) (inv : S → Prop) {α : Type} (rd : S → Except ε (α × S))
    (bs : Bytes) (x : α) : Prop where
  reads : Reads abs inv rd bs x
  fails : ∀ s, inv s → abs s <+: bs → (abs s).length < bs.length → ∃ e, rd s = .error e

theorem Decodes.ret {α : Type} (x : α) :
    Decodes abs inv (fun s => (pure (x, s) : Except ε (α × S))) [] x :=
  ⟨Reads.ret x, fun _ _ _ h => absurd h (Nat.not_lt_zero _)⟩

theorem Decodes.of_eq {α : Type} {rd : S → Except ε (α × S)} {b b' : Bytes} {x x' : α}
    (h : Decodes abs inv rd b x) (hb : b' = b) (hx : x' = x) : Decodes abs inv rd b' x' := by
  subst hb; subst hx; exact h

theorem Decodes.bindE {α β : Type} {f : S → Except ε (α × S)} {k : α × S → Except ε (β × S)}
    {b1 b2 : Bytes} {x : α} {y : β} (h1 : Decodes abs inv f b1 x)
    (h2 : Decodes abs inv (fun s => k (x, s)) b2 y) :
    Decodes abs inv (fun s => f s >>= k) (b1 ++ b2) y := by
  refine ⟨h1.reads.bindE h2.reads, fun s hi hp hlt => ?_⟩
  rcases strict_prefix_append hp hlt with ⟨p1, l1⟩ | ⟨p', e, p2, l2⟩
  · obtain ⟨e, he⟩ := h1.fails s hi p1 l1
    exact ⟨e, by rw [he]; rfl⟩
  · obtain ⟨s1, e1, a1, i1⟩ := h1.reads s p' hi e
    obtain ⟨e, he⟩ := h2.fails s1 i1 (a1 ▸ p2) (a1 ▸ l2)
    exact ⟨e, by rw [e1]; exact he⟩

theorem Decodes.bindE_nil {α β : Type} {f : S → Except ε (α × S)} {k : α × S → Except ε (β × S)}
    {b : Bytes} {x : α} {y : β} (h1 : Decodes abs inv f b x)
    (h2 : Decodes abs inv (fun s => k (x, s)) [] y) : Decodes abs inv (fun s => f s >>= k) b y :=
  (h1.bindE h2).of_eq (List.append_nil b).symm rfl

theorem Decodes.mapE {α β : Type} {f : S → Except ε (α × S)} {k : α × S → Except ε (β × S)}
    {b : Bytes} {x : α} {y : β} (h : Decodes abs inv f b x)
    (hk : ∀ s, k (x, s) = .ok (y, s) := by intro _; rfl) : Decodes abs inv (fun s => f s >>= k) b y :=
  h.bindE_nil ⟨fun s _ hi hs => ⟨s, hk s, hs, hi⟩, fun _ _ _ hl => absurd hl (Nat.not_lt_zero _)⟩

theorem Decodes.ite_pos {α : Type} {c : Prop} [Decidable c] {f g : S → Except ε (α × S)} {b : Bytes}
    {x : α} (hc : c) (h : Decodes abs inv f b x) :
    Decodes abs inv (fun s => if c then f s else g s) b x :=
  ⟨h.reads.ite_pos hc, fun s hi hp hl => by simpa only [if_pos hc] using h.fails s hi hp hl⟩

theorem Decodes.ite_neg {α : Type} {c : Prop} [Decidable c] {f g : S → Except ε (α × S)} {b : Bytes}
    {x : α} (hc : ¬ c) (h : Decodes abs inv g b x) :
    Decodes abs inv (fun s => if c then f s else g s) b x :=
  ⟨h.reads.ite_neg hc, fun s hi hp hl => by simpa only [if_neg hc] using h.fails s hi hp hl⟩

/-! The rules of `Reads` for a decoder in `StateT S (Except ε)`. -/

theorem Reads.pure {α : Type} (x : α) :
    Reads abs inv (Pure.pure x : StateT S (Except ε) α) [] x :=
  Reads.ret x

theorem Reads.bind {α β : Type} {rd : StateT S (Except ε) α} {f : α → StateT S (Except ε) β}
    {b1 b2 : Bytes} {x : α} {y : β} (h1 : Reads abs inv rd b1 x) (h2 : Reads abs inv (f x) b2 y) :
    Reads abs inv (rd >>= f) (b1 ++ b2) y :=
  Reads.bindE (k := fun p => f p.1 p.2) h1 h2

theorem Reads.bind_nil {α β : Type} {rd : StateT S (Except ε) α} {f : α → StateT S (Except ε) β}
    {b : Bytes} {x : α} {y : β} (h1 : Reads abs inv rd b x) (h2 : Reads abs inv (f x) [] y) :
    Reads abs inv (rd >>= f) b y :=
  Reads.bindE_nil (k := fun p => f p.1 p.2) h1 h2

theorem Reads.map {α β : Type} {rd : StateT S (Except ε) α} {b : Bytes} {x : α} (g : α → β)
    (h : Reads abs inv rd b x) : Reads abs inv (rd >>= fun a => Pure.pure (g a)) b (g x) :=
  h.bind_nil (Reads.pure (g x))

end

/-- The Chunk reader's state is the bytes still to be read: what holds of "a state that abstracts
to `r`" holds of `r`. This is `Reads.chunk` for a round trip that is not a `Reads`, because the
function returns no `Except` (the pointer readers, `decStrsInto`). -/
theorem at_chunk {p : Bytes → Prop} {r : Bytes} (h : ∃ s', p s' ∧ id s' = r ∧ True) : p r := by
  obtain ⟨_, h, rfl, _⟩ := h
  exact h

/-- The invariant on the state of a stream reader (`NoEmpty`, `EofOK`) is not part of what the
caller sees. `Reads.stream` for a round trip that is not stated as a `Reads`. -/
theorem forget_inv {S : Type} {p q i : S → Prop} (h : ∃ s', p s' ∧ q s' ∧ i s') :
    ∃ s', p s' ∧ q s' :=
  h.imp fun _ h => ⟨h.1, h.2.1⟩

theorem Reads.chunk {ε α : Type} {rd : Bytes → Except ε (α × Bytes)} {bs : Bytes} {x : α}
    (h : Reads id (fun _ => True) rd bs x) (rest : Bytes) : rd (bs ++ rest) = .ok (x, rest) :=
  at_chunk (h _ rest trivial rfl)

theorem Reads.stream {S ε α : Type} {abs : S → Bytes} {inv : S → Prop} {rd : S → Except ε (α × S)}
    {bs : Bytes} {x : α} (h : Reads abs inv rd bs x) (rest : Bytes) (s : S) (hi : inv s)
    (hs : abs s = bs ++ rest) : ∃ s', rd s = .ok (x, s') ∧ abs s' = rest :=
  forget_inv (h s rest hi hs)

section
variable {S : Type} {P : Prim S} {abs : S → Bytes} {inv : S → Prop} (L : Lawful P abs inv)
include L

theorem Lawful.reads_u8 (b : UInt8) : Reads abs inv P.u8 [b] b :=
  fun s r hi h => L.u8_ok s b r hi h

theorem Lawful.reads_u16 (n : Nat) (hn : n < 2 ^ 16) : Reads abs inv P.u16 (be16 n) n :=
  fun s r hi h => ofBe16_be16 n hn ▸ L.u16_ok s _ _ r hi h

theorem Lawful.reads_u32 (n : Nat) (hn : n < 2 ^ 32) : Reads abs inv P.u32 (be32 n) n :=
  fun s r hi h => ofBe32_be32 n hn ▸ L.u32_ok s _ _ _ _ r hi h

theorem Lawful.reads_u64 (n : Nat) (hn : n < 2 ^ 64) : Reads abs inv P.u64 (be64 n) n :=
  fun s r hi h => ofBe64_be64 n hn ▸ L.u64_ok s _ _ _ _ _ _ _ _ r hi h

theorem Lawful.reads_body (b : Bytes) : Reads abs inv (P.body b.length) b b := fun s r hi h => by
  have := L.body_ok s b.length hi (by rw [h, List.length_append]; omega)
  rwa [h, List.take_left, List.drop_left] at this

theorem Lawful.decodes_u8 (b : UInt8) : Decodes abs inv P.u8 [b] b :=
  ⟨L.reads_u8 b, fun s hi _ hl => L.u8_err s hi (List.length_eq_zero_iff.mp (Nat.lt_one_iff.mp hl))⟩

theorem Lawful.decodes_u16 (n : Nat) (hn : n < 2 ^ 16) : Decodes abs inv P.u16 (be16 n) n :=
  ⟨L.reads_u16 n hn, fun s hi _ hl => L.u16_err s hi hl⟩

theorem Lawful.decodes_u32 (n : Nat) (hn : n < 2 ^ 32) : Decodes abs inv P.u32 (be32 n) n :=
  ⟨L.reads_u32 n hn, fun s hi _ hl => L.u32_err s hi hl⟩

theorem Lawful.decodes_u64 (n : Nat) (hn : n < 2 ^ 64) : Decodes abs inv P.u64 (be64 n) n :=
  ⟨L.reads_u64 n hn, fun s hi _ hl => L.u64_err s hi hl⟩

theorem Lawful.decodes_body (b : Bytes) : Decodes abs inv (P.body b.length) b b :=
  ⟨L.reads_body b, fun s hi _ hl => L.body_err s b.length hi hl⟩

end
end XMT.Codec
