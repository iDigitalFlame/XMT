/-
  XMT.KeysPickWait — `(*Session).pickWait` (c2/session.go): the helper thread `pick` starts for a
  client in Channel mode. Model + lemmas for Props/C06 `pickWait_announces_what_it_queues`; compared
  with the real function by op `pickwait`.
-/
import XMT.Keys
namespace XMT.Keys

/-- `pickWait(o)`: after the wait, an abandoned helper (`*o != 0`: a packet was queued meanwhile and
`pick` took it) returns at once; otherwise the helper puts ONE packet in the send queue — the re-key
announcement `keyNextSync` produced (`roll = some a`: it rolled a re-key and `GenerateKey` drew `a`;
refused while one is pending) or a keep-alive. Returns the packet queued, if any, and the client. -/
def pickWait (c : Curve) (cl : Client) (abandoned : Bool) (roll : Option Bytes) : Option Pkt × Client :=
  if abandoned then (none, cl)
  else match roll with
    | none => (some { id := .data, crypt := false, payload := [] }, cl)
    | some a =>
      if cl.next.isSome then (some { id := .data, crypt := false, payload := [] }, cl)
      else
        let v := KeyPair.zero.fill c a
        (some { id := .data, crypt := true, payload := v.pub }, { cl with next := some v })

theorem pickWait_spec (c : Curve) (cl : Client) (abandoned : Bool) (roll : Option Bytes) :
    (pickWait c cl abandoned roll).2.keys = cl.keys ∧
    (pickWait c cl abandoned roll).2.hello = cl.hello ∧
    (abandoned = true → pickWait c cl abandoned roll = (none, cl)) ∧
    ((pickWait c cl abandoned roll).2.next ≠ cl.next →
      ∃ p v, (pickWait c cl abandoned roll).1 = some p ∧ p.crypt = true ∧
        (pickWait c cl abandoned roll).2.next = some v ∧ p.payload = v.pub) := by
  cases abandoned <;> cases roll <;> cases h : cl.next <;> simp [pickWait, h]

end XMT.Keys
