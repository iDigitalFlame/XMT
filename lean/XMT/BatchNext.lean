/-
  XMT.BatchNext — one transmission (`nextPacket`): the batching loop consumes a prefix of the packets
  it is given, packs it except for the keep-alives it elides and hands the rest back (`loop_spec`);
  what goes out after the loop, or on the single-packet path, is unpacked by the peer into what was
  packed and carries its tag lists (`nextPacket_spec`).
-/
import XMT.BatchTags
namespace XMT.Batch
open XMT.Packet

/-- drop keep-alives -/
def keepF (l : List Pkt) : List Pkt := l.filter (fun n => !isNoP n)

theorem keepF_append (a b : List Pkt) : keepF (a ++ b) = keepF a ++ keepF b := List.filter_append a b

theorem keepF_cons (n : Pkt) (l : List Pkt) :
    keepF (n :: l) = (if isNoP n then [] else [n]) ++ keepF l := by
  unfold keepF
  cases h : isNoP n <;> simp [h]

theorem keepF_cons_nop (n : Pkt) (l : List Pkt) (h : isNoP n = true) : keepF (n :: l) = keepF l := by
  rw [keepF_cons, h]; rfl

theorem isNoP_tags (p : Pkt) (X : List Nat) : isNoP { p with tags := X } = isNoP p := rfl

/-- a packet without its tag list (tags are merged / re-stamped per transmission and are not part
of what the property compares) -/
def core (p : Pkt) : Pkt := { p with tags := [] }

theorem keepF_core_single (p : Pkt) (X : List Nat) :
    (keepF [{ p with tags := X }]).map core = (keepF [p]).map core := by
  rw [keepF_cons, keepF_cons, isNoP_tags]
  cases isNoP p <;> rfl

/-- "the same, keep-alives and tag lists aside" goes through `++` -/
theorem keepF_core_append {a b c d : List Pkt} (h1 : (keepF a).map core = (keepF b).map core)
    (h2 : (keepF c).map core = (keepF d).map core) : (keepF (a ++ c)).map core = (keepF (b ++ d)).map core := by
  rw [keepF_append, keepF_append, List.map_append, List.map_append, h1, h2]

/-- a bare keep-alive, whatever its tags and device: unpacked as itself, and not among what the
property compares -/
theorem idle_spec (n : Pkt) (h1 : n.id = 0) (h2 : n.flags = 0) (h3 : n.payload = []) :
    unpack 3 n = .ok [n] ∧ keepF [n] = [] := by
  refine ⟨unpack_plain 2 ?_, keepF_cons_nop n [] ?_⟩
  · unfold Plain; rw [h2]; exact ⟨by decide, by decide⟩
  · simp [isNoP, h1, h2, h3]

theorem takeNext_spec (o : Pkt) (n : Option Pkt) (q : List Pkt) (h : q ≠ []) :
    n.toList ++ q = (takeNext o n q).1 :: (takeNext o n q).2 := by
  cases n with
  | some n0 => rfl
  | none =>
    cases q with
    | nil => exact absurd rfl h
    | cons a t => rfl

theorem markMD_spec (i : Bytes) (m : Bool) (o n : Pkt) (acc : List Pkt) (hc : Carries o acc) :
    Carries (markMD i m o n).1 acc ∧ (markMD i m o n).1.tags = o.tags := by
  unfold markMD
  split
  · exact ⟨carries_markMD hc, rfl⟩
  · exact ⟨hc, rfl⟩

theorem packOne_spec (i : Bytes) (m : Bool) (o n : Pkt) (acc : List Pkt) (hc : Carries o acc)
    (hn : QWF n) (hl : acc.length + 1 ≤ Facts.fragMax) :
    Carries (packOne i m o n).1 (acc ++ [n]) ∧ (packOne i m o n).1.tags = o.tags ++ n.tags := by
  have hm := markMD_spec i m o n acc hc
  unfold packOne
  rw [qwf_verify hn i]
  generalize markMD i m o n = om at hm
  obtain ⟨o2, hw, hc2, _, ht2⟩ := carries_snoc hm.1 hn.plain hl
  simp only [hw]
  exact ⟨hc2, ht2.trans (by rw [hm.2])⟩

/-- outcome `r` = (batch, carry-over, remaining queue) of the batching loop started on the batch `o`
that carries `acc`, with the packets `l` before it: the prefix `pre` of `l` was consumed, of which
`taken` were packed, in order (the others were elided keep-alives); the rest is handed back -/
structure LoopOut (o : Pkt) (acc l : List Pkt) (r : Pkt × Option Pkt × List Pkt)
    (pre taken : List Pkt) : Prop where
  split : l = pre ++ (r.2.1.toList ++ r.2.2)
  sub : taken.Sublist pre
  keep : keepF taken = keepF pre
  carries : Carries r.1 (acc ++ taken)
  tags : r.1.tags = o.tags ++ tagsOf taken

theorem LoopOut.stop {o : Pkt} {acc : List Pkt} (hc : Carries o acc) (n : Option Pkt) (q : List Pkt) :
    LoopOut o acc (n.toList ++ q) (o, n, q) [] [] :=
  ⟨rfl, .slnil, rfl, by rwa [List.append_nil], (List.append_nil _).symm⟩

theorem LoopOut.skip {o : Pkt} {acc l pre taken : List Pkt} {r : Pkt × Option Pkt × List Pkt}
    (h : LoopOut o acc l r pre taken) (n : Pkt) (hn : isNoP n = true) :
    LoopOut o acc (n :: l) r (n :: pre) taken :=
  ⟨by rw [h.split]; rfl, .cons _ h.sub, by rw [keepF_cons_nop _ _ hn, h.keep], h.carries, h.tags⟩

theorem LoopOut.take {o o' n : Pkt} {acc l pre taken : List Pkt} {r : Pkt × Option Pkt × List Pkt}
    (h : LoopOut o' (acc ++ [n]) l r pre taken) (ht : o'.tags = o.tags ++ n.tags) :
    LoopOut o acc (n :: l) r (n :: pre) (n :: taken) :=
  ⟨by rw [h.split]; rfl, .cons_cons _ h.sub,
    by rw [← List.singleton_append, keepF_append, h.keep, ← keepF_append]; rfl,
    by simpa using h.carries, by rw [h.tags, ht, tagsOf_cons, List.append_assoc]⟩

section
variable (P F : Nat)

/-- a packet in hand is looked at like the head of the queue -/
theorem loop_some (i : Bytes) (fuel x s : Nat) (m : Bool) (o a : Pkt) (q : List Pkt) (hx : x < P)
    (hq : q ≠ []) :
    loop P F i (fuel + 1) x s m o (some a) q = loop P F i (fuel + 1) x s m o none (a :: q) := by
  have h2 : x < P ∧ a :: q ≠ [] := ⟨hx, List.cons_ne_nil _ _⟩
  rw [loop, loop, if_pos ⟨hx, hq⟩, if_pos h2]; rfl

/-- the loop body on the head of the queue (`takeNext` resolved) -/
theorem loop_cons {i : Bytes} {fuel x s : Nat} {m : Bool} {o a : Pkt} {t : List Pkt} (hx : x < P) :
    loop P F i (fuel + 1) x s m o none (a :: t) =
      if hasFlag a.flags Facts.flagCrypt ∧ Flag.len o.flags > 0 then (o, some a, t)
      else if elide i s m a then loop P F i fuel (x + 1) s m o none t
      else if s > 0 ∧ s + Packet.size a > F then (o, some a, t)
      else loop P F i fuel (x + 1) (s + Packet.size a) (packOne i m o a).2 (packOne i m o a).1 none t := by
  rw [loop, if_pos ⟨hx, List.cons_ne_nil _ _⟩]; rfl

/-- **The batching loop loses nothing**: whatever it does with the packet in hand `n` and the
queue `q`, it consumes a prefix of `n` followed by `q`, packs it — elided keep-alives aside — in
order behind what the batch carried, and returns the rest as carry-over and remaining queue. Started
on an empty batch it consumes at least one packet. -/
theorem loop_spec (i : Bytes) (hP : P < Facts.fragMax) :
    ∀ (fuel x s : Nat) (m : Bool) (o : Pkt) (n : Option Pkt) (q acc : List Pkt)
      (r : Pkt × Option Pkt × List Pkt),
      loop P F i fuel x s m o n q = r → Carries o acc → acc.length ≤ x → (∀ a ∈ n.toList ++ q, QWF a) →
      ∃ pre taken, LoopOut o acc (n.toList ++ q) r pre taken ∧
        (0 < fuel → x < P → q ≠ [] → s = 0 → Flag.len o.flags = 0 → pre ≠ []) := by
  intro fuel
  induction fuel with
  | zero =>
    intro x s m o n q acc r hr hc _ _
    subst hr
    exact ⟨[], [], .stop hc n q, fun h => absurd h (Nat.lt_irrefl 0)⟩
  | succ fuel ih =>
    intro x s m o n q acc r hr hc hx hq
    unfold loop at hr
    by_cases hcond : x < P ∧ q ≠ []
    · rw [if_pos hcond] at hr
      have hin := takeNext_spec o n q hcond.2
      generalize takeNext o n q = nq at hin hr
      obtain ⟨n1, q1⟩ := nq
      simp only at hin hr
      rw [hin] at hq ⊢
      have hn1 : QWF n1 := hq n1 List.mem_cons_self
      have hq1 : ∀ a ∈ (none : Option Pkt).toList ++ q1, QWF a := fun a ha => hq a (List.mem_cons_of_mem _ ha)
      by_cases hkey : hasFlag n1.flags Facts.flagCrypt = true ∧ Flag.len o.flags > 0
      · -- key material behind other packets: kept back as carry-over
        rw [if_pos hkey] at hr
        subst hr
        exact ⟨[], [], .stop hc (some n1) q1, fun _ _ _ _ h => by omega⟩
      rw [if_neg hkey] at hr
      by_cases hnop : elide i s m n1 = true
      · -- an elided keep-alive
        rw [if_pos hnop] at hr
        obtain ⟨pre, taken, h, _⟩ := ih (x + 1) s m o none q1 acc r hr hc (by omega) hq1
        have : isNoP n1 = true := by
          unfold elide at hnop
          simp only [Bool.and_eq_true] at hnop; exact hnop.1
        exact ⟨n1 :: pre, taken, h.skip n1 this, fun _ _ _ _ _ => List.cons_ne_nil _ _⟩
      rw [if_neg hnop] at hr
      by_cases hfit : s > 0 ∧ s + Packet.size n1 > F
      · -- does not fit: carried over
        rw [if_pos hfit] at hr
        subst hr
        exact ⟨[], [], .stop hc (some n1) q1, fun _ _ _ h _ => by omega⟩
      rw [if_neg hfit] at hr
      obtain ⟨hc2, ht2⟩ := packOne_spec i m o n1 acc hc hn1 (by omega)
      obtain ⟨pre, taken, h, _⟩ := ih _ _ _ _ none q1 (acc ++ [n1]) r hr hc2 (by simp; omega) hq1
      exact ⟨n1 :: pre, n1 :: taken, h.take ht2, fun _ _ _ _ _ => List.cons_ne_nil _ _⟩
    · rw [if_neg hcond] at hr
      subst hr
      exact ⟨[], [], .stop hc n q, fun _ hx hq _ _ => absurd ⟨hx, hq⟩ hcond⟩

end

/-- outcome `r` = (transmission `o`, carry-over, remaining queue) of `nextPacket` on the packets `l` and
the tag list `t`: a non-empty prefix `pre` of `l` was consumed and the rest is handed back; the
transmission has the tags of `taken` (`pre` minus elided keep-alives), in order, then possibly `t`;
and whatever tags `next` stamps on it (`X`), the receiver unpacks from it — keep-alives and tag lists
aside — exactly `taken` -/
structure Sent (t : List Nat) (l : List Pkt) (r : Option Pkt × Option Pkt × List Pkt) (o : Pkt)
    (pre taken : List Pkt) : Prop where
  out : r.1 = some o
  split : l = pre ++ (r.2.1.toList ++ r.2.2)
  ne : pre ≠ []
  sub : taken.Sublist pre
  keep : keepF taken = keepF pre
  tags : o.tags = tagsOf taken ∨ o.tags = tagsOf taken ++ t
  obs : ∀ X, ∃ obs, unpack 3 { o with tags := X } = .ok obs ∧ (keepF obs).map core = (keepF taken).map core

/-- what goes out after the loop: a keep-alive when only keep-alives were taken, the packet itself
when exactly one own packet was taken, the batch otherwise -/
theorem finishBatch_spec (o : Pkt) (acc : List Pkt) (hc : Carries o acc) (hacc : ∀ a ∈ acc, QWF a)
    (ht : o.tags = tagsOf acc) :
    (finishBatch o).tags = tagsOf acc ∧
    ∀ X, ∃ obs, unpack 3 { finishBatch o with tags := X } = .ok obs ∧
      (keepF obs).map core = (keepF acc).map core := by
  unfold finishBatch
  by_cases hne : acc = []
  · subst hne
    have hn : normEmpty o = { o with id := 0, flags := 0 } := if_pos hc.len
    have hu : unwrapOne { o with id := 0, flags := 0 } = { o with id := 0, flags := 0 } :=
      if_neg (fun h => absurd h.1 (by decide : Flag.len 0 ≠ 1))
    rw [hn, hu]
    refine ⟨ht, fun X => ?_⟩
    obtain ⟨h1, h2⟩ := idle_spec { o with id := 0, flags := 0, tags := X } rfl rfl hc.pay
    exact ⟨_, h1, congrArg _ h2⟩
  · have hn : normEmpty o = o :=
      if_neg (by rw [hc.len]; exact fun h => hne (List.length_eq_zero_iff.mp h))
    rw [hn]
    by_cases hu : Flag.len o.flags = 1 ∧ ¬ hasFlag o.flags Facts.flagMultiDevice ∧ o.id = 0
    · -- a batch of one own packet goes out as that packet
      obtain ⟨a, rfl⟩ := List.length_eq_one_iff.mp (hc.len ▸ hu.1)
      have ha := hacc a List.mem_cons_self
      have : unwrapOne o = a := by
        unfold unwrapOne
        rw [if_pos hu, hc.pay, show ([a].map marshalStream).flatten = marshalStream a ++ [] from rfl,
          unmarshalStream_chunk a ha.wf]
      rw [this]
      exact ⟨(List.append_nil _).symm, fun X => ⟨_, unpack_plain 2 ha.plain, keepF_core_single a X⟩⟩
    · rw [show unwrapOne o = o from if_neg hu]
      exact ⟨ht, fun X => ⟨acc, unpack_carries 1 (carries_tags X hc) hne hacc, rfl⟩⟩

theorem single_rest (i : Bytes) (t : List Nat) (n : Pkt) (q : List Pkt) :
    (single i t n q).2.1 = none ∧ (single i t n q).2.2 = q := by
  unfold single; split <;> exact ⟨rfl, rfl⟩

theorem single_spec (i : Bytes) (t : List Nat) (n : Pkt) (q : List Pkt) (hn : QWF n) :
    ∃ o, Sent t (n :: q) (single i t n q) o [n] [n] := by
  have K := flagsOK
  have out : ∀ o : Pkt, o.tags = n.tags ++ t →
      (∀ X, ∃ obs, unpack 3 { o with tags := X } = .ok obs ∧ (keepF obs).map core = (keepF [n]).map core) →
      ∃ o', Sent t (n :: q) (some o, none, q) o' [n] [n] := fun o h1 h2 =>
    ⟨o, rfl, rfl, List.cons_ne_nil _ _, .refl _, rfl, Or.inr (by rw [h1, tagsOf_cons, tagsOf_nil,
      List.append_nil]), h2⟩
  unfold single
  rw [qwf_verify hn i]
  dsimp only
  by_cases hv : n.dev = i
  · rw [if_pos (decide_eq_true hv)]
    exact out _ rfl fun X => ⟨_, unpack_plain 2 hn.plain, keepF_core_single n X⟩
  · -- a packet of another device: a batch of one, marked multi-device
    rw [if_neg (by rw [decide_eq_true_eq]; exact hv)]
    have hce : Carries (emptyBatch i (Facts.flagMulti ||| Facts.flagMultiDevice)) [] :=
      carries_empty i _ (by decide)
    obtain ⟨o2, hw, hc2, _, ht2⟩ := carries_snoc hce hn.plain (by rw [K.fragMax]; decide)
    simp only [hw]
    exact out _ (by rw [ht2]; rfl) fun X =>
      ⟨[n], unpack_carries 1 (carries_tags X (carries_tags _ hc2)) (by simp)
        (by simpa using hn), rfl⟩

section
variable (P F : Nat)

theorem nextPacket_spec (hP : P < Facts.fragMax) (i : Bytes) (t : List Nat) (n : Option Pkt)
    (q : List Pkt) (hq : ∀ a ∈ n.toList ++ q, QWF a) (hne : n.toList ++ q ≠ []) :
    ∃ o pre taken, Sent t (n.toList ++ q) (nextPacket P F q n i t) o pre taken := by
  unfold nextPacket
  match n, q, hq, hne with
  | none, [], _, hne => exact absurd rfl hne
  | some n0, [], hq, _ => exact (single_spec i t n0 [] (hq n0 List.mem_cons_self)).elim fun o h => ⟨o, _, _, h⟩
  | n, h :: tl, hq, _ =>
    simp only
    by_cases hP1 : P ≤ 1
    · rw [if_pos hP1]
      cases n with
      | some n0 => exact (single_spec i t n0 (h :: tl) (hq n0 List.mem_cons_self)).elim fun o h => ⟨o, _, _, h⟩
      | none => exact (single_spec i t h tl (hq h List.mem_cons_self)).elim fun o h => ⟨o, _, _, h⟩
    · rw [if_neg hP1]
      obtain ⟨pre, taken, h1, h2⟩ := loop_spec P F i hP (P + 1) 0 0 false (emptyBatch i Facts.flagMulti)
        n (h :: tl) [] _ rfl (carries_empty i _ (by decide)) (Nat.le_refl 0) hq
      have hqt : ∀ a ∈ taken, QWF a := fun a ha =>
        hq a (by rw [h1.split]; exact List.mem_append_left _ (h1.sub.subset ha))
      obtain ⟨ft, fu⟩ := finishBatch_spec _ taken h1.carries hqt h1.tags
      exact ⟨_, pre, taken, rfl, h1.split,
        h2 (by omega) (by omega) (by simp) rfl (by decide : Flag.len Facts.flagMulti = 0), h1.sub, h1.keep,
        Or.inl ft, fu⟩

end
end XMT.Batch
