/-
  XMT.StateLemmas — bit-level lemmas about the sequential model of c2/state.go.
  A query stays `has s m` while a frame argument is enough (a mutation with mask `v` is not seen
  through a mask `m` disjoint from `v`, whatever the masks are: `has_set_disjoint`, `has_unset_disjoint`;
  the last group is not seen through a flag mask: `has_setLast`) and is reduced to `Nat.testBit` where
  one bit is followed (`has_pow`, `testBit_set`, `testBit_unset_wf`, …).  The flag constants enter
  through `stX = 2 ^ kX` (`flag_eqs`; the `has_stX` lemmas by evaluating both sides) and through side
  conditions on the regenerated facts that `decide` closes where they arise (`stX < 2 ^ 16`, disjoint masks,
  `kX < 16`, distinct positions), never through their values, so a reordering of the iota block re-proves.
  Last come the test-and-clear / test-and-set and the compound methods (`SetChannel`, `ChannelCanStop`,
  `Tag`) in closed form.
-/
import XMT.Base
import XMT.State
namespace XMT.State

def kCanRecv := Facts.stateCanRecvBit
def kReady := Facts.stateReadyBit
def kClosed := Facts.stateClosedBit
def kClosing := Facts.stateClosingBit
def kShutdown := Facts.stateShutdownBit
def kSendClose := Facts.stateSendCloseBit
def kRecvClose := Facts.stateRecvCloseBit
def kWakeClose := Facts.stateWakeCloseBit
def kChannel := Facts.stateChannelBit
def kValue := Facts.stateChannelValueBit
def kUpdated := Facts.stateChannelUpdatedBit
def kProxy := Facts.stateChannelProxyBit
def kSeen := Facts.stateSeenBit
def kMoving := Facts.stateMovingBit
def kReplacing := Facts.stateReplacingBit
def kShutdownWait := Facts.stateShutdownWaitBit

/-- obligations on the facts: every flag is the single bit `kX` (as a `simp only` lemma it turns
every flag constant into `2 ^ kX`) -/
theorem flag_eqs :
    stCanRecv = 2 ^ kCanRecv ∧ stReady = 2 ^ kReady ∧ stClosed = 2 ^ kClosed ∧ stClosing = 2 ^ kClosing ∧
    stShutdown = 2 ^ kShutdown ∧ stSendClose = 2 ^ kSendClose ∧ stRecvClose = 2 ^ kRecvClose ∧
    stWakeClose = 2 ^ kWakeClose ∧ stChannel = 2 ^ kChannel ∧ stChannelValue = 2 ^ kValue ∧
    stChannelUpdated = 2 ^ kUpdated ∧ stChannelProxy = 2 ^ kProxy ∧ stSeen = 2 ^ kSeen ∧
    stMoving = 2 ^ kMoving ∧ stReplacing = 2 ^ kReplacing ∧ stShutdownWait = 2 ^ kShutdownWait := by
  decide

def allK : List Nat := [kCanRecv, kReady, kClosed, kClosing, kShutdown, kSendClose, kRecvClose, kWakeClose,
  kChannel, kValue, kUpdated, kProxy, kSeen, kMoving, kReplacing, kShutdownWait]

/-- obligations on the facts: 16 distinct positions in the low half -/
theorem allK_lt : ∀ k ∈ allK, k < 16 := by decide
theorem allK_nodup : allK.Nodup := by decide

theorem has_pow (s k : Nat) : has s (2 ^ k) = s.testBit k := by
  unfold has
  rw [and_pow]
  cases h : s.testBit k <;> simp

/-! The flag predicates as bit tests. Each is `has_pow` at `kX`: the statement type-checks because `stX` and
`2 ^ kX` evaluate to the same numeral (what `flag_eqs` states as equations). -/

theorem has_stCanRecv (s : Nat) : has s stCanRecv = s.testBit kCanRecv := has_pow s kCanRecv
theorem has_stReady (s : Nat) : has s stReady = s.testBit kReady := has_pow s kReady
theorem has_stClosed (s : Nat) : has s stClosed = s.testBit kClosed := has_pow s kClosed
theorem has_stClosing (s : Nat) : has s stClosing = s.testBit kClosing := has_pow s kClosing
theorem has_stShutdown (s : Nat) : has s stShutdown = s.testBit kShutdown := has_pow s kShutdown
theorem has_stSendClose (s : Nat) : has s stSendClose = s.testBit kSendClose := has_pow s kSendClose
theorem has_stRecvClose (s : Nat) : has s stRecvClose = s.testBit kRecvClose := has_pow s kRecvClose
theorem has_stWakeClose (s : Nat) : has s stWakeClose = s.testBit kWakeClose := has_pow s kWakeClose
theorem has_stChannel (s : Nat) : has s stChannel = s.testBit kChannel := has_pow s kChannel
theorem has_stChannelValue (s : Nat) : has s stChannelValue = s.testBit kValue := has_pow s kValue
theorem has_stChannelUpdated (s : Nat) : has s stChannelUpdated = s.testBit kUpdated := has_pow s kUpdated
theorem has_stChannelProxy (s : Nat) : has s stChannelProxy = s.testBit kProxy := has_pow s kProxy
theorem has_stSeen (s : Nat) : has s stSeen = s.testBit kSeen := has_pow s kSeen
theorem has_stMoving (s : Nat) : has s stMoving = s.testBit kMoving := has_pow s kMoving
theorem has_stReplacing (s : Nat) : has s stReplacing = s.testBit kReplacing := has_pow s kReplacing
theorem has_stShutdownWait (s : Nat) : has s stShutdownWait = s.testBit kShutdownWait := has_pow s kShutdownWait

theorem testBit_of_not_has {s v k : Nat} (h : has s v = false) (hv : v.testBit k = true) : s.testBit k = false := by
  have := congrArg (·.testBit k) (show s &&& v = 0 by simpa [has] using h)
  simpa [hv] using this

theorem testBit_of_and_eq {s v k : Nat} (h : (s &&& v == v) = true) (hv : v.testBit k = true) : s.testBit k = true := by
  have := congrArg (·.testBit k) (show s &&& v = v by simpa using h)
  simpa [hv] using this

theorem testBit_set (s v i : Nat) : (set s v).testBit i = (s.testBit i || v.testBit i) := by
  simp [set]

theorem testBit_mask32 (i : Nat) : mask32.testBit i = decide (i < 32) :=
  Nat.testBit_two_pow_sub_one 32 i

theorem testBit_andNot (s v i : Nat) :
    (andNot s v).testBit i = (s.testBit i && (v.testBit i != decide (i < 32))) := by
  simp [andNot, testBit_mask32]

theorem testBit_unset (s v i : Nat) :
    (unset s v).testBit i = (s.testBit i && (v.testBit i != decide (i < 32))) := testBit_andNot s v i

theorem testBit_setLast (s v i : Nat) :
    (setLast s v).testBit i =
      ((decide (i < 32) && (decide (16 ≤ i) && v.testBit (i - 16))) || (decide (i < 16) && s.testBit i)) := by
  simp only [setLast, Nat.testBit_or, Nat.testBit_mod_two_pow, Nat.testBit_shiftLeft, ge_iff_le]

theorem testBit_last (s i : Nat) : (last s).testBit i = (decide (i < 16) && s.testBit (16 + i)) := by
  simp only [last, Nat.testBit_mod_two_pow, Nat.testBit_shiftRight]

theorem testBit_flags (s i : Nat) : (flags s).testBit i = (decide (i < 16) && s.testBit i) := by
  simp only [flags, Nat.testBit_mod_two_pow]

/-- on a 32-bit word the complement mask of `&^` needs no bound on the position -/
theorem testBit_unset_wf {s : Nat} (v i : Nat) (hs : s < 2 ^ 32) :
    (unset s v).testBit i = (s.testBit i && !v.testBit i) := by
  rw [testBit_unset]
  by_cases h : i < 32
  · simp [h]
  · simp [testBit_of_lt hs (Nat.le_of_not_lt h)]

theorem testBit_set_pow (s k i : Nat) : (set s (2 ^ k)).testBit i = (s.testBit i || decide (k = i)) := by
  rw [testBit_set, Nat.testBit_two_pow]

theorem testBit_unset_pow {s : Nat} (k i : Nat) (hs : s < 2 ^ 32) :
    (unset s (2 ^ k)).testBit i = (s.testBit i && !decide (k = i)) := by
  rw [testBit_unset_wf _ _ hs, Nat.testBit_two_pow]

theorem set_lt {s v : Nat} (hs : s < 2 ^ 32) (hv : v < 2 ^ 32) : set s v < 2 ^ 32 :=
  Nat.or_lt_two_pow hs hv
theorem unset_lt {s : Nat} (v : Nat) (hs : s < 2 ^ 32) : unset s v < 2 ^ 32 :=
  Nat.lt_of_le_of_lt Nat.and_le_left hs
theorem setLast_lt (s v : Nat) : setLast s v < 2 ^ 32 := by
  unfold setLast
  apply Nat.or_lt_two_pow
  · exact Nat.mod_lt _ (by decide)
  · exact Nat.lt_of_lt_of_le (Nat.mod_lt _ (by decide)) (by decide)

theorem last_set {v : Nat} (s : Nat) (hv : v < 2 ^ 16) : last (set s v) = last s := by
  apply Nat.eq_of_testBit_eq; intro i
  simp [testBit_last, testBit_set, testBit_of_lt hv (Nat.le_add_right 16 i)]

theorem last_unset {v : Nat} (s : Nat) (hv : v < 2 ^ 16) : last (unset s v) = last s := by
  apply Nat.eq_of_testBit_eq; intro i
  simp only [testBit_last, testBit_unset, testBit_of_lt hv (Nat.le_add_right 16 i)]
  by_cases h : i < 16
  · simp [h, show 16 + i < 32 by omega]
  · simp [h]

theorem flags_setLast (s v : Nat) : flags (setLast s v) = flags s := by
  apply Nat.eq_of_testBit_eq; intro i
  simp only [testBit_flags, testBit_setLast]
  by_cases h : i < 16
  · simp [h, show ¬ 16 ≤ i by omega]
  · simp [h]

theorem last_setLast {v : Nat} (s : Nat) (hv : v < 2 ^ 16) : last (setLast s v) = v := by
  apply Nat.eq_of_testBit_eq; intro i
  simp only [testBit_last, testBit_setLast]
  by_cases h : i < 16
  · simp [h, show 16 + i < 32 by omega, show ¬ 16 + i < 16 by omega]
  · simp [h, testBit_of_lt hv (Nat.le_of_not_lt h)]

theorem has_setLast {m : Nat} (s v : Nat) (hm : m < 2 ^ 16) : has (setLast s v) m = has s m := by
  have : setLast s v &&& m = s &&& m := by
    apply Nat.eq_of_testBit_eq; intro i
    simp only [Nat.testBit_and, testBit_setLast]
    by_cases h : i < 16
    · simp [h, show ¬ 16 ≤ i by omega]
    · simp [testBit_of_lt hm (Nat.le_of_not_lt h)]
  rw [has, this, has]

/-- every predicate is made of queries with flag masks -/
theorem predicates_setLast (s v : Nat) : predicates (setLast s v) = predicates s := by
  simp (disch := decide) only [predicates, seen, ready, moving, closed, canRecv, closing, channel, shutdown,
    replacing, recvClosed, sendClosed, wakeClosed, shutdownWait, channelValue, channelProxy, channelUpdated,
    channelCanStart, has_setLast]
  rfl

theorem has_set_disjoint {v m : Nat} (s : Nat) (h : v &&& m = 0) : has (set s v) m = has s m := by
  rw [has, set, Nat.and_or_distrib_right, h, Nat.or_zero, has]

theorem has_unset_disjoint {s v m : Nat} (hs : s < 2 ^ 32) (h : v &&& m = 0) : has (unset s v) m = has s m := by
  have : unset s v &&& m = s &&& m := by
    apply Nat.eq_of_testBit_eq; intro i
    have := congrArg (·.testBit i) h
    simp only [Nat.testBit_and, Nat.zero_testBit] at this
    rw [Nat.testBit_and, testBit_unset_wf v i hs, Nat.testBit_and]
    cases hv : v.testBit i <;> simp_all
  rw [has, this, has]

theorem tryUnset_eq (s v : Nat) : tryUnset s v = if has s v then (unset s v, true) else (s, false) := by
  unfold tryUnset has unset
  cases h : s &&& v == 0 <;> simp_all

theorem tryUnset_fst {s : Nat} (v : Nat) (hs : s < 2 ^ 32) : (tryUnset s v).1 = unset s v := by
  rw [tryUnset_eq]
  split
  · rfl
  · -- nothing to clear: the word has none of the mask's bits
    rename_i h
    apply Nat.eq_of_testBit_eq; intro i
    rw [testBit_unset_wf v i hs]
    cases hv : v.testBit i
    · simp
    · simp [testBit_of_not_has (Bool.not_eq_true _ ▸ h) hv]

theorem tryUnset_snd (s v : Nat) : (tryUnset s v).2 = has s v := by
  rw [tryUnset_eq]
  cases has s v <;> rfl

theorem trySet_fst (s v : Nat) : (trySet s v).1 = set s v := by
  unfold trySet set
  split
  · -- nothing to set: the word has all of the mask's bits
    rename_i h
    apply Nat.eq_of_testBit_eq; intro i
    rw [Nat.testBit_or]
    cases hv : v.testBit i
    · simp
    · simp [testBit_of_and_eq h hv]
  · rfl

theorem trySet_pow (s k : Nat) : trySet s (2 ^ k) = if s.testBit k then (s, false) else (set s (2 ^ k), true) := by
  unfold trySet set
  rw [and_pow]
  have : (0 : Nat) ≠ 2 ^ k := Nat.ne_of_lt (Nat.pow_pos (by decide))
  cases h : s.testBit k <;> simp [this]

/-- `standing` is the early-return guard of `SetChannel`; otherwise the value flag becomes the request
and the notice is raised -/
theorem setChannel_eq (s : Nat) (e : Bool) : setChannel s e =
    if standing s e then (s, false)
    else (set (cond e (set s stChannelValue) (unset s stChannelValue)) stChannelUpdated, true) := by
  unfold setChannel standing
  cases e <;> cases channelValue s <;> cases channel s <;> cases channelProxy s <;> rfl

theorem channelCanStop_eq (s : Nat) : channelCanStop s =
    if closing s || !channel s then (s, true)
    else if channelUpdated s then (unset s stChannelUpdated, !channelValue (unset s stChannelUpdated))
    else (s, !channel s) := by
  unfold channelCanStop
  rw [tryUnset_eq, channelUpdated]
  cases has s stChannelUpdated <;> rfl

theorem tag_eq_tryUnset (s : Nat) : tag s = tryUnset s stSeen := by
  rw [tryUnset_eq, tag, seen]
  cases has s stSeen <;> rfl

end XMT.State
