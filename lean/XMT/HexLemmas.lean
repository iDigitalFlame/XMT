/-
  XMT.HexLemmas — round trip of the encoding/hex model (XMT/HexCodec.lean): `Decode ∘ Encode = id`,
  the streaming encoder's output is the encoding of the concatenation for every write chunking, the
  streaming decoder returns the payload and then EOF for every chunking of the wire (empty pieces,
  EOF with or after the last bytes) and every sequence of Read sizes; what the `Hex` layer writes and
  that its reader undoes it (`hexLayer_writes`, `hexLayer_dec_encode`, from which Props.C07.hex_lossless
  has `LGood hexLayer`). Also what one `Read` of the reader below (`Src`) does, shared with the base64 decoder.
-/
import XMT.HexCodec
namespace XMT.HexCodec

/-- One `Read` of the reader below: nothing is lost or reordered, EOF is only reported by an exhausted
reader, and a Read that neither fills the buffer nor reports EOF has used up a piece. -/
theorem Src.read_spec (s : Src) (cap : Nat) :
    (s.read cap).1 ++ (s.read cap).2.1.pieces.flatten = s.pieces.flatten ∧
    ((s.read cap).2.2 = true → (s.read cap).2.1.pieces = []) ∧
    (s.read cap).2.1.pieces.length ≤ s.pieces.length ∧
    ((s.read cap).2.2 = false → (s.read cap).1.length < cap →
      (s.read cap).2.1.pieces.length < s.pieces.length) := by
  obtain ⟨pieces, we⟩ := s
  cases pieces with
  | nil => simp [Src.read]
  | cons p ps =>
    simp only [Src.read]
    split
    · simp
    · rename_i h; simp; exact ⟨by rw [← List.append_assoc, List.take_append_drop], by omega⟩

theorem fromHex_hextable : ∀ k : Fin 16, fromHex (hextable (UInt8.ofNat k.val)) = some (UInt8.ofNat k.val) := by
  decide

theorem and_15 (n : Nat) : n &&& 15 = n % 16 := Nat.and_two_pow_sub_one_eq_mod n 4

theorem nibbles (v : UInt8) :
    fromHex (hextable (v >>> 4)) = some (v >>> 4) ∧ fromHex (hextable (v &&& 0x0f)) = some (v &&& 0x0f) ∧
    ((v >>> 4) <<< 4) ||| (v &&& 0x0f) = v := by
  have hv := UInt8.toNat_lt v
  -- the two nibbles are `v / 16` and `v % 16`, both entries of the 16-entry table
  have hi : v >>> 4 = UInt8.ofNat (v.toNat / 16) := by
    apply UInt8.toNat_inj.mp
    simp [Nat.shiftRight_eq_div_pow]; omega
  have lo : v &&& 0x0f = UInt8.ofNat (v.toNat % 16) := by
    apply UInt8.toNat_inj.mp
    simp [and_15]; omega
  rw [hi, lo]
  refine ⟨fromHex_hextable ⟨v.toNat / 16, by omega⟩, fromHex_hextable ⟨v.toNat % 16, by omega⟩, ?_⟩
  apply UInt8.toNat_inj.mp
  simp
  rw [Nat.mod_eq_of_lt (by omega : v.toNat / 16 < 256), Nat.mod_eq_of_lt (by omega : v.toNat % 16 < 256),
    Nat.mod_eq_of_lt (by rw [Nat.shiftLeft_eq]; omega : (v.toNat / 16) <<< 4 < 256),
    ← Nat.shiftLeft_add_eq_or_of_lt (by omega : v.toNat % 16 < 2 ^ 4), Nat.shiftLeft_eq]
  omega

theorem encode_nil : encode [] = [] := rfl

theorem encode_cons (v : UInt8) (x : Bytes) :
    encode (v :: x) = hextable (v >>> 4) :: hextable (v &&& 0x0f) :: encode x := by
  simp [encode]

theorem encode_append (a b : Bytes) : encode (a ++ b) = encode a ++ encode b := by
  simp [encode]

theorem encode_length (x : Bytes) : (encode x).length = 2 * x.length := by
  induction x with
  | nil => rfl
  | cons v x ih => rw [encode_cons]; simp [ih]; omega

theorem decode_encode (x : Bytes) : decode (encode x) = (x, none) := by
  induction x with
  | nil => rfl
  | cons v x ih =>
    obtain ⟨h1, h2, h3⟩ := nibbles v
    rw [encode_cons]
    simp only [decode, h1, h2, ih, h3]

theorem encode_split (x : Bytes) (m : Nat) :
    (encode x).take (2 * m) = encode (x.take m) ∧ (encode x).drop (2 * m) = encode (x.drop m) := by
  have hx : encode x = encode (x.take m) ++ encode (x.drop m) := by rw [← encode_append, List.take_append_drop]
  by_cases h : m ≤ x.length
  · have hl : (encode (x.take m)).length = 2 * m := by rw [encode_length, List.length_take]; omega
    rw [hx]
    exact ⟨List.take_left' hl, List.drop_left' hl⟩
  · have h1 : (encode x).length ≤ 2 * m := by rw [encode_length]; omega
    rw [List.take_of_length_le h1, List.drop_of_length_le h1, List.take_of_length_le (by omega),
      List.drop_of_length_le (by omega)]
    exact ⟨rfl, rfl⟩

theorem half_buffer : bufferSize / 2 = 512 := by decide

theorem encWriteAux_flatten (f : Nat) (p : Bytes) (h : p.length ≤ f) :
    (encWriteAux f p).flatten = encode p := by
  induction f generalizing p with
  | zero => rw [List.eq_nil_of_length_eq_zero (by omega : p.length = 0)]; rfl
  | succ f ih =>
    unfold encWriteAux
    split
    · rw [List.flatten_cons, ih _ (by rw [half_buffer, List.length_drop]; omega), ← encode_append,
        List.take_append_drop]
    · rw [List.eq_nil_of_length_eq_zero (by omega : p.length = 0)]; rfl

theorem encWrite_flatten (p : Bytes) : (encWrite p).flatten = encode p :=
  encWriteAux_flatten p.length p (Nat.le_refl _)

theorem hexLayer_writes (ws : List Bytes) :
    ((hexLayer.writes () ws).2).flatten = encode ws.flatten := by
  induction ws with
  | nil => rfl
  | cons c cs ih =>
    show ((encWrite c) ++ (hexLayer.writes () cs).2).flatten = _
    rw [List.flatten_append, encWrite_flatten, ih, List.flatten_cons, encode_append]

theorem hexLayer_run (ws : List Bytes) : (hexLayer.run ws).flatten = encode ws.flatten := by
  show ((hexLayer.writes () ws).2 ++ []).flatten = _
  rw [List.append_nil, hexLayer_writes]

/-- what is buffered plus what the reader below still holds is the encoding of the bytes not yet
delivered; an error is latched only as EOF of an exhausted reader -/
def Inv (d : Dec) (r : Src) (rest : Bytes) : Prop :=
  d.inb ++ r.pieces.flatten = encode rest ∧ (d.err = none ∨ (d.err = some .eof ∧ r.pieces = []))

theorem even_of_encode {a : Bytes} {rest : Bytes} (h : a = encode rest) : a.length % 2 = 0 := by
  rw [h, encode_length]; omega

theorem fill_spec {d : Dec} {r : Src} {rest : Bytes} (h : Inv d r rest) :
    Inv (d.fill r).1 (d.fill r).2 rest ∧ (d.fill r).2.pieces.length ≤ r.pieces.length ∧
    ((d.fill r).1.inb.length < 2 → (d.fill r).1.err = none → (d.fill r).2.pieces.length < r.pieces.length) := by
  obtain ⟨h1, h2⟩ := h
  unfold Dec.fill
  split
  · rename_i hc
    have hcap : 2 ≤ bufferSize - d.inb.length := by
      have : bufferSize = 1024 := by decide
      omega
    obtain ⟨f1, f2, f3, f4⟩ := Src.read_spec r (bufferSize - d.inb.length)
    generalize r.read (bufferSize - d.inb.length) = x at *
    obtain ⟨got, r', eof⟩ := x
    have hw : (d.inb ++ got) ++ r'.pieces.flatten = encode rest := by rw [List.append_assoc, f1, h1]
    cases eof with
    | false => exact ⟨⟨hw, Or.inl rfl⟩, f3, fun hl _ => f4 rfl (by rw [List.length_append] at hl; omega)⟩
    | true =>
      -- EOF from an exhausted reader: all of the (even-length) encoding is buffered
      have hp : r'.pieces = [] := f2 rfl
      rw [hp, List.flatten_nil, List.append_nil] at hw
      simp only [if_true, even_of_encode hw]
      exact ⟨⟨by rw [hp, List.flatten_nil, List.append_nil]; exact hw, Or.inr ⟨by simp, hp⟩⟩, f3,
        fun _ he => by simp at he⟩
  · rename_i hc
    exact ⟨⟨h1, h2⟩, Nat.le_refl _, fun hl he => absurd ⟨hl, he⟩ hc⟩

theorem deliver_spec {d : Dec} {r : Src} {rest : Bytes} (h : Inv d r rest) (k : Nat) :
    ∃ rest', rest = (d.deliver k).2.1 ++ rest' ∧ Inv (d.deliver k).1 r rest' ∧
      ((d.deliver k).2.2 = none ∨ ((d.deliver k).2.2 = some .eof ∧ rest' = [])) ∧
      (0 < k → (d.deliver k).2.2 = none →
        rest'.length < rest.length ∨ (d.inb.length < 2 ∧ d.err = none ∧ rest' = rest)) := by
  obtain ⟨h1, h2⟩ := h
  have hrl : d.inb.length ≤ 2 * rest.length := by
    have := congrArg List.length h1
    rw [List.length_append, encode_length] at this; omega
  -- `m` bytes are delivered, `2 * m` characters consumed
  obtain ⟨m, hm, hm2, hm0⟩ : ∃ m, (if k > d.inb.length / 2 then d.inb.length / 2 else k) = m ∧
      2 * m ≤ d.inb.length ∧ (0 < k → m = 0 → d.inb.length < 2) :=
    ⟨_, rfl, by split <;> omega, by split <;> omega⟩
  obtain ⟨ht, hd⟩ := encode_split rest m
  rw [← h1, List.take_append_of_le_length hm2] at ht
  rw [← h1, List.drop_append_of_le_length hm2] at hd
  have htl : (rest.take m).length = m := by rw [List.length_take]; omega
  have hdel : d.deliver k = ({ d with inb := d.inb.drop (2 * m) }, rest.take m,
      if (d.inb.drop (2 * m)).length < 2 then d.err else none) := by
    unfold Dec.deliver
    simp only [hm, Nat.mul_comm m 2, ht, decode_encode, htl]
    split <;> rfl
  rw [hdel]
  refine ⟨rest.drop m, (List.take_append_drop _ _).symm, ⟨hd, h2⟩, ?_, fun hk he => ?_⟩
  · split
    · rename_i hlt
      refine h2.imp_right fun ⟨he, hp⟩ => ⟨he, ?_⟩
      -- nothing is left below, so fewer than two buffered characters are none
      rw [hp, List.flatten_nil, List.append_nil] at hd
      have := even_of_encode hd
      have hz : (encode (rest.drop m)).length = 0 := by rw [← hd]; omega
      rw [encode_length] at hz
      exact List.eq_nil_of_length_eq_zero (by omega)
    · exact Or.inl rfl
  · by_cases hm0' : m = 0
    · subst hm0'
      have hl2 := hm0 hk rfl
      rw [if_pos (by rw [List.length_drop]; omega)] at he
      exact Or.inr ⟨hl2, he, rfl⟩
    · exact Or.inl (by rw [List.length_drop]; omega)

theorem read_spec {d : Dec} {r : Src} {rest : Bytes} (h : Inv d r rest) (k : Nat) :
    ∃ rest', rest = (d.read r k).2.2.1 ++ rest' ∧ Inv (d.read r k).1 (d.read r k).2.1 rest' ∧
      ((d.read r k).2.2.2 = none ∨ ((d.read r k).2.2.2 = some .eof ∧ rest' = [])) ∧
      (0 < k → (d.read r k).2.2.2 = none →
        rest'.length + (d.read r k).2.1.pieces.length < rest.length + r.pieces.length) := by
  obtain ⟨hi, hle, hlt⟩ := fill_spec h
  obtain ⟨rest', e1, i1, e2, e3⟩ := deliver_spec hi k
  unfold Dec.read
  refine ⟨rest', e1, i1, e2, fun hk he => ?_⟩
  rcases e3 hk he with hlt' | ⟨a, b, c⟩
  · show rest'.length + (d.fill r).2.pieces.length < _
    omega
  · have := hlt a b
    rw [c]; show rest.length + (d.fill r).2.pieces.length < _; omega

theorem readSeq_spec (ks : List Nat) {d : Dec} {r : Src} {rest : Bytes} (h : Inv d r rest) :
    ∃ rest', rest = (readSeq d r ks).1.flatten ++ rest' ∧
      ((readSeq d r ks).2 = none ∨ ((readSeq d r ks).2 = some .eof ∧ rest' = [])) := by
  induction ks generalizing d r rest with
  | nil => exact ⟨rest, rfl, Or.inl rfl⟩
  | cons k ks ih =>
    obtain ⟨rest', e1, i1, e2, _⟩ := read_spec h k
    unfold readSeq
    rcases e2 with e2 | ⟨e2, e3⟩
    · simp only [e2]
      obtain ⟨rest'', f1, f2⟩ := ih i1
      exact ⟨rest'', by rw [List.flatten_cons, List.append_assoc, ← f1]; exact e1, f2⟩
    · simp only [e2]
      exact ⟨rest', by simpa using e1, by simp [e3]⟩

theorem readAll_spec (k : Nat) (hk : 0 < k) (fuel : Nat) {d : Dec} {r : Src} {rest : Bytes} (h : Inv d r rest)
    (hf : rest.length + r.pieces.length + 1 < fuel) : readAll k fuel d r = (rest, some .eof) := by
  induction fuel generalizing d r rest with
  | zero => omega
  | succ fuel ih =>
    obtain ⟨rest', e1, i1, e2, e3⟩ := read_spec h k
    unfold readAll
    rcases e2 with e2 | ⟨e2, e4⟩
    · simp only [e2]
      rw [ih i1 (by have := e3 hk e2; omega), ← e1]
    · simp only [e2]
      rw [e1, e4, List.append_nil]

theorem inv_init (wire : List Bytes) (we : Bool) (x : Bytes) (h : wire.flatten = encode x) :
    Inv Dec.init { pieces := wire, withEOF := we } x := ⟨h, Or.inl rfl⟩

theorem hexLayer_dec_encode (x : Bytes) : hexLayer.dec (encode x) = some x := by
  have := readAll_spec 512 (by decide) ((encode x).length + 3) (inv_init [encode x] false x List.flatten_singleton)
    (by rw [encode_length, List.length_singleton]; omega)
  simp only [hexLayer, this]

end XMT.HexCodec
