/-
  XMT.DecodeSlice — the index / reslice expressions of the in-memory reader stay in range.

  XMT.Decode models `c.buf[c.rpos+i]`, `c.buf[c.rpos+lo : c.rpos+hi]`, `c.buf[c.rpos+lo:]` and
  `c.rpos += n` as operations that PANIC when out of range.  This file proves

  * the rules for `>>=` of the decoder monad (`bind_apply`, `bind_of_ok`, `bind_of_err`, `bind_of_panic`, `bind_eq_ok`);
  * pointwise rules for these operations that REQUIRE the bound (`idxP_ok_lt`, `sliceP_ok`,
    `sliceFromP_ok`, `advanceP_ok`) — there is no unconditional rule, and there cannot be one
    (`idxP_panics`, `sliceP_panics`, `advanceP_panics`);
  * for every primitive read of chunk_reader.go / chunk_base.go (`u8r` … `u64r`, `bodyC`,
    `chunkRead`, `readFullC`) that, thanks to the guard the Go code puts in front of the expression
    (`checkBounds(n)`, `n < c.rpos+int(l)`, `c.Empty()`), the bound holds where the expression is
    evaluated: the read equals a total function on the unread bytes (`Spec.*`, no panic value in
    sight).  The typed reads (`u8r_eq` … `u64r_eq`) are checked on each shape of the unread bytes up to
    their width; `bodyC_eq`, `chunkRead_*`, `readFullC_eq` split on the guard and discharge the bound
    from it.

  Everything downstream (XMT.DecodeLemmas, XMT.DecodeSafe) reasons about the `Spec.*` forms through
  these equations, so the no-panic theorems of XMT/Props/C04.lean rest on the guards.  The
  same decoders with a guard removed panic: XMT/DecodeGuardsMatter.lean.
-/
import XMT.Decode

namespace XMT.Decode

theorem bind_apply {α β : Type} (d : D α) (f : α → D β) (s : St) : (d >>= f) s = D.bind d f s := rfl

theorem bind_of_ok {α β : Type} {d : D α} {f : α → D β} {s s1 : St} {a : α} (h : d s = .ok a s1) :
    (d >>= f) s = f a s1 := by
  rw [bind_apply, D.bind, h]

theorem bind_of_err {α β : Type} {d : D α} {f : α → D β} {s s1 : St} {e : Err} (h : d s = .err e s1) :
    (d >>= f) s = .err e s1 := by
  rw [bind_apply, D.bind, h]

theorem bind_of_panic {α β : Type} {d : D α} {f : α → D β} {s : St} (h : (d s).isPanic = true) :
    ((d >>= f) s).isPanic = true := by
  rw [bind_apply, D.bind]
  cases hd : d s with
  | panic m => rfl
  | _ => rw [hd] at h; cases h

theorem bind_eq_ok {α β : Type} {d : D α} {f : α → D β} {s s2 : St} {b : β} (h : (d >>= f) s = .ok b s2) :
    ∃ a s1, d s = .ok a s1 ∧ f a s1 = .ok b s2 := by
  rw [bind_apply, D.bind] at h
  cases hd : d s with
  | ok a s1 => rw [hd] at h; exact ⟨a, s1, rfl, h⟩
  | err e s1 => rw [hd] at h; cases h
  | panic m => rw [hd] at h; cases h
  | hang => rw [hd] at h; cases h

theorem idxP_ok_lt {i : Nat} (site : String) {s : St} (h : i < s.rest.length) :
    idxP i site s = .ok s.rest[i] s := by
  simp only [idxP, List.getElem?_eq_getElem h]

theorem idxP_panics {i : Nat} (site : String) {s : St} (h : s.rest.length ≤ i) :
    (idxP i site s).isPanic = true := by
  simp only [idxP, List.getElem?_eq_none h, Out.isPanic]

theorem sliceP_ok {lo hi : Nat} (site : String) {s : St} (h1 : lo ≤ hi) (h2 : hi ≤ s.rest.length) :
    sliceP lo hi site s = .ok ((s.rest.drop lo).take (hi - lo)) s :=
  if_neg (by omega)

theorem sliceP_panics {lo hi : Nat} (site : String) {s : St} (h : s.rest.length < hi ∨ hi < lo) :
    (sliceP lo hi site s).isPanic = true := by
  rw [sliceP, if_pos (by omega)]; rfl

theorem sliceFromP_ok {lo : Nat} (site : String) {s : St} (h : lo ≤ s.rest.length) :
    sliceFromP lo site s = .ok (s.rest.drop lo) s :=
  if_neg (by omega)

theorem advanceP_ok {n : Nat} (site : String) {s : St} (h : n ≤ s.rest.length) :
    advanceP n site s = .ok () { s with rest := s.rest.drop n } :=
  if_neg (by omega)

theorem advanceP_panics {n : Nat} (site : String) {s : St} (h : s.rest.length < n) :
    (advanceP n site s).isPanic = true := by
  rw [advanceP, if_pos h]; rfl

namespace Spec

/-- a read of exactly `n` bytes that reports `io.EOF`, and consumes nothing, when fewer are left -/
def fixed {α : Type} (n : Nat) (val : Bytes → α) : D α := fun s =>
  if s.rest.length < n then .err .eof s else .ok (val (s.rest.take n)) { s with rest := s.rest.drop n }

theorem fixed_of_lt {α : Type} {n : Nat} {val : Bytes → α} {s : St} (h : s.rest.length < n) :
    fixed n val s = .err .eof s :=
  if_pos h

theorem fixed_of_le {α : Type} {n : Nat} {val : Bytes → α} {s : St} (h : n ≤ s.rest.length) :
    fixed n val s = .ok (val (s.rest.take n)) { s with rest := s.rest.drop n } :=
  if_neg (Nat.not_lt.mpr h)

def be16 : Bytes → Nat
  | b0 :: b1 :: _ => ofBe16 b0 b1
  | _ => 0

def be32 : Bytes → Nat
  | b0 :: b1 :: b2 :: b3 :: _ => ofBe32 b0 b1 b2 b3
  | _ => 0

def be64 : Bytes → Nat
  | b0 :: b1 :: b2 :: b3 :: b4 :: b5 :: b6 :: b7 :: _ => ofBe64 b0 b1 b2 b3 b4 b5 b6 b7
  | _ => 0

def bodyC (copy : Bool) (l : Nat) : D Bytes := fun s =>
  if s.rest.length < l then .err .eof { s with rest := [] }
  else .ok (s.rest.take l) { s with rest := s.rest.drop l, alloc := s.alloc + (if copy then l else 0) }

def readFullC (k : Nat) : D Bytes := fun s =>
  let got := s.rest.take k
  let s' := { s with rest := s.rest.drop k, out := if got.isEmpty then s.out else .raw got :: s.out }
  if got.length < k then .err (if got.isEmpty then .eof else .ueof) s'
  else .ok got s'

end Spec

theorem fixed_ok {α : Type} {n : Nat} {val : Bytes → α} {s s' : St} {a : α} (h : Spec.fixed n val s = .ok a s') :
    a = val (s.rest.take n) ∧ s' = { s with rest := s.rest.drop n } ∧ n ≤ s.rest.length := by
  by_cases hn : s.rest.length < n
  · rw [Spec.fixed_of_lt hn] at h; cases h
  · have hn := Nat.le_of_not_lt hn
    rw [Spec.fixed_of_le hn] at h; cases h; exact ⟨rfl, rfl, hn⟩

/-- the guard `checkBounds(n)` is what makes the `n` index reads and the cursor step that follow it
legal; the proof evaluates the guard on each shape of the unread bytes -/
theorem u8r_eq : u8r = Spec.fixed 1 (·.headD 0) := by
  funext s
  obtain ⟨rest, al, out⟩ := s
  match rest with
  | [] => rfl
  | b :: r => rfl

theorem u16r_eq : u16r = Spec.fixed 2 Spec.be16 := by
  funext s
  obtain ⟨rest, al, out⟩ := s
  match rest with
  | [] => rfl
  | [_] => rfl
  | _ :: _ :: r => rfl

theorem u32r_eq : u32r = Spec.fixed 4 Spec.be32 := by
  funext s
  obtain ⟨rest, al, out⟩ := s
  match rest with
  | [] => rfl
  | [_] => rfl
  | [_, _] => rfl
  | [_, _, _] => rfl
  | _ :: _ :: _ :: _ :: r => rfl

theorem u64r_eq : u64r = Spec.fixed 8 Spec.be64 := by
  funext s
  obtain ⟨rest, al, out⟩ := s
  match rest with
  | [] => rfl
  | [_] => rfl
  | [_, _] => rfl
  | [_, _, _] => rfl
  | [_, _, _, _] => rfl
  | [_, _, _, _, _] => rfl
  | [_, _, _, _, _, _] => rfl
  | [_, _, _, _, _, _, _] => rfl
  | _ :: _ :: _ :: _ :: _ :: _ :: _ :: _ :: r => rfl

/-- `Bytes()`: the reslice `c.buf[c.rpos : c.rpos+l]` and the step `c.rpos += l` are legal because the
branch is only reached when `n < c.rpos+int(l)` is false -/
theorem bodyC_eq (copy : Bool) (l : Nat) : bodyC copy l = Spec.bodyC copy l := by
  funext s
  unfold bodyC Spec.bodyC
  rw [bind_apply]
  simp only [D.bind, remaining]
  by_cases hl : s.rest.length < l
  · -- short body: `c.buf[c.rpos:]` is always legal (`c.rpos ≤ len(c.buf)`)
    simp only [hl, if_true, bind_apply, D.bind, sliceFromP_ok _ (Nat.zero_le _), seekEnd, fail]
  · -- the guard failed, so `l ≤ len(c.buf) - c.rpos`: this is the bound of the reslice and of the step
    have hle : l ≤ s.rest.length := by omega
    simp only [hl, if_false, bind_apply, D.bind, sliceP_ok _ (Nat.zero_le l) hle,
      advanceP_ok _ hle, charge, pure, D.pure, List.drop_zero, Nat.sub_zero]

/-- `Chunk.Read` on a drained Chunk: the `Empty()` arm, no buffer access -/
theorem chunkRead_empty (k : Nat) {s : St} (h : s.rest = []) :
    chunkRead k s = .ok (if k = 0 then some [] else none) s := by
  unfold chunkRead
  rw [bind_apply]
  simp only [D.bind, remaining, h, List.length_nil, if_true]
  split <;> rfl

/-- `Chunk.Read` otherwise: `c.buf[c.rpos:]` is legal, and `c.rpos += n` stays inside the buffer
because `n = copy(b, c.buf[c.rpos:]) ≤ len(c.buf) - c.rpos` -/
theorem chunkRead_nonempty (k : Nat) {s : St} (h : s.rest ≠ []) :
    chunkRead k s = .ok (some (s.rest.take k)) { s with rest := s.rest.drop k } := by
  have hne : ¬ (s.rest.length = 0) := fun h0 => h (List.eq_nil_of_length_eq_zero h0)
  have hlen : (s.rest.take k).length ≤ s.rest.length := List.length_take_le' _ _
  have hdrop : s.rest.drop (s.rest.take k).length = s.rest.drop k := by
    rw [List.length_take]
    rcases Nat.le_total k s.rest.length with hk | hk
    · rw [Nat.min_eq_left hk]
    · rw [Nat.min_eq_right hk, List.drop_of_length_le hk, List.drop_of_length_le (Nat.le_refl _)]
  unfold chunkRead
  rw [bind_apply]
  simp only [D.bind, remaining, hne, if_false, bind_apply, sliceFromP_ok _ (Nat.zero_le _), List.drop_zero,
    advanceP_ok _ hlen, pure, D.pure, hdrop]

theorem readAtLeast_done (fuel k : Nat) (acc : Bytes) (h : ¬ (acc.length < k)) :
    readAtLeast (fuel + 1) k acc = pure (acc, none) := by
  simp only [readAtLeast, h, not_false_eq_true, if_true]

theorem readAtLeast_more (fuel k : Nat) (acc : Bytes) (h : acc.length < k) :
    readAtLeast (fuel + 1) k acc = (do
      match ← chunkRead (k - acc.length) with
      | none => pure (acc, some (if acc.isEmpty then .eof else .ueof))
      | some got => readAtLeast fuel k (acc ++ got)) := by
  simp only [readAtLeast, h, not_true_eq_false, if_false]
  rfl

/-- `io.ReadFull` on a Chunk: at most two rounds; the second one finds the Chunk drained -/
theorem readFullC_eq (k : Nat) : readFullC k = Spec.readFullC k := by
  funext s
  obtain ⟨rest, al, out⟩ := s
  unfold readFullC Spec.readFullC
  rw [bind_apply]
  unfold D.bind
  cases k with
  | zero =>
    rw [readAtLeast_done 0 0 [] (by simp)]
    simp [pure, D.pure]
  | succ k =>
    rw [readAtLeast_more (k + 1) (k + 1) [] (by simp), bind_apply]
    unfold D.bind
    simp only [List.length_nil, Nat.sub_zero]
    match rest with
    | [] =>
      rw [chunkRead_empty _ rfl]
      simp [pure, D.pure, fail]
    | b :: r =>
      rw [chunkRead_nonempty _ (by simp)]
      simp only [List.nil_append]
      by_cases hk : ((b :: r).take (k + 1)).length < k + 1
      · -- short: everything was handed out, the second `Read` reports `io.EOF`
        have hlen : (b :: r).length ≤ k + 1 := by
          rw [List.length_take] at hk; omega
        have e1 : (b :: r).take (k + 1) = b :: r := List.take_of_length_le hlen
        have e2 : (b :: r).drop (k + 1) = [] := List.drop_of_length_le hlen
        rw [e1] at hk
        rw [e1, e2, readAtLeast_more k (k + 1) (b :: r) hk, bind_apply]
        unfold D.bind
        rw [chunkRead_empty _ rfl]
        have hne : ¬ (k + 1 - (b :: r).length = 0) := by omega
        rw [if_neg hne, if_pos hk]
        simp [pure, D.pure, bind_apply, D.bind, fail, emit]
      · rw [readAtLeast_done _ _ _ hk, if_neg hk]
        simp [pure, D.pure, bind_apply, D.bind, emit]

end XMT.Decode
