/-
  XMT.BatchDraw — `Session.next` with the PRNG draws of `verifyPacket` as an input (C03).

  c2/vars.go verifyPacket:
      if n.Job == 0 && n.Flags&com.FlagProxy == 0 && n.ID > 1 { n.Job = uint16(util.FastRand()) }
      if n.Device.Empty() { n.Device = i; return true }
      return n.Device == i
  The PRNG is an infinite stream of 32-bit words `w : Nat → Nat`; `k` counts the words consumed
  (as C17 / C19 do). `verifyPacket` is called by `Session.next` (only when the queue is empty or the
  packet carries key material: `&&` short-circuits), by the single-packet path of `nextPacket` and by
  the batching loop for every packet it packs (after the Crypt / keep-alive / size tests, so a
  carried-over packet has not been stamped yet). Everything else is XMT/Batch.lean, literally.
-/
import XMT.Batch
namespace XMT.Batch
open XMT.Packet XMT.Codec

/-- `n.Job == 0 && n.Flags&FlagProxy == 0 && n.ID > 1` -/
def needsJob (n : Pkt) : Bool := n.job = 0 && !hasFlag n.flags Facts.flagProxy && decide (n.id.toNat > 1)

/-- the Job assignment of `verifyPacket`: `uint16(util.FastRand())` -/
def stamp (w : Nat → Nat) (k : Nat) (n : Pkt) : Pkt × Nat :=
  if needsJob n then ({ n with job := w k % 2^16 }, k + 1) else (n, k)

/-- `verifyPacket(n, i)` : (the packet afterwards, the result, words consumed so far) -/
def verifyD (w : Nat → Nat) (n : Pkt) (i : Bytes) (k : Nat) : Pkt × Bool × Nat :=
  ((verify (stamp w k n).1 i).1, (verify (stamp w k n).1 i).2, (stamp w k n).2)

section
variable (w : Nat → Nat) (P F : Nat)

/-- the batching loop of `nextPacket` with the draws threaded through -/
def loopD (i : Bytes) : Nat → Nat → Nat → Bool → Pkt → Option Pkt → List Pkt → Nat →
    Pkt × Option Pkt × List Pkt × Nat
  | 0, _, _, _, o, n, q, k => (o, n, q, k)
  | fuel + 1, x, s, m, o, n, q, k =>
    if x < P ∧ q ≠ [] then
      if hasFlag (takeNext o n q).1.flags Facts.flagCrypt ∧ Flag.len o.flags > 0 then
        (o, some (takeNext o n q).1, (takeNext o n q).2, k)
      else if elide i s m (takeNext o n q).1 then
        loopD i fuel (x + 1) s m o none (takeNext o n q).2 k
      else if s > 0 ∧ s + Packet.size (takeNext o n q).1 > F then
        (o, some (takeNext o n q).1, (takeNext o n q).2, k)
      else
        -- `verifyPacket(n, i)` stamps the Job, then the multi-device mark and `writeUnpack`
        loopD i fuel (x + 1) (s + Packet.size (takeNext o n q).1)
          (packOne i m o (stamp w k (takeNext o n q).1).1).2
          (packOne i m o (stamp w k (takeNext o n q).1).1).1 none (takeNext o n q).2
          (stamp w k (takeNext o n q).1).2
    else (o, n, q, k)

/-- the single-packet branch of `nextPacket` -/
def singleD (i : Bytes) (t : List Nat) (n : Pkt) (q : List Pkt) (k : Nat) :
    Option Pkt × Option Pkt × List Pkt × Nat :=
  ((single i t (stamp w k n).1 q).1, (single i t (stamp w k n).1 q).2.1, (single i t (stamp w k n).1 q).2.2,
   (stamp w k n).2)

/-- `nextPacket` with draws -/
def nextPacketD (q : List Pkt) (n : Option Pkt) (i : Bytes) (t : List Nat) (k : Nat) :
    Option Pkt × Option Pkt × List Pkt × Nat :=
  match n, q with
  | none, [] => (none, none, [], k)
  | some n0, [] => singleD w i t n0 [] k
  | n, h :: tl =>
    if P ≤ 1 then
      match n with
      | some n0 => singleD w i t n0 (h :: tl) k
      | none => singleD w i t h tl k
    else
      (some (finishBatch (loopD w P F i (P + 1) 0 0 false (emptyBatch i Facts.flagMulti) n (h :: tl) k).1),
       (loopD w P F i (P + 1) 0 0 false (emptyBatch i Facts.flagMulti) n (h :: tl) k).2.1,
       (loopD w P F i (P + 1) 0 0 false (emptyBatch i Facts.flagMulti) n (h :: tl) k).2.2.1,
       (loopD w P F i (P + 1) 0 0 false (emptyBatch i Facts.flagMulti) n (h :: tl) k).2.2.2)

/-- the rest of `next` after the "sent on its own" test, `n` as that test left it -/
def nextRestD (last : Nat) (i : Bytes) (n : Pkt) (q : List Pkt) (k : Nat) : Option Pkt × St × Nat :=
  if last > 0 then
    if Flag.group (skipGroup last n q).1.flags = last then
      (some { id := 0, job := 0, flags := 0, tags := n.tags, dev := i, payload := [] },
       { q := (skipGroup last n q).2, peek := none, last := 0 }, k)
    else
      ((nextPacketD w P F (skipGroup last n q).2 (some (skipGroup last n q).1) i n.tags k).1.map
          fun o => { o with tags := mergeTags o.tags n.tags },
       { q := (nextPacketD w P F (skipGroup last n q).2 (some (skipGroup last n q).1) i n.tags k).2.2.1,
         peek := (nextPacketD w P F (skipGroup last n q).2 (some (skipGroup last n q).1) i n.tags k).2.1,
         last := 0 },
       (nextPacketD w P F (skipGroup last n q).2 (some (skipGroup last n q).1) i n.tags k).2.2.2)
  else
    ((nextPacketD w P F q (some n) i n.tags k).1.map fun o => { o with tags := mergeTags o.tags n.tags },
     { q := (nextPacketD w P F q (some n) i n.tags k).2.2.1, peek := (nextPacketD w P F q (some n) i n.tags k).2.1,
       last := last },
     (nextPacketD w P F q (some n) i n.tags k).2.2.2)

/-- `next` once a packet has been picked:
`if (len(s.send) == 0 || n.Flags&FlagCrypt != 0) && verifyPacket(n, s.ID) { return n }` — the
verification (and its draw) only happens when the first operand holds; when it then fails (a packet
of another device) the packet goes on with the Job it was given. -/
def nextFromD (last : Nat) (i : Bytes) (n : Pkt) (q : List Pkt) (k : Nat) : Option Pkt × St × Nat :=
  if q = [] ∨ isRekey n then
    if (verifyD w n i k).2.1 then
      (some (verifyD w n i k).1, { q := q, peek := none, last := 0 }, (verifyD w n i k).2.2)
    else nextRestD w P F last i (stamp w k n).1 q (stamp w k n).2
  else nextRestD w P F last i n q k

/-- `(*Session).next(true)` with draws: (transmission, new state, words consumed so far) -/
def nextD (st : St) (i : Bytes) (k : Nat) : Option Pkt × St × Nat :=
  match (pick st).1 with
  | none => (none, { st with peek := none }, k)
  | some n => nextFromD w P F st.last i n (pick st).2 k

end

theorem stamp_of_not_needs (w : Nat → Nat) (k : Nat) (n : Pkt) (h : needsJob n = false) :
    stamp w k n = (n, k) := by
  unfold stamp; rw [h]; rfl

end XMT.Batch
