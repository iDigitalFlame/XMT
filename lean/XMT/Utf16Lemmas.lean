/-
  XMT.Utf16Lemmas — the encoder half of C20: the constants, the invariant of a loop that fills a
  buffer sized beforehand (`Appends`, which the decoder uses too), and the two encoders and
  `UTF16FromString` against `refEncode`.
-/
import XMT.Utf16
namespace XMT.Utf16

@[simp] theorem utfSelf_eq : utfSelf = 65536 := by decide
@[simp] theorem utfSurgA_eq : utfSurgA = 55296 := by decide
@[simp] theorem utfSurgB_eq : utfSurgB = 56320 := by decide
@[simp] theorem utfSurgC_eq : utfSurgC = 57344 := by decide
@[simp] theorem utfRuneMax_eq : utfRuneMax = 1114111 := by decide
@[simp] theorem utfReplacement_eq : utfReplacement = 65533 := by decide

theorem u16_small (r : Int) (h0 : 0 ≤ r) (h1 : r < 65536) : u16 r = UInt16.ofNat r.toNat :=
  congrArg UInt16.ofNat (by omega)

theorem u16_of_nat (n : Nat) (h : n < 65536) : u16 (n : Int) = UInt16.ofNat n :=
  u16_small n (Int.natCast_nonneg n) (by omega)

theorem isScalar_iff (r : Int) :
    isScalar r = true ↔ (0 ≤ r ∧ r < 0xD800) ∨ (0xE000 ≤ r ∧ r ≤ 0x10FFFF) := by
  simp only [isScalar, Bool.or_eq_true, Bool.and_eq_true, decide_eq_true_eq]

theorem and_1023 (x : Nat) : x &&& 1023 = x % 1024 := Nat.and_two_pow_sub_one_eq_mod x 10

theorem encodeRune_supp (r : Int) (h0 : 65536 ≤ r) (h1 : r ≤ 1114111) :
    (utf16EncodeRune r).1 = UInt16.ofNat (0xD800 + (r.toNat - 0x10000) / 1024) ∧
    (utf16EncodeRune r).2 = UInt16.ofNat (0xDC00 + (r.toNat - 0x10000) % 1024) := by
  obtain ⟨n, rfl⟩ := Int.eq_ofNat_of_zero_le (by omega : 0 ≤ r)
  have e : ((n : Int) - 65536).toNat = n - 65536 := by omega
  have h : (n - 65536) / 2 ^ 10 % 1024 = (n - 65536) / 1024 := by omega
  unfold utf16EncodeRune
  simp only [utfSelf_eq, utfRuneMax_eq, utfSurgA_eq, utfSurgB_eq]
  rw [if_neg (by omega), e]
  simp only [Nat.shiftRight_eq_div_pow, and_1023, Int.toNat_natCast, h]
  exact ⟨u16_of_nat (55296 + (n - 65536) / 1024) (by omega), u16_of_nat (56320 + (n - 65536) % 1024) (by omega)⟩

/-! ### filling a buffer sized beforehand

Encoders and decoder allocate the output with `make`, then store at `b[n]`, `n++`, and return `b[:n]`. -/

theorem wr_of_lt {α : Type} {b : List α} {i : Nat} (h : i < b.length) (v : α) : wr b i v = .ok (b.set i v) :=
  if_pos h

/-- `f`, run on a buffer that holds `pre` and then at least `len(out)` more cells, with the index at
the first of these, stores `out` there and leaves the index behind it. -/
def Appends {α : Type} (f : List α → Nat → Outcome (List α × Nat)) (out : List α) : Prop :=
  ∀ pre pad : List α, out.length ≤ pad.length →
    f (pre ++ pad) pre.length = .ok (pre ++ out ++ pad.drop out.length, pre.length + out.length)

theorem Appends.nil {α : Type} {f : List α → Nat → Outcome (List α × Nat)}
    (hf : ∀ b n, f b n = .ok (b, n)) : Appends f [] := by
  intro pre pad _
  rw [hf]; simp

/-- `b[n] = v`, then `g` from `n + 1` (only a store that succeeds matters: there is room). -/
theorem Appends.wr {α : Type} {f g : List α → Nat → Outcome (List α × Nat)} {v : α} {out : List α}
    (hf : ∀ b n b', wr b n v = .ok b' → f b n = g b' (n + 1)) (hg : Appends g out) :
    Appends f (v :: out) := by
  intro pre pad h
  match pad, h with
  | z :: pad, h =>
    have e : XMT.Utf16.wr (pre ++ z :: pad) pre.length v = .ok ((pre ++ [v]) ++ pad) := by
      rw [wr_of_lt (by simp), List.set_append_right _ _ (Nat.le_refl _)]; simp
    have := hg (pre ++ [v]) pad (Nat.le_of_succ_le_succ h)
    rw [hf _ _ _ e]
    simpa [Nat.add_assoc, Nat.add_comm 1] using this

/-- `f`, then `g` where `f` stopped. -/
theorem Appends.bind {α : Type} {f g h : List α → Nat → Outcome (List α × Nat)} {a b : List α}
    (hf : Appends f a) (hg : Appends g b)
    (hh : ∀ bf n bf' n', f bf n = .ok (bf', n') → h bf n = g bf' n') : Appends h (a ++ b) := by
  intro pre pad hl
  rw [List.length_append] at hl
  have := hg (pre ++ a) (pad.drop a.length) (by rw [List.length_drop]; omega)
  rw [hh _ _ _ _ (hf pre pad (by omega))]
  simpa [Nat.add_assoc] using this

/-- From the start of a fresh buffer with room for `out`: `out`, then what is left of the buffer. -/
theorem Appends.run {α : Type} {f : List α → Nat → Outcome (List α × Nat)} {out : List α}
    (h : Appends f out) (z : α) (m : Nat) (hm : out.length ≤ m) :
    ∃ rest, f (List.replicate m z) 0 = .ok (out ++ rest, out.length) :=
  ⟨_, by simpa using h [] (List.replicate m z) (by simpa using hm)⟩

theorem sliceTo_append {α : Type} (l r : List α) : sliceTo (l ++ r) l.length = .ok l := by
  rw [sliceTo, if_pos (by simp), List.take_left']
  rfl

theorem refEncRune_bmp (r : Int) (h : (0 ≤ r ∧ r < 55296) ∨ (57344 ≤ r ∧ r < 65536)) :
    refEncRune r = [UInt16.ofNat r.toNat] :=
  if_pos h

theorem refEncRune_supp (r : Int) (h : 65536 ≤ r ∧ r ≤ 1114111) :
    refEncRune r = [UInt16.ofNat (0xD800 + (r.toNat - 0x10000) / 1024),
                    UInt16.ofNat (0xDC00 + (r.toNat - 0x10000) % 1024)] :=
  (if_neg (by omega)).trans (if_pos h)

theorem refEncRune_bad (r : Int) (h1 : ¬ ((0 ≤ r ∧ r < 55296) ∨ (57344 ≤ r ∧ r < 65536)))
    (h2 : ¬ (65536 ≤ r ∧ r ≤ 1114111)) : refEncRune r = [0xFFFD] :=
  (if_neg h1).trans (if_neg h2)

/-- One word below `utfSelf`, at most two from there on: what the sizing loops count. -/
theorem refEncRune_len_le (r : Int) : (refEncRune r).length ≤ if r < 65536 then 1 else 2 := by
  unfold refEncRune
  split
  · split <;> simp
  · split
    · rw [if_neg (by omega)]; simp
    · split <;> simp

theorem refEncRune_len_pos (r : Int) : 1 ≤ (refEncRune r).length := by
  unfold refEncRune
  split
  · simp
  · split <;> simp

theorem refEncode_cons (r : Int) (s : List Int) : refEncode (r :: s) = refEncRune r ++ refEncode s :=
  List.flatMap_cons

theorem refEncode_append (a b : List Int) : refEncode (a ++ b) = refEncode a ++ refEncode b :=
  List.flatMap_append

theorem encStep_appends (r : Int) : Appends (encStep r) (refEncRune r) := by
  by_cases h1 : (0 ≤ r ∧ r < 55296) ∨ (57344 ≤ r ∧ r < 65536)
  · rw [refEncRune_bmp r h1, ← u16_small r (by omega) (by omega)]
    refine .wr (fun b n b' hw => ?_) (.nil fun _ _ => rfl)
    simp only [encStep, utfSelf_eq, utfSurgA_eq, utfSurgC_eq, if_pos h1, hw]
  · by_cases h2 : 65536 ≤ r ∧ r ≤ 1114111
    · have e := encodeRune_supp r h2.1 h2.2
      rw [refEncRune_supp r h2, ← e.1, ← e.2]
      have snd : Appends (fun b n => match wr b n (utf16EncodeRune r).2 with
          | .ok b => .ok (b, n + 1) | .err e => .err e | .panic p => .panic p) [(utf16EncodeRune r).2] :=
        .wr (fun b n b' hw => by simp only [hw]) (.nil fun _ _ => rfl)
      refine .wr (fun b n b' hw => ?_) snd
      simp only [encStep, utfSelf_eq, utfSurgA_eq, utfSurgC_eq, utfRuneMax_eq, if_neg h1, if_pos h2, hw]
      cases wr b' (n + 1) _ <;> rfl
    · rw [refEncRune_bad r h1 h2, show (0xFFFD : UInt16) = u16 utfReplacement from rfl]
      refine .wr (fun b n b' hw => ?_) (.nil fun _ _ => rfl)
      simp only [encStep, utfSelf_eq, utfSurgA_eq, utfSurgC_eq, utfRuneMax_eq, if_neg h1, if_neg h2, hw]

theorem encStdLoop_appends : ∀ s : List Int, Appends (encStdLoop s) (refEncode s)
  | [] => .nil fun _ _ => rfl
  | r :: s => by
    rw [refEncode_cons]
    exact (encStep_appends r).bind (encStdLoop_appends s) fun _ _ _ _ h => by rw [encStdLoop, h]

/-- The sizing loop allows for the whole encoding: started at `len(s)`, one word for every rune, it
adds one more for every rune `≥ utfSelf`. -/
theorem refEncode_length_le (s : List Int) : ∀ n, (refEncode s).length + n ≤ s.length + sizeStd s n := by
  induction s with
  | nil => intro n; simp [refEncode, sizeStd]
  | cons r s ih =>
    intro n
    have h := refEncRune_len_le r
    rw [refEncode_cons, List.length_append, List.length_cons, sizeStd, utfSelf_eq]
    split at h
    · rw [if_pos ‹_›]; have := ih n; omega
    · rw [if_neg ‹_›]; have := ih (n + 1); omega

theorem utf16EncodeStd_eq (s : List Int) : utf16EncodeStd s = .ok (refEncode s) := by
  obtain ⟨rest, h⟩ := (encStdLoop_appends s).run 0 (sizeStd s s.length)
    (by have := refEncode_length_le s s.length; omega)
  rw [utf16EncodeStd, h]
  exact sliceTo_append _ _

/-! ### utf16Encode and UTF16FromString: the same, but for a NUL before the last rune -/

theorem innerNul_cons (r : Int) (s : List Int) :
    innerNul (r :: s) = (decide (r = 0 ∧ s ≠ []) || innerNul s) := by
  cases s <;> by_cases h : r = 0 <;> simp [innerNul, h]

theorem innerNul_eq : ∀ s : List Int, innerNul s = decide ((0 : Int) ∈ s.dropLast)
  | [] => rfl
  | [r] => by simp [innerNul]
  | r :: r' :: s => by
    rw [innerNul_cons, innerNul_eq (r' :: s), List.dropLast_cons_cons]
    simp [eq_comm (a := (0 : Int))]

theorem sizeEnc_eq (s : List Int) : ∀ n, sizeEnc s n =
    if innerNul s then .err .einval else .ok (sizeStd s n) := by
  induction s with
  | nil => intro n; rfl
  | cons r s ih =>
    intro n
    rw [sizeEnc, sizeStd, innerNul_cons]
    by_cases h : r = 0 ∧ s ≠ []
    · simp [h]
    · rw [if_neg h, decide_eq_false h, Bool.false_or]
      split
      · exact ih n
      · exact ih (n + 1)

theorem encLoop_eq (s : List Int) : ∀ b n, innerNul s = false → encLoop s b n = encStdLoop s b n := by
  induction s with
  | nil => intro b n _; rfl
  | cons r s ih =>
    intro b n h
    rw [innerNul_cons, Bool.or_eq_false_iff, decide_eq_false_iff_not] at h
    rw [encLoop, encStdLoop, if_neg h.1]
    cases encStep r b n with
    | ok p => exact ih p.1 p.2 h.2
    | err e => rfl
    | panic p => rfl

theorem utf16Encode_eq (s : List Int) :
    utf16Encode s = if innerNul s then .err .einval else .ok (refEncode s) := by
  rw [utf16Encode, sizeEnc_eq]
  cases h : innerNul s with
  | true => rfl
  | false =>
    simp only [Bool.false_eq_true, if_false, encLoop_eq s _ _ h]
    exact utf16EncodeStd_eq s

theorem utf16FromString_eq (rs : List Int) :
    utf16FromString rs = if (0 : Int) ∈ rs then .err .einval else .ok (refEncode rs ++ [0]) := by
  cases rs with
  | nil => rfl
  | cons r t =>
    rw [utf16FromString, if_neg (by simp), utf16Encode_eq, innerNul_eq, List.dropLast_concat, refEncode_append]
    simp only [decide_eq_true_eq]
    rfl

end XMT.Utf16
