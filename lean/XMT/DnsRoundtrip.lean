/- Round trip of the DNS transform framing model (XMT.Dns): for every mode, every domain of at most
255 bytes, every random filler and every payload (the empty one included), `read` applied to the
concatenation of the packets `write` produced returns exactly the payload and no error.  In particular
the question name the encoder writes for ANY domain is one the decoder's label loop walks to its end
(the part of the framing the two repairs concern); the decoder lemmas up to one packet
(`decodePacket_spec`) are about any name made of labels of 1..63 bytes.
The decoder's loops are followed with a cursor: `B.drop s = X ++ Y` says that `X` stands at offset `s`
of the message `B`, followed by `Y`. -/
import XMT.Dns
namespace XMT.Dns

theorem idx_drop {B l : Bytes} {s : Nat} (h : B.drop s = l) (k : Nat) : idx B (s + k) = idx l k := by
  subst h; simp [idx, List.getElem?_drop]

theorem idx_append_right' (pre l : Bytes) (s k : Nat) (hs : s = pre.length) :
    idx (pre ++ l) (s + k) = idx l k :=
  idx_drop (hs ▸ List.drop_left) k

theorem idx_left (pre l : Bytes) (k : Nat) (v : UInt8) (h : pre[k]? = some v) :
    idx (pre ++ l) k = .ok v := by
  have hk : k < pre.length := (List.getElem?_eq_some_iff.mp h).1
  simp [idx, List.getElem?_append_left hk, h]

theorem idx_lt {b : Bytes} {i : Nat} (h : i < b.length) : idx b i = .ok b[i] := by
  simp [idx, List.getElem?_eq_getElem h]

theorem idx_ge {b : Bytes} {i : Nat} (h : b.length ≤ i) : idx b i = .error .panic := by
  simp [idx, List.getElem?_eq_none h]

theorem idx_cons_zero (a : UInt8) (l : Bytes) : idx (a :: l) 0 = .ok a := rfl

theorem idx_cons_succ (a : UInt8) (l : Bytes) (k : Nat) : idx (a :: l) (k + 1) = idx l k := by
  simp [idx]

theorem be_byteOf (n : Nat) (h : n < 2^16) : be (byteOf (n >>> 8)) (byteOf n) = n :=
  (Nat.or_comm ..).trans (ofBe16_be16 n h)

/-- wire form of a list of labels -/
def encLabels (ls : List Bytes) : Bytes := ls.flatMap fun l => byteOf l.length :: l

/-- labels the decoder's `for i := 0; i < 64` loop accepts: 1..63 bytes -/
def LabelsOK (ls : List Bytes) : Prop := ∀ l ∈ ls, 0 < l.length ∧ l.length < 64

theorem encLabels_cons (l : Bytes) (ls : List Bytes) :
    encLabels (l :: ls) = byteOf l.length :: l ++ encLabels ls := by
  simp [encLabels, List.flatMap_cons]

theorem encName_labels (es : List Bytes) : ∃ ls, encName es = encLabels ls ∧ LabelsOK ls := by
  induction es with
  | nil => exact ⟨[], rfl, by simp [LabelsOK]⟩
  | cons e es ih =>
    obtain ⟨ls, h1, h2⟩ := ih
    unfold encName
    by_cases h0 : e.length = 0
    · simp only [h0, if_true]; exact ⟨ls, h1, h2⟩
    · simp only [h0, if_false]
      refine ⟨(if e.length > 63 then e.take 63 else e) :: ls, by rw [h1, encLabels_cons], ?_⟩
      intro l hl
      rcases List.mem_cons.mp hl with rfl | hl
      · split
        · simp; omega
        · omega
      · exact h2 l hl

/-- The decoder's label loop, started at the first length byte of a well-formed name that is
followed by the terminating zero, stops right behind that zero. -/
theorem nameLoop_labels (ls : List Bytes) (hls : LabelsOK ls) (B post : Bytes) (i s fuel : Nat)
    (hi : i < 64) (hlen : i < B.length) (hf : ls.length < fuel)
    (h : B.drop s = encLabels ls ++ 0 :: post) :
    nameLoop B fuel i s = .ok (s + (encLabels ls).length + 1) := by
  induction ls generalizing i s fuel with
  | nil =>
    obtain ⟨fuel, rfl⟩ : ∃ f, fuel = f + 1 := ⟨fuel - 1, by omega⟩
    have hl := length_of_drop h
    have h0 : idx B s = .ok 0 := idx_drop h 0
    have h2 : ¬ (i ≥ B.length ∨ s > B.length) := by simp [encLabels] at hl; omega
    simp only [nameLoop, hi, if_true, h2, if_false, h0]
    rfl
  | cons l ls ih =>
    obtain ⟨fuel, rfl⟩ : ∃ f, fuel = f + 1 := ⟨fuel - 1, by omega⟩
    obtain ⟨hl0, hl1⟩ := hls l (by simp)
    have hb : (byteOf l.length).toNat = l.length := byteOf_toNat_of_lt (by omega)
    have hne : byteOf l.length ≠ 0 := fun e => by
      have := congrArg UInt8.toNat e; rw [hb] at this; change l.length = 0 at this; omega
    simp only [encLabels_cons, List.cons_append, List.append_assoc] at h
    have hl := length_of_drop h
    simp only [List.length_cons, List.length_append] at hl
    have h0 : idx B s = .ok (byteOf l.length) := idx_drop h 0
    have h2 : ¬ (i ≥ B.length ∨ s > B.length) := by omega
    have hrec := ih (fun x hx => hls x (List.mem_cons_of_mem _ hx)) l.length (s + l.length + 1) fuel hl1
      (by omega) (by simp at hf; omega)
      (drop_app (x := byteOf l.length :: l) h (Nat.add_assoc ..))
    simp only [nameLoop, hi, if_true, h2, if_false, h0, Except.ok_bind, hne, hb, hrec, encLabels_cons,
      List.length_cons, List.length_append]
    congr 1; omega

theorem encLabels_length_ge (ls : List Bytes) : ls.length ≤ (encLabels ls).length := by
  induction ls with
  | nil => simp
  | cons l ls ih => rw [encLabels_cons, List.length_cons, List.length_append, List.length_cons]; omega

/-- The label loop as `questions` starts it (`i = 0`, fuel `len(b)+2`): every label occupies at
least its length byte, so that fuel suffices. -/
theorem nameLoop_question (ls : List Bytes) (hls : LabelsOK ls) (B post : Bytes) (s : Nat)
    (h : B.drop s = encLabels ls ++ 0 :: post) :
    nameLoop B (B.length + 2) 0 s = .ok (s + (encLabels ls).length + 1) := by
  have hl := length_of_drop h
  rw [List.length_append, List.length_cons] at hl
  have := encLabels_length_ge ls
  exact nameLoop_labels ls hls B post 0 s _ (by omega) (by omega) (by omega) h

theorem nameLoop_encName (dom : Bytes) (B post : Bytes) (s : Nat)
    (h : B.drop s = encName (splitDots dom) ++ 0 :: post) :
    nameLoop B (B.length + 2) 0 s = .ok (s + (encName (splitDots dom)).length + 1) := by
  obtain ⟨ls, h1, h2⟩ := encName_labels (splitDots dom)
  rw [h1] at h ⊢
  exact nameLoop_question ls h2 B post s h

/-- the 12 fixed bytes of a data record whose data has `j` bytes -/
def recHdr (j : Nat) : Bytes := [192, 12, 0, 10, 0, 1, 0, 0, 0, 0, byteOf (j >>> 8), byteOf j]

/-- wire form of a list of data records -/
def encRecs (ps : List Bytes) : Bytes := ps.flatMap fun p => recHdr p.length ++ p

theorem encRecs_cons (p : Bytes) (ps : List Bytes) :
    encRecs (p :: ps) = recHdr p.length ++ p ++ encRecs ps := by
  simp [encRecs, List.flatMap_cons]

theorem recHdr_length (j : Nat) : (recHdr j).length = 12 := rfl

theorem encRecs_ne_nil (ps : List Bytes) (h : ps ≠ []) : encRecs ps ≠ [] := by
  cases ps with
  | nil => exact absurd rfl h
  | cons p ps => simp [encRecs_cons, recHdr]

theorem records_spec (B post : Bytes) (ps : List Bytes) (hps : ∀ p ∈ ps, p.length < 65536) (s : Nat)
    (h : B.drop s = encRecs ps ++ post) : records B ps.length s = .ok (ps, s + (encRecs ps).length) := by
  induction ps generalizing s with
  | nil => rfl
  | cons p ps ih =>
    have hp : p.length < 2 ^ 16 := hps p (by simp)
    rw [encRecs_cons, List.append_assoc, List.append_assoc] at h
    have hl := length_of_drop h
    simp only [List.length_append, recHdr_length] at hl
    have hd : B.drop (s + 12) = p ++ (encRecs ps ++ post) := drop_app h rfl
    have hrec := ih (fun x hx => hps x (List.mem_cons_of_mem _ hx)) _ (drop_app hd rfl)
    have k0 : idx B s = .ok 192 := idx_drop h 0
    simp only [recHdr, List.cons_append, List.nil_append] at h
    have hlen : ¬ (s + 6 ≥ B.length) := by omega
    have hlen2 : ¬ (s + 12 + p.length > B.length) := by omega
    simp only [records, List.length_cons, hlen, if_false, Nat.add_assoc, Nat.reduceAdd, k0, idx_drop h,
      idx_cons_succ, idx_cons_zero, Except.ok_bind, be_byteOf _ hp]
    simp only [← Nat.add_assoc, hlen2, hrec, Except.ok_bind, hd, List.take_left, ne_eq, not_true, or_self, if_false,
      encRecs_cons, List.length_append, recHdr_length]

/-- One question whose name is a list of labels of 1..63 bytes, followed by at least 5 more bytes. -/
theorem questions_spec (ls : List Bytes) (hls : LabelsOK ls) (B post : Bytes) (s : Nat)
    (h : B.drop s = encLabels ls ++ 0 :: post) (hpost : 4 < post.length) :
    questions B 1 s = .ok (s + (encLabels ls).length + 5) := by
  have hl := length_of_drop h
  rw [List.length_append, List.length_cons] at hl
  have hg : ¬ (s + (encLabels ls).length + 1 + 4 ≥ B.length) := by omega
  simp only [questions, nameLoop_question ls hls B post s h, Except.ok_bind, hg, if_false]

/-- `flags` and `ans` of `encodePacket`, so that `mkPkt` can name them -/
def pktFlags (server : Bool) : Bytes :=
  if server then [132, 128, 0, 1, 0, 1, 0, 0] else [1, 0, 0, 1, 0, 0, 0, 0]

def pktAns (server : Bool) (r : Nat → UInt8) : Bytes :=
  if server then [192, 12, 0, 1, 0, 1, 0, 0, 3, r 2, 0, 4, r 3, r 4, r 5, r 6] else []

/-- The answer section: none in a client packet, the single address record in a server packet. -/
theorem answers_pktAns (server : Bool) (r : Nat → UInt8) (B post : Bytes) (s : Nat)
    (h : B.drop s = pktAns server r ++ post) :
    answers B (if server then 1 else 0) s = .ok (s + (pktAns server r).length) := by
  cases server
  · rfl
  · have hl := length_of_drop h
    simp only [pktAns, if_true, List.cons_append, List.nil_append, List.length_cons] at h hl
    have hg : ¬ (s + 10 > B.length) := by omega
    show answers B (0 + 1) s = _
    simp only [answers, hg, if_false, Nat.add_assoc, Nat.reduceAdd, idx_drop h, idx_cons_succ, idx_cons_zero,
      Except.ok_bind, show be 0 4 = 4 from rfl]
    rfl

/-- the packet the encoder writes for the records `ps` -/
def mkPkt (server : Bool) (r : Nat → UInt8) (name : Bytes) (ps : List Bytes) : Bytes :=
  [r 0, r 1] ++ pktFlags server ++ [byteOf (ps.length >>> 8), byteOf ps.length] ++ name ++
    [0, 0, 1, 0, 1] ++ pktAns server r ++ encRecs ps

/-- the twelve header bytes (one question, `server` answers, `ps.length` additional records) and
what follows them -/
theorem mkPkt_header (server : Bool) (r : Nat → UInt8) (name : Bytes) (ps : List Bytes) (rest : Bytes) :
    ∃ f2 f3, mkPkt server r name ps ++ rest =
      r 0 :: r 1 :: f2 :: f3 :: 0 :: 1 :: 0 :: (if server then 1 else 0) :: 0 :: 0 ::
        byteOf (ps.length >>> 8) :: byteOf ps.length ::
          (name ++ 0 :: ([0, 1, 0, 1] ++ (pktAns server r ++ (encRecs ps ++ rest)))) := by
  simp only [mkPkt, List.append_assoc, List.cons_append, List.nil_append]
  cases server
  · exact ⟨1, 0, rfl⟩
  · exact ⟨132, 128, rfl⟩

theorem mkPkt_length (server : Bool) (r : Nat → UInt8) (name : Bytes) (ps : List Bytes) :
    (mkPkt server r name ps).length = 12 + name.length + 5 + (pktAns server r).length + (encRecs ps).length := by
  have : (pktFlags server).length = 8 := by cases server <;> rfl
  simp only [mkPkt, List.length_append, List.length_cons, List.length_nil, this]

/-- A packet in the encoder's layout is read back by `decodePacket`, whatever follows it; of the
question name it needs only that it is a list of labels of 1..63 bytes. -/
theorem decodePacket_spec (server : Bool) (r : Nat → UInt8) (ls : List Bytes) (hls : LabelsOK ls)
    (ps : List Bytes) (rest : Bytes)
    (hne : ps ≠ []) (hl : ps.length < 65536) (hps : ∀ p ∈ ps, p.length < 65536) :
    decodePacket (mkPkt server r (encLabels ls) ps ++ rest)
      = .ok (ps, (mkPkt server r (encLabels ls) ps).length) := by
  obtain ⟨f2, f3, hB⟩ := mkPkt_header server r (encLabels ls) ps rest
  rw [mkPkt_length]
  generalize mkPkt server r (encLabels ls) ps ++ rest = B at hB ⊢
  have ⟨i4, i5, i6, i7, i10, i11⟩ : idx B 4 = .ok 0 ∧ idx B 5 = .ok 1 ∧ idx B 6 = .ok 0 ∧
      idx B 7 = .ok (if server then 1 else 0) ∧ idx B 10 = .ok (byteOf (ps.length >>> 8)) ∧
      idx B 11 = .ok (byteOf ps.length) := by subst hB; exact ⟨rfl, rfl, rfl, rfl, rfl, rfl⟩
  -- the cursor behind the header, the question and the answers
  have h12 : B.drop 12 = encLabels ls ++ 0 :: ([0, 1, 0, 1] ++ (pktAns server r ++ (encRecs ps ++ rest))) := by
    rw [hB]; rfl
  have h17 : B.drop (12 + (encLabels ls).length + 5) = pktAns server r ++ (encRecs ps ++ rest) :=
    drop_app (x := [0, 0, 1, 0, 1]) (drop_app h12 rfl) rfl
  have hq := questions_spec ls hls B _ 12 h12 (by
    have := List.length_pos_iff.mpr (encRecs_ne_nil ps hne)
    simp; omega)
  have ha := answers_pktAns server r B _ _ h17
  have hr := records_spec B rest ps hps _ (drop_app h17 rfl)
  obtain ⟨v12, i12⟩ : ∃ v, idx B 12 = .ok v := by
    have := length_of_drop h12
    rw [List.length_append, List.length_cons] at this
    exact ⟨_, idx_lt (by omega)⟩
  have b7 : be 0 (if server then 1 else 0) = if server then 1 else 0 := by cases server <;> rfl
  simp only [decodePacket, Except.ok_bind, i12, i4, i5, i6, i7, i10, i11, show be 0 1 = 1 from rfl, b7,
    be_byteOf _ hl, hq, ha, hr]

/-- The segment loop from offset `i` with `fuel` rounds left, when `fuel` is exactly the number of records
still to write (`⌈(c - i) / 256⌉`, the last two hypotheses): all of them full except possibly the last, which is
short only when the packet ends the payload (`hc`). -/
theorem encSegs_spec (b : Bytes) (c : Nat) (hc : c = b.length ∨ (256 ∣ c ∧ c < b.length)) :
    ∀ fuel i, 256 ∣ i → i ≤ c → c ≤ i + 256 * fuel → 256 * fuel < c - i + 256 →
      ∃ ps, encSegs b c fuel i 256 = (encRecs ps, c) ∧ ps.length = fuel ∧
        ps.flatten = (b.drop i).take (c - i) ∧ ∀ p ∈ ps, 0 < p.length ∧ p.length ≤ 256 := by
  intro fuel
  induction fuel with
  | zero =>
    intro i _ h1 h2 _
    have : i = c := by omega
    subst this
    exact ⟨[], by simp [encSegs, encRecs], rfl, by simp, by simp⟩
  | succ fuel ih =>
    intro i hd h1 h2 h3
    have hi : i < c := by omega
    have hib : i < b.length := by omega
    by_cases hlt : b.length - i < 256
    · -- the last, short record
      have hcb : c = b.length := by omega
      have hf : fuel = 0 := by omega
      subst hf
      refine ⟨[(b.drop i).take (b.length - i)], ?_, rfl, ?_, ?_⟩
      · have hl : ((b.drop i).take (b.length - i)).length = b.length - i := by simp
        simp only [encSegs, hi, hib, and_self, if_true, hlt, hl, encRecs_cons]
        simp [encRecs, recHdr]; omega
      · simp [hcb]
      · intro p hp; simp at hp; subst hp; simp; omega
    · -- a full record
      have h256 : i + 256 ≤ c := by omega
      obtain ⟨ps, e1, e2, e3, e4⟩ := ih (i + 256) (by omega) h256 (by omega) (by omega)
      have hl : ((b.drop i).take 256).length = 256 := by simp; omega
      refine ⟨(b.drop i).take 256 :: ps, ?_, by simp [e2], ?_, ?_⟩
      · simp only [encSegs, hi, hib, and_self, if_true, hlt, if_false, hl, e1, encRecs_cons]
        simp [recHdr]
      · rw [List.flatten_cons, e3]
        have : c - i = 256 + (c - (i + 256)) := by omega
        rw [this, List.take_add, List.drop_drop]
      · intro p hp
        rcases List.mem_cons.mp hp with rfl | hp
        · rw [hl]; omega
        · exact e4 p hp

theorem encodePacket_spec (server : Bool) (r : Nat → UInt8) (b dom : Bytes) (hb : b ≠ []) :
    ∃ ps, encodePacket server r b dom
        = (mkPkt server r (encName (splitDots dom)) ps, min b.length 2048) ∧
      ps.flatten = b.take (min b.length 2048) ∧ ps ≠ [] ∧ ps.length ≤ 8 ∧
      ∀ p ∈ ps, 0 < p.length ∧ p.length ≤ 256 := by
  have hlen : 0 < b.length := List.length_pos_iff.mpr hb
  obtain ⟨c, hcdef⟩ : ∃ c, c = (if b.length > 2048 then 2048 else b.length) := ⟨_, rfl⟩
  obtain ⟨t, htdef⟩ : ∃ t, t = (if c / 256 * 256 < c ∨ c / 256 = 0 then c / 256 + 1 else c / 256) :=
    ⟨_, rfl⟩
  have hcm : c = min b.length 2048 := by subst hcdef; split <;> omega
  have ht1 : c ≤ 256 * t ∧ 256 * t < c + 256 ∧ t ≤ 8 ∧ 0 < t := by
    subst htdef; split <;> omega
  have hcc : c = b.length ∨ (256 ∣ c ∧ c < b.length) := by omega
  obtain ⟨ps, e1, e2, e3, e4⟩ := encSegs_spec b c hcc t 0 (by omega) (by omega) (by omega) (by omega)
  have hE : encodePacket server r b dom =
      ([r 0, r 1] ++ pktFlags server ++ [byteOf (t >>> 8), byteOf t] ++ encName (splitDots dom) ++
        [0, 0, 1, 0, 1] ++ pktAns server r ++ (encSegs b c t 0 256).1, (encSegs b c t 0 256).2) := by
    subst htdef; subst hcdef; rfl
  refine ⟨ps, ?_, ?_, ?_, by omega, e4⟩
  · rw [hE, e1, ← hcm, mkPkt, e2]
  · rw [e3, ← hcm]; simp
  · intro h; rw [h] at e2; simp at e2; omega

theorem encRecs_length_le (ps : List Bytes) (h : ∀ p ∈ ps, p.length ≤ 256) :
    (encRecs ps).length ≤ 268 * ps.length := by
  induction ps with
  | nil => simp [encRecs]
  | cons p ps ih =>
    have h1 := h p (by simp)
    have h2 := ih (fun x hx => h x (by simp [hx]))
    simp only [encRecs_cons, List.length_append, recHdr_length, List.length_cons]
    omega

theorem pktAns_length_le (server : Bool) (r : Nat → UInt8) : (pktAns server r).length ≤ 16 := by
  cases server <;> simp [pktAns]

theorem encName_length_le (es : List Bytes) :
    (encName es).length ≤ (es.map fun e => e.length + 1).sum := by
  induction es with
  | nil => simp [encName]
  | cons e es ih =>
    unfold encName
    simp only [List.map_cons, List.sum_cons]
    split
    · omega
    · split
      · simp; omega
      · simp; omega

theorem splitDots_sum (dom : Bytes) :
    ((splitDots dom).map fun e => e.length + 1).sum = dom.length + 1 := by
  induction dom with
  | nil => simp [splitDots]
  | cons c cs ih =>
    unfold splitDots
    split
    · simp [ih]; omega
    · split
      · rename_i l ls heq
        rw [heq] at ih
        simp at ih ⊢; omega
      · rename_i heq
        rw [heq] at ih
        simp at ih

theorem encName_splitDots_length (dom : Bytes) : (encName (splitDots dom)).length ≤ dom.length + 1 := by
  have := encName_length_le (splitDots dom)
  rw [splitDots_sum] at this
  exact this

theorem decodePackets_of_le {b : Bytes} {i : Nat} (h : b.length ≤ i) (fuel : Nat) :
    decodePackets b fuel i = ([], i, none) := by
  cases fuel with
  | zero => rfl
  | succ f => simp only [decodePackets, show ¬ i < b.length by omega, if_false]

/-- `Read` returns no error exactly when its loop over the packets stops, without one, at the end of the
message; for the empty message that is the loop's own answer, so the early return needs no case. -/
theorem read_eq_ok_iff (b : Bytes) (ws : List Bytes) :
    read b = (ws, none) ↔ decodePackets b b.length 0 = (ws, b.length, none) := by
  unfold read
  by_cases h0 : b.length = 0
  · rw [if_pos h0, List.eq_nil_of_length_eq_zero h0]
    simp [decodePackets, eq_comm]
  · rw [if_neg h0]
    obtain ⟨ws', n, e⟩ := decodePackets b b.length 0
    cases e with
    | some e => simp
    | none =>
      by_cases hn : b.length = n
      · simp [hn]
      · simp [hn, Ne.symm hn]

theorem packets_spec (server : Bool) (dom : Bytes) (hname : (encName (splitDots dom)).length ≤ 1919) :
    ∀ fuel rs b, b.length ≤ fuel →
      ∃ pkts ws, encodePackets server dom fuel rs b = (pkts, true) ∧ ws.flatten = b ∧
        pkts.length ≤ pkts.flatten.length ∧
        ∀ B i fuel2, pkts.length ≤ fuel2 → B.drop i = pkts.flatten →
          decodePackets B fuel2 i = (ws, i + pkts.flatten.length, none) := by
  have hend : ∀ (B : Bytes) i fuel2, B.drop i = [] → decodePackets B fuel2 i = ([], i + 0, none) :=
    fun B i fuel2 h => decodePackets_of_le (List.drop_eq_nil_iff.mp h) fuel2
  obtain ⟨ls, hname_eq, hls⟩ := encName_labels (splitDots dom)
  intro fuel
  induction fuel with
  | zero =>
    intro rs b hb
    rw [List.eq_nil_of_length_eq_zero (by omega : b.length = 0)]
    exact ⟨[], [], rfl, rfl, Nat.le_refl _, fun B i fuel2 _ => hend B i fuel2⟩
  | succ fuel ih =>
    intro rs b hb
    by_cases hbe : b = []
    · subst hbe
      exact ⟨[], [], rfl, rfl, Nat.le_refl _, fun B i fuel2 _ => hend B i fuel2⟩
    · obtain ⟨ps, e1, e2, e3, e4, e5⟩ := encodePacket_spec server (rs.headD fun _ => 0) b dom hbe
      have hlen : 0 < b.length := List.length_pos_iff.mpr hbe
      -- the largest packet (server mode, eight full records) fits the packet buffer
      have hsz := mkPkt_length server (rs.headD fun _ => 0) (encName (splitDots dom)) ps
      have h1 := pktAns_length_le server (rs.headD fun _ => 0)
      have h2 := encRecs_length_le ps (fun p hp => (e5 p hp).2)
      obtain ⟨pkts', ws', f1, f2, f3, f5⟩ := ih rs.tail (b.drop (min b.length 2048))
        (by rw [List.length_drop]; omega)
      have hdec := decodePacket_spec server (rs.headD fun _ => 0) ls hls ps pkts'.flatten e3 (by omega)
        (fun p hp => by have := (e5 p hp).2; omega)
      rw [← hname_eq] at hdec
      generalize mkPkt server (rs.headD fun _ => 0) (encName (splitDots dom)) ps = pkt at *
      refine ⟨pkt :: pkts', ps ++ ws', ?_, ?_, ?_, ?_⟩
      · have hie : b.isEmpty = false := by
          cases b with
          | nil => exact absurd rfl hbe
          | cons _ _ => rfl
        have hcond : ¬ (pkt.length > pktCap ∨ min b.length 2048 = 0) := by
          simp only [pktCap, Facts.dnsPacketCap]; omega
        simp only [encodePackets, hie, e1, hcond, if_false, f1]
        simp
      · rw [List.flatten_append, e2, f2, List.take_append_drop]
      · simp only [List.length_cons, List.flatten_cons, List.length_append]; omega
      · intro B i fuel2 hf hB
        rw [List.length_cons] at hf
        obtain ⟨fuel2, rfl⟩ : ∃ f, fuel2 = f + 1 := ⟨fuel2 - 1, by omega⟩
        rw [List.flatten_cons] at hB
        have hl := length_of_drop hB
        rw [List.length_append] at hl
        simp only [decodePackets, show i < B.length by omega, if_true, hB, hdec,
          f5 B (i + pkt.length) fuel2 (by omega) (drop_app hB rfl), List.flatten_cons,
          List.length_append, Nat.add_assoc]

/-- The only thing needed of the domain is that its question name (the label bytes the encoder writes,
without the terminating zero) has at most 1919 bytes, so that the largest packet (server mode, eight full
records: `12 + name + 5 + 16 + 8·(12+256) = name + 2177`) fits the 4096-byte packet buffer. -/
theorem dns_roundtrip_name (server : Bool) (dom : Bytes) (rs : List (Nat → UInt8)) (b : Bytes)
    (hname : (encName (splitDots dom)).length ≤ 1919) :
    ∃ pkts ws, write server dom rs b = some pkts ∧ read pkts.flatten = (ws, none) ∧ ws.flatten = b := by
  obtain ⟨pkts, ws, h1, h2, h3, h5⟩ := packets_spec server dom hname b.length rs b (Nat.le_refl _)
  refine ⟨pkts, ws, by simp [write, h1], (read_eq_ok_iff _ _).mpr ?_, h2⟩
  rw [h5 pkts.flatten 0 pkts.flatten.length h3 rfl, Nat.zero_add]

/-- Any domain of at most 1918 bytes will do, and so does the empty payload (no packet is written and
`Read` of nothing returns nothing). -/
theorem dns_roundtrip_1918 (server : Bool) (dom : Bytes) (rs : List (Nat → UInt8)) (b : Bytes)
    (hdom : dom.length ≤ 1918) :
    ∃ pkts ws, write server dom rs b = some pkts ∧ read pkts.flatten = (ws, none) ∧ ws.flatten = b :=
  dns_roundtrip_name server dom rs b (Nat.le_trans (encName_splitDots_length dom) (Nat.succ_le_succ hdom))

/-- Both modes, every domain of at most 255 bytes, every random filler; the payload need not be non-empty
(`dns_roundtrip_1918`). -/
theorem dns_roundtrip (server : Bool) (dom : Bytes) (rs : List (Nat → UInt8)) (b : Bytes)
    (_hb : b ≠ []) (hdom : dom.length ≤ 255) :
    ∃ pkts ws, write server dom rs b = some pkts ∧ read pkts.flatten = (ws, none) ∧ ws.flatten = b :=
  dns_roundtrip_1918 server dom rs b (by omega)

end XMT.Dns
