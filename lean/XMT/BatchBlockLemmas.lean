/-
  XMT.BatchBlockLemmas — every arm of `pick`: with something to send `next(i)` is the non-blocking `next`
  in every session mode (`nextB_nonempty`), with nothing to send no queued packet is touched
  (`nextB_empty`). Histories that mix `next(true)`, `next(false)` and `queue` (`runB`), one event at a
  time (`stepB_nonempty`, `stepB_empty`): the induction over the history is
  `Props.C03.mixed_calls_lossless`.
-/
import XMT.BatchBlock
import XMT.BatchDrain
namespace XMT.Batch

/-- one event at the sending session -/
inductive Ev
  | call (md : Mode) (ib : Bool) (ks : Option Bytes)   -- `s.next(ib)` in mode `md`
  | queue (p : Pkt)                                     -- `s.queue(p)`: `s.send <- p`

def queuedOf : List Ev → List Pkt
  | [] => []
  | .queue p :: es => p :: queuedOf es
  | .call .. :: es => queuedOf es

theorem verify_idle (i : Bytes) (ks : Option Bytes) :
    verify (idlePkt i ks) i = (idlePkt i ks, true) := by
  unfold verify
  by_cases h : devEmpty (idlePkt i ks).dev = true
  · rw [if_pos h]; cases ks <;> rfl
  · rw [if_neg h]
    have : (idlePkt i ks).dev = i := by cases ks <;> rfl
    simp [this]

section
variable (P F : Nat)

theorem nextFrom_idle (last : Nat) (i : Bytes) (ks : Option Bytes) :
    nextFrom P F last i (idlePkt i ks) [] = (some (idlePkt i ks), { q := [], peek := none, last := 0 }) := by
  rw [← nextFromM_mergeTags, nextFromM_alone mergeTags P F last i ⟨Or.inl rfl, by rw [verify_idle]⟩, verify_idle]

theorem nextB_nonempty (md : Mode) (ib : Bool) (ks : Option Bytes) (st : St) (i : Bytes)
    (h : content st ≠ []) :
    nextB P F md ib ks st i = (Tx.ofOption (next P F st i).1, (next P F st i).2) := by
  unfold nextB pickB next pick
  cases hp : st.peek with
  | some n => rfl
  | none =>
    cases hq : st.q with
    | nil => exact absurd (by simp [content, hp, hq]) h
    | cons a t => rfl

theorem nextB_empty (md : Mode) (ib : Bool) (ks : Option Bytes) (st : St) (i : Bytes)
    (h : content st = []) :
    (nextB P F md ib ks st i = (.blocked, st)) ∨
    (nextB P F md ib ks st i = (.nothing, { st with peek := none })) ∨
    (nextB P F md ib ks st i = (.sent (idlePkt i ks), { q := [], peek := none, last := 0 })) := by
  obtain ⟨hp, hq⟩ := content_eq_nil h
  unfold nextB pickB
  rw [hp, hq]
  simp only
  by_cases c1 : (!md.client && md.channel) = true
  · rw [if_pos c1]; exact Or.inl rfl
  · rw [if_neg c1]
    by_cases c2 : (!ib && md.parentNil && md.channel) = true
    · rw [if_pos c2]; simp only [nextFrom_idle]; exact Or.inr (Or.inr rfl)
    · rw [if_neg c2]
      by_cases c3 : ib = true
      · rw [if_pos c3]; exact Or.inr (Or.inl rfl)
      · rw [if_neg c3]; simp only [nextFrom_idle]; exact Or.inr (Or.inr rfl)

/-- one event: the transmission it produces (`true` = the idle packet of an empty session) -/
def stepB (i : Bytes) (e : Ev) (st : St) : Option (Pkt × Bool) × St :=
  match e with
  | .queue p => (none, { st with q := st.q ++ [p] })
  | .call md ib ks =>
    match nextB P F md ib ks st i with
    | (.sent o, st') => (some (o, decide (content st = [])), st')
    | (_, st') => (none, st')

def runB (i : Bytes) : List Ev → St → List (Pkt × Bool) × St
  | [], st => ([], st)
  | e :: es, st => ((stepB P F i e st).1.toList ++ (runB i es (stepB P F i e st).2).1,
                    (runB i es (stepB P F i e st).2).2)

/-- the transmissions that carry queued packets -/
def carrying (l : List (Pkt × Bool)) : List Pkt := (l.filter (fun x => !x.2)).map (·.1)

theorem runB_queue (i : Bytes) (p : Pkt) (es : List Ev) (st : St) :
    runB P F i (.queue p :: es) st = runB P F i es { st with q := st.q ++ [p] } := rfl

theorem runB_call (i : Bytes) (md : Mode) (ib : Bool) (ks : Option Bytes) (es : List Ev) {st st' : St}
    {x : Option (Pkt × Bool)} (h : stepB P F i (.call md ib ks) st = (x, st')) :
    runB P F i (.call md ib ks :: es) st = (x.toList ++ (runB P F i es st').1, (runB P F i es st').2) := by
  rw [runB, h]

/-- a call with something to send: the transmission of the model `next`, marked as carrying -/
theorem stepB_nonempty (md : Mode) (ib : Bool) (ks : Option Bytes) {st : St} (i : Bytes) {o : Pkt}
    (hc : content st ≠ []) (ho : (next P F st i).1 = some o) :
    stepB P F i (.call md ib ks) st = (some (o, false), (next P F st i).2) := by
  simp only [stepB, nextB_nonempty P F md ib ks st i hc, ho, Tx.ofOption, hc, decide_false]

/-- a call with nothing to send: the session still holds nothing, and at most the idle packet went out -/
theorem stepB_empty (md : Mode) (ib : Bool) (ks : Option Bytes) (st : St) (i : Bytes)
    (hc : content st = []) (hl : st.last = 0) :
    ∃ x st', stepB P F i (.call md ib ks) st = (x, st') ∧ content st' = [] ∧ st'.last = 0 ∧
      (x = none ∨ x = some (idlePkt i ks, true)) := by
  rcases nextB_empty P F md ib ks st i hc with h | h | h
  · exact ⟨none, st, by simp only [stepB, h], hc, hl, Or.inl rfl⟩
  · exact ⟨none, { st with peek := none }, by simp only [stepB, h], (content_eq_nil hc).2, hl, Or.inl rfl⟩
  · exact ⟨_, { q := [], peek := none, last := 0 }, by simp only [stepB, h, hc, decide_true], rfl, rfl,
      Or.inr rfl⟩

end
end XMT.Batch
