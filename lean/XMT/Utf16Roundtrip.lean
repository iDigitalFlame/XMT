/-
  XMT.Utf16Roundtrip — the reference encoder and decoder are mutually inverse on valid text, decoding
  yields scalar values only, and a NUL word appears in an encoding exactly where a NUL rune was.
-/
import XMT.Utf16Decode
namespace XMT.Utf16

theorem ofNat_toNat_lt (n : Nat) (h : n < 65536) : (UInt16.ofNat n).toNat = n :=
  UInt16.toNat_ofNat_of_lt' h

theorem zero_mem_refEncRune (r : Int) : (0 : UInt16) ∈ refEncRune r ↔ r = 0 := by
  have nz : ∀ n, 0 < n → n < 65536 → (0 : UInt16) ≠ UInt16.ofNat n := fun n h0 h1 e => by
    have := congrArg UInt16.toNat e
    rw [ofNat_toNat_lt _ h1] at this
    exact absurd this (by simp; omega)
  by_cases h1 : (0 ≤ r ∧ r < 55296) ∨ (57344 ≤ r ∧ r < 65536)
  · rw [refEncRune_bmp r h1, List.mem_singleton]
    constructor
    · intro h
      apply Decidable.byContradiction
      intro hr
      exact nz r.toNat (by omega) (by omega) h
    · rintro rfl; rfl
  · have hr : r ≠ 0 := by omega
    by_cases h2 : 65536 ≤ r ∧ r ≤ 1114111
    · simp only [refEncRune_supp r h2, List.mem_cons, List.not_mem_nil, or_false, hr, iff_false, not_or]
      exact ⟨nz _ (by omega) (by omega), nz _ (by omega) (by omega)⟩
    · simp [refEncRune_bad r h1 h2, hr]

theorem zero_mem_refEncode (rs : List Int) : (0 : UInt16) ∈ refEncode rs ↔ (0 : Int) ∈ rs := by
  induction rs with
  | nil => simp [refEncode]
  | cons r rs ih => rw [refEncode_cons, List.mem_append, zero_mem_refEncRune, ih, List.mem_cons, eq_comm]

theorem untilNul_append (u v : U16s) (h : (0 : UInt16) ∉ u) : untilNul (u ++ v) = u ++ untilNul v := by
  induction u with
  | nil => rfl
  | cons a t ih =>
    rw [List.mem_cons, not_or] at h
    rw [List.cons_append, untilNul_cons, if_neg (fun e => h.1 e.symm), ih h.2, List.cons_append]

theorem untilNul_append_zero (u : U16s) (h : (0 : UInt16) ∉ u) : untilNul (u ++ [0]) = u :=
  (untilNul_append u [0] h).trans (List.append_nil u)

theorem untilNul_of_not_mem (u : U16s) (h : (0 : UInt16) ∉ u) : untilNul u = u := by
  have := untilNul_append u [] h
  rwa [List.append_nil, show untilNul [] = [] from rfl, List.append_nil] at this

theorem refDecode_refEncode (rs : List Int) (hs : ∀ r ∈ rs, isScalar r = true) :
    refDecode (refEncode rs) = rs := by
  induction rs with
  | nil => rfl
  | cons r rs ih =>
    have ⟨hr, hs'⟩ := List.forall_mem_cons.mp hs
    rw [isScalar_iff] at hr
    rw [refEncode_cons]
    by_cases h1 : (0 ≤ r ∧ r < 55296) ∨ (57344 ≤ r ∧ r < 65536)
    · have ht : (UInt16.ofNat r.toNat).toNat = r.toNat := ofNat_toNat_lt _ (by omega)
      rw [refEncRune_bmp r h1, List.singleton_append,
        refDecode_norm _ _ (by rw [isHigh_iff, ht]; omega) (by rw [isLow_iff, ht]; omega), ih hs', ht]
      congr 1; omega
    · have h2 : 65536 ≤ r ∧ r ≤ 1114111 := by omega
      have t1 := ofNat_toNat_lt (0xD800 + (r.toNat - 0x10000) / 1024) (by omega)
      have t2 := ofNat_toNat_lt (0xDC00 + (r.toNat - 0x10000) % 1024) (by omega)
      rw [refEncRune_supp r h2]
      show refDecode (_ :: _ :: refEncode rs) = _
      rw [refDecode_pair _ _ _ (by rw [isHigh_iff, t1]; omega) (by rw [isLow_iff, t2]; omega), ih hs', t1, t2]
      exact congrArg (· :: rs) (by omega)

theorem refEncRune_norm (a : UInt16) (hh : ¬ isHigh a = true) (hl : ¬ isLow a = true) :
    refEncRune (a.toNat : Int) = [a] := by
  rw [isHigh_iff] at hh; rw [isLow_iff] at hl
  have := UInt16.toNat_lt a
  rw [refEncRune_bmp _ (by omega)]
  simp

theorem refEncode_refDecode (u : U16s) (hw : wellFormed16 u = true) : refEncode (refDecode u) = u := by
  induction u using wellFormed16.induct with
  | case1 => rfl
  | case2 a =>
    simp only [wellFormed16, Bool.not_eq_true', Bool.or_eq_false_iff] at hw
    rw [refDecode_norm a [] (by simp [hw.1]) (by simp [hw.2]), refEncode_cons,
      refEncRune_norm a (by simp [hw.1]) (by simp [hw.2])]
    rfl
  | case3 a l t hh ih =>
    simp only [wellFormed16, if_pos hh, Bool.and_eq_true] at hw
    have ha := (isHigh_iff a).mp hh
    have hl := (isLow_iff l).mp hw.1
    rw [refDecode_pair a l t hh hw.1, refEncode_cons, ih hw.2, refEncRune_supp _ (by omega)]
    have e1 : UInt16.ofNat (55296 + (65536 + (a.toNat - 55296) * 1024 + (l.toNat - 56320) - 65536) / 1024) = a :=
      UInt16.toNat_inj.mp (by rw [ofNat_toNat_lt _ (by omega)]; omega)
    have e2 : UInt16.ofNat (56320 + (65536 + (a.toNat - 55296) * 1024 + (l.toNat - 56320) - 65536) % 1024) = l :=
      UInt16.toNat_inj.mp (by rw [ofNat_toNat_lt _ (by omega)]; omega)
    simp only [Int.toNat_natCast, List.cons_append, List.nil_append, e1, e2]
  | case4 a l t hh hl => simp [wellFormed16, hh, hl] at hw
  | case5 a l t hh hl ih =>
    simp only [wellFormed16, if_neg hh, if_neg hl] at hw
    rw [refDecode_norm a _ hh hl, refEncode_cons, ih hw, refEncRune_norm a hh hl]
    rfl

theorem decHead_scalar (u : UInt16) (t : U16s) : isScalar (decHead u t).1 = true := by
  have repl : isScalar 0xFFFD = true := by decide
  have := UInt16.toNat_lt u
  unfold decHead
  split
  · split
    · split
      · rename_i l _ hp
        rw [Bool.and_eq_true, isHigh_iff, isLow_iff] at hp
        rw [isScalar_iff]
        omega
      · exact repl
    · exact repl
  · rename_i hs
    rw [Bool.or_eq_true, isHigh_iff, isLow_iff] at hs
    rw [isScalar_iff]
    omega

theorem refDecode_scalar (u : U16s) : ∀ r ∈ refDecode u, isScalar r = true := by
  induction u using decHead_induction with
  | nil => nofun
  | cons u t ih =>
    rw [refDecode_cons]
    exact List.forall_mem_cons.mpr ⟨decHead_scalar u t, ih⟩

end XMT.Utf16
