/-
  XMT.JobCount — `count` (the model of `len(s.jobs)`, read WITHOUT the lock by the guards of handle /
  accept / frag) against the number of keys of the pending table (`CountIs`): an action that changes
  the table by at most one insert or delete, and `count` with it (`TabStep`), keeps the two equal
  (`countIs_tabStep`). That every action of either model is such a step is the second clause of `StepOK`
  (XMT/JobInv.lean for `stepF`, XMT/JobSubInv.lean for the sub-step model), proved by the same walk
  through the code as the invariant; the run theorems `countIs_runF` (XMT/JobInv.lean), `countIs_runS`
  (XMT/JobSubCount.lean) are the two instances of `countIs_foldl`.
-/
import XMT.Job
namespace XMT.Job

/-- `n` is the number of keys of `tb`: there is a duplicate-free list of exactly the keys, of length n -/
def CountIs (tb : Nat → Option Nat) (n : Nat) : Prop :=
  ∃ keys : List Nat, keys.Nodup ∧ (∀ i, i ∈ keys ↔ (tb i).isSome = true) ∧ keys.length = n

theorem countIs_empty : CountIs (fun _ => none) 0 := ⟨[], by simp⟩

theorem countIs_insert {tb : Nat → Option Nat} {n i r : Nat} (h : CountIs tb n) (hi : tb i = none) :
    CountIs (upd tb i (some r)) (n + 1) := by
  obtain ⟨keys, hn, hm, hl⟩ := h
  refine ⟨i :: keys, ?_, ?_, by simp [hl]⟩
  · refine List.nodup_cons.mpr ⟨?_, hn⟩
    intro hin
    have := (hm i).mp hin
    rw [hi] at this; cases this
  · intro j
    by_cases e : j = i
    · subst e; simp [upd]
    · simp [upd, e, hm j]

theorem countIs_delete {tb : Nat → Option Nat} {n i r : Nat} (h : CountIs tb n) (hi : tb i = some r) :
    CountIs (upd tb i none) (n - 1) := by
  obtain ⟨keys, hn, hm, hl⟩ := h
  have hin : i ∈ keys := (hm i).mpr (by rw [hi]; rfl)
  refine ⟨keys.erase i, hn.erase i, ?_, by rw [List.length_erase_of_mem hin, hl]⟩
  intro j
  rw [hn.mem_erase_iff]
  by_cases e : j = i
  · subst e; simp [upd]
  · simp [upd, e, hm j]

theorem countIs_zero_iff {tb : Nat → Option Nat} {n : Nat} (h : CountIs tb n) : n = 0 ↔ ∀ i, tb i = none := by
  obtain ⟨keys, hn, hm, hl⟩ := h
  constructor
  · intro h0 i
    have : keys = [] := List.eq_nil_of_length_eq_zero (hl.trans h0)
    cases e : tb i with
    | none => rfl
    | some r =>
      have := (hm i).mpr (by rw [e]; rfl)
      rw [‹keys = []›] at this; cases this
  · intro hall
    cases keys with
    | nil => exact hl.symm
    | cons k ks =>
      have := (hm k).mp (List.mem_cons_self)
      rw [hall k] at this; cases this

theorem countIs_ne_zero {tb : Nat → Option Nat} {n i r : Nat} (h : CountIs tb n) (hi : tb i = some r) : n ≠ 0 :=
  fun h0 => nomatch hi.symm.trans ((countIs_zero_iff h).mp h0 i)

/-- what one action may do to the table and to `count` -/
def TabStep (tb : Nat → Option Nat) (n : Nat) (tb' : Nat → Option Nat) (n' : Nat) : Prop :=
  (tb' = tb ∧ n' = n) ∨
  (∃ i r, tb i = none ∧ tb' = upd tb i (some r) ∧ n' = n + 1) ∨
  (∃ i r, tb i = some r ∧ tb' = upd tb i none ∧ n' = n - 1)

theorem countIs_tabStep {tb tb' : Nat → Option Nat} {n n' : Nat} (h : CountIs tb n) (st : TabStep tb n tb' n') :
    CountIs tb' n' := by
  rcases st with ⟨a, b⟩ | ⟨i, r, a, b, c⟩ | ⟨i, r, a, b, c⟩
  · rw [a, b]; exact h
  · rw [b, c]; exact countIs_insert h a
  · rw [b, c]; exact countIs_delete h a

theorem tabStep_refl (tb : Nat → Option Nat) (n : Nat) : TabStep tb n tb n := Or.inl ⟨rfl, rfl⟩

theorem countIs_foldl {σ : Type} {step : σ → Nat → σ} {I : σ → Prop} (tb : σ → Nat → Option Nat) (cnt : σ → Nat)
    (hstep : ∀ s t, I s → I (step s t) ∧ TabStep (tb s) (cnt s) (tb (step s t)) (cnt (step s t)))
    (sched : List Nat) (s : σ) (hs : I s) (hc : CountIs (tb s) (cnt s)) :
    CountIs (tb (sched.foldl step s)) (cnt (sched.foldl step s)) :=
  (List.foldlRecOn (motive := fun s' => I s' ∧ CountIs (tb s') (cnt s')) sched step ⟨hs, hc⟩
    fun s' h t _ => ⟨(hstep s' t h.1).1, countIs_tabStep h.2 (hstep s' t h.1).2⟩).2

end XMT.Job
