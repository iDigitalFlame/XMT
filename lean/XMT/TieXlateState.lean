/-
  XMT.TieXlateState — c2/state.go (C13): the hand-written models of the pure predicates on the state
  word (XMT/State.lean) are PROVED equal to the definitions regenerated from the current source by the
  Go→Lean translator (go/cmd/xmth/xlate.go), `XMT.Facts.x_c2_state_*`.  Every
  `atomic.LoadUint32((*uint32)(s))` of one predicate is the same parameter `s` (one snapshot of the word,
  as in the hand model); since the repair of the closed-then-load predicates (one `v := load`, decided
  on `v`) that is literally what the source does, and the regenerated terms are `let v := s; …&&…||…`
  where the hand model has the nested `if`s of the earlier source — equal for every word, proved here.
  The `state*` constants inside the regenerated terms are the values go/constant computes from the
  `1 << iota` block; the models use `Facts.state*` (values of the compiled package): the two routes to
  the constants are compared here as well.
  Kept apart from XMT/TieXlate.lean so that an edit of c2/state.go cannot break the C01 build.
-/
import XMT.State
namespace XMT.TieXlateState
open XMT.State

/-- `v&m != 0` as the translator writes it -/
theorem has_eq (s m : Nat) : decide (s &&& m ≠ 0) = has s m := by
  unfold has
  by_cases h : s &&& m = 0 <;> simp [h]

/-- `v&m == 0` -/
theorem not_has_eq (s m : Nat) : decide (s &&& m = 0) = !has s m := by
  unfold has
  by_cases h : s &&& m = 0 <;> simp [h]

/-! A plain flag read unfolds to `decide (s &&& m ≠ 0)` with the literal mask go/constant computed, which
is the model's `st*` constant by evaluation: an instance of `has_eq` as it stands. -/

theorem x_c2_state_Seen_eq (s : Nat) : Facts.x_c2_state_Seen s = seen s := has_eq s stSeen
theorem x_c2_state_Closed_eq (s : Nat) : Facts.x_c2_state_Closed s = closed s := has_eq s stClosed
theorem x_c2_state_Moving_eq (s : Nat) : Facts.x_c2_state_Moving s = moving s := has_eq s stMoving
theorem x_c2_state_Channel_eq (s : Nat) : Facts.x_c2_state_Channel s = channel s := has_eq s stChannel
theorem x_c2_state_Replacing_eq (s : Nat) : Facts.x_c2_state_Replacing s = replacing s := has_eq s stReplacing
theorem x_c2_state_ShutdownWait_eq (s : Nat) : Facts.x_c2_state_ShutdownWait s = shutdownWait s :=
  has_eq s stShutdownWait
theorem x_c2_state_ChannelValue_eq (s : Nat) : Facts.x_c2_state_ChannelValue s = channelValue s :=
  has_eq s stChannelValue
theorem x_c2_state_ChannelProxy_eq (s : Nat) : Facts.x_c2_state_ChannelProxy s = channelProxy s :=
  has_eq s stChannelProxy
theorem x_c2_state_ChannelUpdated_eq (s : Nat) : Facts.x_c2_state_ChannelUpdated s = channelUpdated s :=
  has_eq s stChannelUpdated

/-! The predicates that combine several tests: the cases are those of the tests, named by the model's constants;
in each case both sides are brought to Boolean combinations of `has s <literal>` and compared.  So the order of the
operands of `&&` / `||` and the parentheses in the source do not matter, nor does the order of the iota block (a
test must be written `v&mask`, the form `has_eq` recognises). -/

theorem x_c2_state_Closing_eq (s : Nat) : Facts.x_c2_state_Closing s = closing s := by
  cases h : has s stClosed <;>
    simp only [Facts.x_c2_state_Closing, closing, closed, has_eq, stClosed, stClosing, Facts.stateClosed,
      Facts.stateClosing] at h ⊢ <;>
    simp [h]

theorem x_c2_state_Shutdown_eq (s : Nat) : Facts.x_c2_state_Shutdown s = shutdown s := by
  cases h : has s stClosed <;>
    simp only [Facts.x_c2_state_Shutdown, shutdown, closed, has_eq, stClosed, stShutdown, Facts.stateClosed,
      Facts.stateShutdown] at h ⊢ <;>
    simp [h]

theorem x_c2_state_RecvClosed_eq (s : Nat) : Facts.x_c2_state_RecvClosed s = recvClosed s := by
  cases h : has s stClosed <;>
    simp only [Facts.x_c2_state_RecvClosed, recvClosed, closed, has_eq, stClosed, stRecvClose, Facts.stateClosed,
      Facts.stateRecvClose] at h ⊢ <;>
    simp [h]

theorem x_c2_state_SendClosed_eq (s : Nat) : Facts.x_c2_state_SendClosed s = sendClosed s := by
  cases h : has s stClosed <;>
    simp only [Facts.x_c2_state_SendClosed, sendClosed, closed, has_eq, stClosed, stSendClose, Facts.stateClosed,
      Facts.stateSendClose] at h ⊢ <;>
    simp [h]

theorem x_c2_state_WakeClosed_eq (s : Nat) : Facts.x_c2_state_WakeClosed s = wakeClosed s := by
  cases h : has s stClosed <;>
    simp only [Facts.x_c2_state_WakeClosed, wakeClosed, closed, has_eq, stClosed, stWakeClose, Facts.stateClosed,
      Facts.stateWakeClose] at h ⊢ <;>
    simp [h]

theorem x_c2_state_Ready_eq (s : Nat) : Facts.x_c2_state_Ready s = ready s := by
  cases h : has s stClosed <;>
    simp only [Facts.x_c2_state_Ready, ready, closed, has_eq, not_has_eq, stClosed, stReady, Facts.stateClosed,
      Facts.stateReady] at h ⊢ <;>
    simp [h]

theorem x_c2_state_CanRecv_eq (s : Nat) : Facts.x_c2_state_CanRecv s = canRecv s := by
  cases h : has s stClosed <;> cases h2 : has s stRecvClose <;>
    simp only [Facts.x_c2_state_CanRecv, canRecv, recvClosed, closed, has_eq, not_has_eq, stClosed, stRecvClose,
      stCanRecv, Facts.stateClosed, Facts.stateRecvClose, Facts.stateCanRecv] at h h2 ⊢ <;>
    simp [h, h2]

theorem x_c2_state_ChannelCanStart_eq (s : Nat) : Facts.x_c2_state_ChannelCanStart s = channelCanStart s := by
  cases h : has s stClosed <;> cases h2 : has s stChannel <;>
    simp only [Facts.x_c2_state_ChannelCanStart, channelCanStart, closed, channel, channelValue, has_eq, not_has_eq,
      stClosed, stChannel, stChannelValue, Facts.stateClosed, Facts.stateChannel, Facts.stateChannelValue] at h h2 ⊢ <;>
    simp [h, h2]

theorem x_c2_state_Last_eq (s : Nat) : Facts.x_c2_state_Last s = State.last s := rfl

theorem predicates_eq (s : Nat) : State.predicates s =
    [Facts.x_c2_state_Seen s, Facts.x_c2_state_Ready s, Facts.x_c2_state_Moving s, Facts.x_c2_state_Closed s,
     Facts.x_c2_state_CanRecv s, Facts.x_c2_state_Closing s, Facts.x_c2_state_Channel s,
     Facts.x_c2_state_Shutdown s, Facts.x_c2_state_Replacing s, Facts.x_c2_state_RecvClosed s,
     Facts.x_c2_state_SendClosed s, Facts.x_c2_state_WakeClosed s, Facts.x_c2_state_ShutdownWait s,
     Facts.x_c2_state_ChannelValue s, Facts.x_c2_state_ChannelProxy s, Facts.x_c2_state_ChannelUpdated s,
     Facts.x_c2_state_ChannelCanStart s] := by
  simp only [State.predicates, x_c2_state_Seen_eq, x_c2_state_Ready_eq, x_c2_state_Moving_eq, x_c2_state_Closed_eq,
    x_c2_state_CanRecv_eq, x_c2_state_Closing_eq, x_c2_state_Channel_eq, x_c2_state_Shutdown_eq,
    x_c2_state_Replacing_eq, x_c2_state_RecvClosed_eq, x_c2_state_SendClosed_eq, x_c2_state_WakeClosed_eq,
    x_c2_state_ShutdownWait_eq, x_c2_state_ChannelValue_eq, x_c2_state_ChannelProxy_eq,
    x_c2_state_ChannelUpdated_eq, x_c2_state_ChannelCanStart_eq]

example : Facts.x_c2_state_CanRecv 0x41 = false ∧ Facts.x_c2_state_CanRecv 0x01 = true := by decide

end XMT.TieXlateState
