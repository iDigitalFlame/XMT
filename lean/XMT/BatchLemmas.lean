/-
  XMT.BatchLemmas — the flag word under `writeUnpack`, the packets the C03 theorems cover (`QWF`),
  what a batch carries (`Carries`), and that the receive side unpacks exactly that.
-/
import XMT.Batch
import XMT.PacketLemmas
import XMT.FlagLemmas
namespace XMT.Batch
open XMT.Packet XMT.Flag

/-- obligations on the regenerated flag constants -/
structure FlagsOK : Prop where
  multi : Facts.flagMulti = 2^1
  multiDevice : Facts.flagMultiDevice = 2^7
  channel : Facts.flagChannel = 2^4
  proxy : Facts.flagProxy = 2^2
  fragMax : Facts.fragMax = 65535

theorem flagsOK : FlagsOK := by constructor <;> decide

theorem hasFlag_pow (f k : Nat) : hasFlag f (2^k) = f.testBit k := by
  unfold hasFlag
  rw [and_pow]
  cases f.testBit k <;> simp

theorem hasFlag_or_mono {f b : Nat} (x : Nat) (h : hasFlag f b = true) : hasFlag (f ||| x) b = true := by
  unfold hasFlag at h ⊢
  rw [Nat.and_or_distrib_right]
  simp only [ne_eq, decide_eq_true_eq, Nat.or_eq_zero_iff] at h ⊢
  exact fun h0 => h h0.1

theorem len_or_low {f b : Nat} (hb : b < 2^16) : len (f ||| b) = len f := by
  unfold len u16
  rw [Nat.shiftRight_or_distrib]
  have : b >>> 48 = 0 := by
    rw [Nat.shiftRight_eq_div_pow]; omega
  rw [this, Nat.or_zero]

theorem len_setLen' (f n : Nat) (hn : n < 2^16) : len (setLen f n) = n := (setLen_fields f n hn).1

/-- a queued packet that is not itself a batch -/
def Plain (n : Pkt) : Prop :=
  hasFlag n.flags Facts.flagMulti = false ∧ hasFlag n.flags Facts.flagMultiDevice = false

/-- the flag word `writeUnpack` leaves on the batch after packing a plain packet -/
def packedFlags (df sf : Nat) : Nat :=
  (if hasFlag sf Facts.flagChannel then
      setLen df ((len df + 1) % 2^16) ||| Facts.flagChannel
    else setLen df ((len df + 1) % 2^16)) ||| Facts.flagMulti

theorem writeUnpack_plain (dst src : Pkt) (hp : Plain src) (hl : len dst.flags + 1 ≤ Facts.fragMax) :
    writeUnpack dst src = .ok { dst with payload := dst.payload ++ marshalStream src,
                                         flags := packedFlags dst.flags src.flags,
                                         tags := dst.tags ++ src.tags } := by
  unfold writeUnpack
  rw [hp.1, hp.2]
  simp only [Bool.or_self, Bool.false_eq_true, if_false]
  rw [if_neg (by omega)]
  rfl

theorem packedFlags_fields (df sf : Nat) (hl : len df + 1 ≤ Facts.fragMax) :
    len (packedFlags df sf) = len df + 1 ∧ hasFlag (packedFlags df sf) Facts.flagMulti = true ∧
    hasFlag (packedFlags df sf) Facts.flagMultiDevice = hasFlag df Facts.flagMultiDevice := by
  have K := flagsOK
  have hn : len df + 1 < 2^16 := by have := K.fragMax; omega
  have t7 := testBit_setLen df (len df + 1) hn (k := 7) (by decide) (by decide)
  unfold packedFlags
  rw [Nat.mod_eq_of_lt hn, K.multi, K.multiDevice, K.channel]
  simp only [hasFlag_pow]
  refine ⟨?_, ?_, ?_⟩
  · split
    · rw [len_or_low (by decide), len_or_low (by decide), len_setLen' _ _ hn]
    · rw [len_or_low (by decide), len_setLen' _ _ hn]
  · rw [Nat.testBit_or, Nat.testBit_two_pow]
    simp
  · split
    · rw [Nat.testBit_or, Nat.testBit_or, t7, Nat.testBit_two_pow, Nat.testBit_two_pow]
      simp
    · rw [Nat.testBit_or, t7, Nat.testBit_two_pow]
      simp

/-- a queued packet the model's theorems cover: a well-formed packet (C01) that is not itself a
batch -/
structure QWF (n : Pkt) : Prop where
  wf : Packet.WF n
  plain : Plain n

theorem qwf_devEmpty {n : Pkt} (h : QWF n) : devEmpty n.dev = false := by
  have hne : n.dev ≠ [] := fun h0 => by
    have := h.wf.devLen; rw [h0] at this; exact absurd this.symm (Nat.ne_of_gt constOK.idPos)
  unfold devEmpty
  rw [decide_eq_false h.wf.devNZ, List.isEmpty_eq_false_iff.mpr hne]; rfl

/-- `verifyPacket` on a queued packet: it names a device, so it is left as it is -/
theorem qwf_verify {n : Pkt} (h : QWF n) (i : Bytes) : verify n i = (n, decide (n.dev = i)) := by
  unfold verify
  rw [qwf_devEmpty h]; rfl

/-- the batch `o` carries exactly the packets `acc`, in order -/
structure Carries (o : Pkt) (acc : List Pkt) : Prop where
  pay : o.payload = (acc.map marshalStream).flatten
  len : Flag.len o.flags = acc.length
  multi : acc ≠ [] → hasFlag o.flags Facts.flagMulti = true

theorem carries_empty (i : Bytes) (fl : Nat) (h : len fl = 0) : Carries (emptyBatch i fl) [] :=
  ⟨rfl, h, fun h => absurd rfl h⟩

theorem carries_tags {o : Pkt} {acc : List Pkt} (X : List Nat) (h : Carries o acc) :
    Carries { o with tags := X } acc := ⟨h.pay, h.len, h.multi⟩

theorem carries_markMD {o : Pkt} {acc : List Pkt} (hc : Carries o acc) :
    Carries { o with flags := o.flags ||| Facts.flagMultiDevice } acc := by
  refine ⟨hc.pay, ?_, fun h => hasFlag_or_mono _ (hc.multi h)⟩
  show len (o.flags ||| Facts.flagMultiDevice) = acc.length
  rw [flagsOK.multiDevice, len_or_low (by decide), hc.len]

theorem carries_snoc {o : Pkt} {acc : List Pkt} (hc : Carries o acc) {n : Pkt} (hn : Plain n)
    (hl : acc.length + 1 ≤ Facts.fragMax) :
    ∃ o', writeUnpack o n = .ok o' ∧ Carries o' (acc ++ [n]) ∧ o'.id = o.id ∧
      o'.tags = o.tags ++ n.tags := by
  have hl' : Flag.len o.flags + 1 ≤ Facts.fragMax := by rw [hc.len]; exact hl
  obtain ⟨f1, f2, _⟩ := packedFlags_fields o.flags n.flags hl'
  refine ⟨_, writeUnpack_plain o n hn hl', ⟨?_, ?_, fun _ => f2⟩, rfl, rfl⟩
  · simp only [List.map_append, List.flatten_append, hc.pay, List.map_cons, List.map_nil,
      List.flatten_cons, List.flatten_nil, List.append_nil]
  · simp only [f1, hc.len, List.length_append, List.length_singleton]

theorem unpack_plain (fuel : Nat) {n : Pkt} (h : Plain n) : unpack (fuel + 1) n = .ok [n] := by
  unfold unpack
  rw [h.1]; rfl

theorem unpackLevel_ok (fuel : Nat) (acc : List Pkt) (hacc : ∀ a ∈ acc, QWF a) (rest : Bytes) :
    unpackLevel (unpack (fuel + 1)) acc.length ((acc.map marshalStream).flatten ++ rest) = .ok acc := by
  induction acc with
  | nil => rfl
  | cons a acc ih =>
    have ha := hacc a List.mem_cons_self
    simp only [List.map_cons, List.flatten_cons, List.append_assoc, List.length_cons]
    unfold unpackLevel
    rw [unmarshalStream_chunk a ha.wf]
    simp only [unpack_plain fuel ha.plain]
    rw [ih (fun x hx => hacc x (List.mem_cons_of_mem _ hx))]
    rfl

theorem unpack_carries (fuel : Nat) {o : Pkt} {acc : List Pkt} (hc : Carries o acc) (hne : acc ≠ [])
    (hacc : ∀ a ∈ acc, QWF a) : unpack (fuel + 2) o = .ok acc := by
  unfold unpack
  rw [hc.multi hne, hc.len]
  simp only [if_true]
  rw [if_neg (by intro h; exact hne (List.length_eq_zero_iff.mp h))]
  have := unpackLevel_ok fuel acc hacc []
  rw [List.append_nil] at this
  rw [hc.pay]; exact this

end XMT.Batch
