/-
  C12 — Session settings and identity survive every synchronisation path unchanged.
  The property theorems; the model is XMT/Info.lean, the readers' read-back lemmas are in
  XMT/InfoRoundtrip.lean, the lemmas on the order path in XMT/InfoOrder.lean.
-/
import XMT.InfoOrder
import XMT.InfoPinned
namespace XMT.Props.C12
open XMT.Codec XMT.Info

/-! ## Tie: field orders extracted from the current source -/

/-- The straight-line codecs (`Machine`, `WorkHours`, `Address`, `hardware`) write and read their
fields in the same order, and that order is the one the model uses.  (Regenerated from the source
on every run; a swapped or missing field on one side breaks this.) -/
theorem codec_field_orders_agree :
    Facts.c12_fields_machineW = Facts.c12_fields_machineR ∧
    Facts.c12_fields_machineW = expectMachine ∧
    Facts.c12_fields_workW = Facts.c12_fields_workR ∧
    Facts.c12_fields_workW = expectWorkHours ∧
    Facts.c12_fields_addressW = Facts.c12_fields_addressR ∧
    Facts.c12_fields_addressW = expectAddress ∧
    Facts.c12_fields_macW = Facts.c12_fields_macR ∧
    Facts.c12_fields_macW = expectMac := by
  and_intros <;> rfl

/-- The guarded functions (per-kind writer/reader, proxy data, interface and network loops, key
pair, ID, setters, client handler, server absorption) have, statement by statement, the shape the
model was written from. -/
theorem source_traces_as_modelled :
    Facts.c12_trace_writeDeviceInfo = Pinned.writeDeviceInfo ∧
    Facts.c12_trace_readDeviceInfo = Pinned.readDeviceInfo ∧
    Facts.c12_trace_writeProxyData = Pinned.writeProxyData ∧
    Facts.c12_trace_readProxyData = Pinned.readProxyData ∧
    Facts.c12_trace_ifaceW = Pinned.ifaceW ∧ Facts.c12_trace_ifaceR = Pinned.ifaceR ∧
    Facts.c12_trace_networkW = Pinned.networkW ∧ Facts.c12_trace_networkR = Pinned.networkR ∧
    Facts.c12_trace_idRead = Pinned.idRead ∧ Facts.c12_trace_idWrite = Pinned.idWrite ∧
    Facts.c12_trace_idW = Pinned.idW ∧ Facts.c12_trace_idR = Pinned.idR ∧
    Facts.c12_trace_keysW = Pinned.keysW ∧ Facts.c12_trace_keysR = Pinned.keysR ∧
    Facts.c12_trace_setDuration = Pinned.setDuration ∧
    Facts.c12_trace_setKillDate = Pinned.setKillDate ∧
    Facts.c12_trace_setWorkHours = Pinned.setWorkHours ∧
    Facts.c12_trace_setProfile = Pinned.setProfile ∧
    Facts.c12_trace_muxMvTime = Pinned.muxMvTime ∧
    Facts.c12_trace_muxMvProfile = Pinned.muxMvProfile ∧
    Facts.c12_trace_handleInfoResult = Pinned.handleInfoResult := by
  and_intros <;> rfl

/-- Statement order in `LoadContext` (migration) and `connectContextInner` (spawn), regenerated from
c2/c2.go: the Profile's defaults are seeded BEFORE the hand-off stream is read, so what the old process
sent is what the new Session runs with (the round-trip theorems below say the reader reproduces it;
this obligation says nothing overwrites it afterwards). -/
theorem handoff_applied_after_profile_defaults :
    Facts.c12_loadSeedsBeforeHandoff = 1 ∧ Facts.c12_spawnSeedsBeforeSync = 1 := by decide

/-- Statement order in `(*Session).MigrateProfile`, regenerated from c2/session.go: the hand-off is
marshalled (`writeDeviceInfo(infoMigrate, …)`) only after the Session lock is held, after the loop that
waits for the pending work and after the new process has connected to the pipe — so an order that was
still in flight when the migration started is part of what the new process receives. -/
theorem migrate_snapshot_after_drain : Facts.c12_migrateSnapshotAfterDrain = 1 := by decide

/-- The six kind constants are pairwise distinct and ordered around `infoRefresh` the way the
guards `t > infoRefresh` / `t != infoMigrate` need: registration, refresh and migration carry proxy
data; settings-sync and migration-completion do not; only migration carries identity and keys. -/
theorem kinds_partition :
    [Facts.c12_infoHello, Facts.c12_infoMigrate, Facts.c12_infoRefresh, Facts.c12_infoSync,
      Facts.c12_infoProxy, Facts.c12_infoSyncMigrate].Nodup ∧
    Facts.c12_infoHello ≤ Facts.c12_infoRefresh ∧ Facts.c12_infoMigrate ≤ Facts.c12_infoRefresh ∧
    Facts.c12_infoSync > Facts.c12_infoRefresh ∧ Facts.c12_infoSyncMigrate > Facts.c12_infoRefresh ∧
    [Facts.c12_timeSleepJitter, Facts.c12_timeKillDate, Facts.c12_timeWorkHours].Nodup ∧
    Facts.c12_timeSleepJitter = 0 ∧ Facts.c12_timeWorkHours < 256 := by
  decide

/-! ## Every message kind reproduces the sender's values on the receiving side -/

/-- The stream writer (local pipe) emits, `Write` call by `Write` call, exactly the bytes the packet
writer appends to a packet body. -/
theorem pipe_writer_agrees (t : Nat) (s : Session) (its : List Item)
    (_h : writeItems t s = .ok its) : (callsOf its).flatten = encItems its :=
  calls_flatten its

/-- **Packet-borne messages** (all kinds, any `t`): reading the packet body written for kind `t` by
`snd` into the receiving Session `rcv` succeeds, yields exactly `absorb t snd rcv` and consumes
exactly the written bytes (`rest` is whatever follows). -/
theorem roundtrip_packet (t : Nat) (snd rcv : Session) (h : WF t snd) (rest : Bytes) :
    ∃ bs, writeInfo t snd = .ok bs ∧
      (readInfo chunkX t rcv).run (bs ++ rest) = .ok (absorb t snd rcv, rest) :=
  let ⟨bs, hw, hr⟩ := reads_info chunkX_lawful t snd rcv h
  ⟨bs, hw, hr.chunk rest⟩

/-- **Pipe-borne messages** (migration hand-off, spawn; in fact every kind): the same for the stream
reader, for **every** way the underlying `io.Reader` splits the bytes into non-empty short reads. -/
theorem roundtrip_pipe (t : Nat) (snd rcv : Session) (h : WF t snd) (rest : Bytes) :
    ∃ bs, writeInfo t snd = .ok bs ∧
      ∀ cs : Stream, NoEmpty cs → cs.flatten = bs ++ rest →
        ∃ cs', (readInfo streamX t rcv).run cs = .ok (absorb t snd rcv, cs') ∧
          cs'.flatten = rest :=
  let ⟨bs, hw, hr⟩ := reads_info streamX_lawful t snd rcv h
  ⟨bs, hw, hr.stream rest⟩

/-- What `absorb` is, field by field: every kind other than the proxy update carries jitter and
sleep **exactly**, the kill date at whole seconds (`normKill`) and the work hours up to
nil ↔ `Empty()` (`normWork`). -/
theorem settings_arrive (t : Nat) (snd rcv : Session) (ht : t ≠ Facts.c12_infoProxy) :
    (absorb t snd rcv).1.jitter = snd.jitter ∧ (absorb t snd rcv).1.sleep = snd.sleep ∧
    (absorb t snd rcv).1.kill = normKill snd.kill ∧ (absorb t snd rcv).1.work = normWork snd.work := by
  rw [absorb_fst t snd rcv ht]
  exact ⟨rfl, rfl, rfl, rfl⟩

/-- The kill date is reproduced exactly unless it is the Unix epoch second 0 (indistinguishable from
"none" on the wire) or carries nanoseconds (only whole seconds travel). -/
theorem kill_exact (k : Time) (h : k.isZero = true ∨ (k.sec ≠ 0 ∧ k.nsec = 0)) : normKill k = k := by
  by_cases hz : k.isZero = true
  · exact normKill_of_isZero hz
  · obtain ⟨h1, h2⟩ := h.resolve_left hz
    rw [normKill_eq, if_neg (not_or.mpr ⟨hz, h1⟩), Time.unix, ← h2]

/-- Work hours are reproduced exactly unless they are a non-nil value that is `Empty()` (which means
"no work hours" and arrives as nil). -/
theorem work_exact (w : Option WorkHours) (h : ∀ x, w = some x → x.empty = false) :
    normWork w = w := by
  cases w with
  | none => rfl
  | some x => simp [normWork, workOfWire, h x rfl]

/-- Registration, refresh and migration-completion carry the device details exactly. -/
theorem device_arrives (t : Nat) (snd rcv : Session) (ht : t ≠ Facts.c12_infoProxy)
    (hd : hasDevice t) : (absorb t snd rcv).1.device = snd.device := by
  unfold hasDevice at hd
  rw [absorb_fst t snd rcv ht]
  show (absorbHead t snd rcv).device = snd.device
  rw [absorbHead, if_pos hd]

/-- The migration hand-off carries identity, key material and the proxy list (with the proxy's
profile) exactly. -/
theorem migration_arrives (snd rcv : Session) :
    (absorb Facts.c12_infoMigrate snd rcv).1.id = snd.id ∧
    (absorb Facts.c12_infoMigrate snd rcv).1.keys = snd.keys ∧
    (absorb Facts.c12_infoMigrate snd rcv).2 = proxyView true snd := by
  have h1 : Facts.c12_infoMigrate ≠ Facts.c12_infoProxy := by decide
  have h2 : ¬ Facts.c12_infoMigrate > Facts.c12_infoRefresh := by decide
  have h3 : ¬ (Facts.c12_infoMigrate = Facts.c12_infoHello ∨ Facts.c12_infoMigrate = Facts.c12_infoRefresh ∨
      Facts.c12_infoMigrate = Facts.c12_infoSyncMigrate) := by decide
  simp [absorb, absorbSettings, absorbHead, h1, h2, h3]

/-- The proxy update carries name and address of the attached proxy and nothing else. -/
theorem proxy_update_arrives (snd rcv : Session) :
    absorb Facts.c12_infoProxy snd rcv = (rcv, proxyView false snd) := by
  simp [absorb]

/-- Domain condition made explicit: a Session that is not an active client writes **no** proxy
section at all (not even the count byte), so a message kind that carries one cannot be read back. -/
theorem non_client_writes_no_proxy_section (s rcv : Session) (h : s.client = false) :
    writeInfo Facts.c12_infoProxy s = .ok [] ∧
    (readInfo chunkX Facts.c12_infoProxy rcv).run [] = .error (.codec .eof) := by
  constructor
  · simp [writeInfo, writeItems, proxyItems, h, Except.map, encItems, Except.pure_eq_ok]
  · rfl

/-- The stated domain edges are real (each excluded input really is not reproduced): a kill date at
Unix second 0 arrives as "none"; nanoseconds are dropped; a non-nil `Empty()` work-hours value arrives
as nil; 256 interfaces are written as count 0 with no entries; an ID whose first byte is zero is
rejected by the reader although all its bytes are there. -/
theorem domain_edges :
    normKill ⟨0, 0⟩ = Time.zero ∧ normKill ⟨0, 0⟩ ≠ ⟨0, 0⟩ ∧
    normKill ⟨1700000000, 5⟩ = ⟨1700000000, 0⟩ ∧
    normWork (some ⟨255, 0, 0, 0, 0⟩) = none ∧
    encItems (networkItems (List.replicate 256 ⟨[], 0, []⟩)) = [0] ∧
    (readID chunkX).run (0 :: List.replicate 31 1) = .error .noProgress := by
  decide +kernel

/-! ## Order → effect → echo -/

/-- **SetDuration(t, j)**: the order always completes; an ordered jitter (`j ≠ -1`) is in effect on
the client clamped exactly as documented (`< 0 → 0`, `> 100 → 100`), an ordered sleep (`t > 0`) is in
effect exactly; a sleep-only order (`j = -1`, `SetSleep`) carries the server's view of the jitter, which
the client keeps as it is when it is a legal percentage; kill date and work hours of the client are
untouched; afterwards the server's view equals the client's. -/
theorem order_duration (srv cli : Session) (t j : Int)
    (hs : SettingsWF srv) (hc : SettingsWF cli) (ht : I64 t) :
    ∃ srv2 cli2, order (setDuration srv t j).1 (setDuration srv t j).2 cli = .ok (srv2, cli2) ∧
      (j ≠ -1 → cli2.jitter = (if j < 0 then 0 else if j > 100 then 100 else byteOf j.toNat)) ∧
      (t > 0 → cli2.sleep = t) ∧
      (j = -1 → srv.jitter.toNat ≤ 100 → cli2.jitter = srv.jitter) ∧
      cli2.kill = cli.kill ∧ cli2.work = cli.work ∧
      Synced srv2 cli2 := by
  -- the jitter byte and the sleep the server sends
  generalize hjit : (if j = -1 then srv.jitter else if j < 0 then (0 : UInt8) else if j > 100 then 100
      else byteOf j.toNat) = jit
  generalize hsl : (if t > 0 then t else srv.sleep) = sl
  have hsl64 : I64 sl := by rw [← hsl]; split; exact ht; exact hs.1
  have hpay : (setDuration srv t j).2 = [0] ++ ([jit] ++ be64 (toU64 sl)) := by
    rw [← hjit, ← hsl]
    exact setDuration_snd srv t j
  have hw : SettingsWF { cli with jitter := clientJitter cli.jitter jit,
                                  sleep := if sl > 0 then sl else cli.sleep } :=
    ⟨by show I64 (if sl > 0 then sl else cli.sleep); split; exact hsl64; exact hc.1, hc.2⟩
  have e := orderVia_ok (setDuration srv t j).1 (muxTime_duration cli jit sl hsl64) hw
  rw [← hpay] at e
  refine ⟨_, _, e, fun hj => ?_, fun htp => ?_, fun hj hle => ?_, rfl, rfl,
    synced_absorbSettings⟩
  -- the client takes a jitter byte that is a legal percentage as it is, and both the clamped order
  -- and (by hypothesis) the server's own jitter are
  · rw [if_neg hj] at hjit
    refine (clientJitter_of_le ?_).trans hjit.symm
    rw [← hjit]
    split
    · decide
    · split
      · decide
      · rw [byteOf_toNat]; omega
  · rw [if_pos htp] at hsl
    exact hsl ▸ if_pos htp
  · rw [if_pos hj] at hjit
    exact hjit ▸ clientJitter_of_le hle

/-- **SetKillDate(k)**: the client's kill date becomes the ordered one (whole seconds, see
`kill_exact`), nothing else changes on the client, and the server's view equals the client's. -/
theorem order_killdate (srv cli : Session) (k : Time)
    (hs : SettingsWF srv) (hc : SettingsWF cli) (hk : I64 k.sec) :
    ∃ srv2 cli2, order (setKillDate srv k).1 (setKillDate srv k).2 cli = .ok (srv2, cli2) ∧
      cli2.kill = normKill k ∧
      cli2.jitter = cli.jitter ∧ cli2.sleep = cli.sleep ∧ cli2.work = cli.work ∧
      Synced srv2 cli2 := by
  have hkw := I64_killWire hk
  have e := orderVia_ok (setKillDate srv k).1 (muxTime_kill cli (killWire k) hkw)
    ⟨hc.1, I64_killOfWire hkw⟩
  rw [← setKillDate_snd] at e
  exact ⟨_, _, e, rfl, rfl, rfl, rfl, synced_absorbSettings⟩

/-- **SetWorkHours(w)**: when `Verify` accepts `w`, the client's work hours become the ordered ones
(nil for nil / `Empty()`), nothing else changes on the client, and the server's view equals the
client's.  When `Verify` rejects, nothing is sent. -/
theorem order_workhours (srv cli : Session) (w : Option WorkHours)
    (hs : SettingsWF srv) (hc : SettingsWF cli) :
    match setWorkHours srv w with
    | none => ∃ x, w = some x ∧ x.empty = false ∧ x.verify = false
    | some (srv1, payload) =>
      ∃ srv2 cli2, order srv1 payload cli = .ok (srv2, cli2) ∧
        cli2.work = normWork w ∧
        cli2.jitter = cli.jitter ∧ cli2.sleep = cli.sleep ∧ cli2.kill = cli.kill ∧
        Synced srv2 cli2 := by
  -- whatever tuple travels, the client stores it the way every reader does
  have sent : ∀ (srv1 : Session) (x : WorkHours) (v : Option WorkHours), workOfWire x = v →
      ∃ srv2 cli2,
        order srv1 (byteOf Facts.c12_timeWorkHours :: encItems (workItems x)) cli = .ok (srv2, cli2) ∧
        cli2.work = v ∧ cli2.jitter = cli.jitter ∧ cli2.sleep = cli.sleep ∧ cli2.kill = cli.kill ∧
        Synced srv2 cli2 := fun srv1 x v hv =>
    ⟨_, _, orderVia_ok srv1 (muxTime_work cli x) hc, hv, rfl, rfl, rfl,
      synced_absorbSettings⟩
  have zero : (be32 0 ++ [0] : Bytes) = encItems (workItems ⟨0, 0, 0, 0, 0⟩) := enc_noWork
  cases w with
  | none =>
    simp only [setWorkHours, zero]
    exact sent _ _ _ workOfWire_zero
  | some x =>
    simp only [setWorkHours, zero]
    by_cases he : x.empty = true
    · simp only [he, if_true]
      exact sent _ _ _ (workOfWire_zero.trans (if_pos he).symm)
    · by_cases hv : x.verify = true
      · simp only [he, hv, Bool.not_true, Bool.false_eq_true, if_false]
        exact sent _ x _ rfl
      · simp only [he, hv, Bool.not_false, if_true]
        exact ⟨x, rfl, by simpa using he, by simpa using hv⟩

/-- **SetProfile / SetProfileBytes (MvProfile)**: when the client accepts the profile bytes, its
settings are untouched and its echo leaves the server with the client's view. -/
theorem order_profile (parseOK : Bytes → Bool) (srv cli : Session) (b : Bytes)
    (hc : SettingsWF cli) (hb : b.length ≤ Facts.maxSlice) (hp : parseOK b = true) :
    ∃ srv2, orderProfile parseOK srv b cli = .ok (srv2, cli) ∧ Synced srv2 cli :=
  ⟨_, orderVia_ok srv (muxProfile_ok parseOK cli b hb hp) hc, synced_absorbSettings⟩

/-- **SvResync** (settings / refresh changed inside a script): the packet body is the kind byte
followed by the info of that kind; the server's absorption of it yields exactly the sender's values. -/
theorem resync_roundtrip (t : UInt8) (snd rcv : Session) (h : WF t.toNat snd) (rest : Bytes) :
    ∃ bs, writeInfo t.toNat snd = .ok bs ∧
      (readResync chunkX rcv).run (t :: bs ++ rest) = .ok ((absorb t.toNat snd rcv).1, rest) :=
  let ⟨bs, hw, hr⟩ := reads_resync chunkX_lawful t snd rcv h
  ⟨bs, hw, hr.chunk rest⟩

/-- `Synced` means the two ends have the same view of the settings. -/
theorem synced_same_view (srv cli : Session) (h : Synced srv cli) : view srv = view cli := by
  obtain ⟨h1, h2, h3, h4⟩ := h
  rw [view, h1, h2, h3, h4, normKill_idem, normWork_idem]
  rfl

/-! ## The defect that was repaired (kept as a machine-checked witness) -/

/-- `KeyPair.Unmarshal` as it was (one `Read` per key, all bytes demanded from it) fails on a
migration hand-off as soon as the pipe delivers the public key in two reads, although every byte is
there; the repaired reader (`io.ReadFull`) accepts the same stream (`roundtrip_pipe`). -/
theorem old_keypair_reader_fails_on_short_read :
    ∃ (snd rcv : Session) (bs : Bytes) (cs : Stream),
      WF Facts.c12_infoMigrate snd ∧ writeInfo Facts.c12_infoMigrate snd = .ok bs ∧
      NoEmpty cs ∧ cs.flatten = bs ∧
      (readInfoOld streamX Facts.c12_infoMigrate rcv).run cs = .error (.codec .unexpectedEOF) ∧
      (∃ cs', (readInfo streamX Facts.c12_infoMigrate rcv).run cs =
        .ok (absorb Facts.c12_infoMigrate snd rcv, cs')) := by
  -- the pipe delivers everything up to the middle of the public key, then the rest
  have hw : writeInfo Facts.c12_infoMigrate exampleSession = .ok exampleMigrateBytes := by
    decide +kernel
  refine ⟨exampleSession, exampleReceiver, exampleMigrateBytes, splitAt2 100 exampleMigrateBytes,
    exampleSession_WF.2.1, hw, splitAt2_noEmpty _ _, splitAt2_flatten _ _, by decide +kernel, ?_⟩
  obtain ⟨bs, hw', hr⟩ := reads_info streamX_lawful Facts.c12_infoMigrate exampleSession
    exampleReceiver exampleSession_WF.2.1
  cases hw.symm.trans hw'
  obtain ⟨cs', e, _⟩ := hr.stream [] _ (splitAt2_noEmpty _ _)
    ((splitAt2_flatten _ _).trans (List.append_nil _).symm)
  exact ⟨cs', e⟩

/-! ## Non-vacuity -/

example : WF Facts.c12_infoHello exampleSession ∧ WF Facts.c12_infoMigrate exampleSession ∧
    WF Facts.c12_infoProxy exampleSession ∧ WF Facts.c12_infoSync exampleSession :=
  exampleSession_WF

example : writeInfo Facts.c12_infoSync exampleSession =
    .ok [100, 0, 0, 0, 0, 0x3b, 0x9a, 0xca, 0, 0, 0, 0, 0, 0x65, 0x53, 0xf1, 0, 62, 9, 0, 17, 30] := by
  decide

example : (absorb Facts.c12_infoSync exampleSession exampleReceiver).1.jitter = 100 ∧
    (absorb Facts.c12_infoSync exampleSession exampleReceiver).1.device = exampleReceiver.device := by
  decide

example : (order (setDuration exampleReceiver 5000000000 250).1 (setDuration exampleReceiver 5000000000 250).2
    exampleSession).map (fun r => (r.2.jitter, r.2.sleep, view r.1 == view r.2)) =
    .ok (100, 5000000000, true) := by
  decide

end XMT.Props.C12
