/-
  C16 — Closing always terminates cleanly on both sides, from any state, repeatedly.
  Property theorems only. The model is XMT/Close.lean (`cfgF` = the current tree, its repair flags
  regenerated from the source; `cfgO` = the tree before the `fix:` commits). Three invariants, each
  with its preservation by every atomic action, are in XMT/CloseInv.lean (`Inv1`: no double close),
  XMT/CloseLock.lean (`Inv2`: the lock) and XMT/CloseProgress.lean (`Inv3`: who drives the shutdown);
  XMT/CloseInit.lean has the initial state, XMT/CloseQuiesce.lean the three along every run from it
  (`inv123_fresh`) and the end of a maximal run, XMT/CloseVariant.lean the variant. The teardown part
  (second half) rests on XMT/Teardown.lean, XMT/TeardownInv.lean and XMT/TeardownInit.lean in the same way.

  Quantification: `prog : List Kind` is ANY finite set of threads working on one Session (any number
  of concurrent Close()/close(false) calls, connection handlers carrying the peer's SvShutdown, the
  listen goroutine with ANY scripted sequence of connect / exchange outcomes, waiters, senders,
  wakers, context cancellation, the event thread, the server loop, reply pickers), `sched : List Nat`
  ANY schedule of their atomic actions (entries naming finished, blocked or non-existent threads are
  no-ops), from a fresh live Session with any receive-channel configuration and any number `q` of
  queued packets. Nothing is bounded.

  Scope notes (see DESIGN.md Appendix B.5):
  * `Listener.Close` / `Server.Close` are not part of this machine (`srvActive` is constant); they are
    the second model, XMT/Teardown.lean, in the second half of this file.
  * No thread of the model blocks on `s.wake` / `s.send`; `wait()` and a connect+exchange are single
    always-enabled actions, so a missed-wake hang is not expressible: liveness of the real goroutines is
    sampled end to end only (open statement 3).
  * "a reachable peer is told" has no positive theorem (and fails in the model when the context is
    cancelled between the last two actions of the closing listen turn); see the known finding
    `lost-shutdown:peek-overwritten` for the server side.
  * `close_returns`: a thread that died with a send on a closed channel (`panicSend`, the known
    findings) counts as finished; read "every thread has returned or died with the recorded panic".
  * the repair flags (`errShutdown`, `ackLocked`, ...) are regenerated facts; the invariants are
    proved for the configuration they denote (`cfgF`), reverting one changes `cfgF` and breaks the
    `facts_ok` obligations rather than a lemma that names the flag.
-/
import XMT.CloseQuiesce
import XMT.CloseVariant
import XMT.TeardownInit
namespace XMT.Props.C16
open XMT.Close

/-- the state the current tree reaches from a fresh Session under schedule `sched` -/
abbrev reach (client : Bool) (prog : List Kind) (hr cr : Bool) (q : Nat) (sched : List Nat) : St :=
  run (cfgF client) prog.length (init (cfgF client) prog hr cr q) sched

/-! ### obligations on the regenerated facts -/

/-- What the proofs need from the source: the closing transition is the atomic test-and-set, the
flags the close path tests are never cleared, and `shutdown` sets each guard flag before it closes
the channel, sets Closed and closes `s.ch` last, all but the last under the lock. Closed by
`decide` on Generated/Facts.lean. -/
theorem facts_ok :
    Facts.c16CloseTrySet = true ∧ Facts.c16MonotoneFlags = true ∧
    Facts.c16ShutdownOrder =
      ["s.lock.Lock()", "s.state.Set(stateSendClose)", "close(s.send)", "s.state.Set(stateWakeClose)",
       "close(s.wake)", "s.state.Set(stateRecvClose)", "close(s.recv)", "s.state.Set(stateClosed)",
       "s.s.Remove(s.ID, false)", "s.m.close()", "s.lock.Unlock()", "close(s.ch)"] := by decide

/-- the other repairs the model is instantiated with are present in the source -/
theorem facts_ok2 :
    Facts.c16EventerReturns = true ∧ Facts.c16ChanWakeLocked = true ∧ Facts.c16AckLocked = true ∧
    Facts.c16ListenBreakOnShutdown = true := by decide

/-- `MigrateProfile` (c2/session.go): every error exit after `s.state.Set(stateMoving)` calls
`s.state.Unset(stateMoving)` first (count of exits that do not, regenerated from the source). A Session
left with the Moving flag ends `listen()` without its final SvShutdown and `shutdown()` returns before
`close(s.ch)`: a later Close would never return. The close machine above is about Sessions that are not
moving; this obligation is what keeps a failed migration inside it. -/
theorem migrate_error_exits_roll_back : Facts.c16MigrateExitsNoRollback = 0 := by decide

theorem reach_inv1 (client : Bool) (prog : List Kind) (hu : uniqueListen prog = true) (hr cr : Bool)
    (q : Nat) (sched : List Nat) : Inv1 (cfgF client) (reach client prog hr cr q sched) :=
  inv1_run facts_ok.1 (inv1_init (cfgF client) prog hu hr cr q) sched

/-! ### the property, for all programs and all schedules (current tree) -/

/-- No channel of the Session is ever closed twice and no thread dies in `close` of a closed
channel: under ALL interleavings of any number of concurrent close calls, SvShutdown handlers and
the Session's own threads, each of send / wake / recv / the event queue / ch is closed at most once. -/
theorem no_double_close (client : Bool) (prog : List Kind) (hu : uniqueListen prog = true)
    (hr cr : Bool) (q : Nat) (sched : List Nat) :
    let s := reach client prog hr cr q sched
    s.sendC ≤ 1 ∧ s.wakeC ≤ 1 ∧ s.recvC ≤ 1 ∧ s.evC ≤ 1 ∧ s.chC ≤ 1 ∧
    ∀ t c, (s.loc t).out ≠ .panicClose c := by
  have h := reach_inv1 client prog hu hr cr q sched
  exact ⟨h.sendC.le_one, h.wakeC.le_one, h.recvC.le_one, h.evC.le_one, h.chC.le_one, h.noPanic⟩

/-- … and shutdown() is entered by at most one thread, ever. -/
theorem shutdown_entered_once (client : Bool) (prog : List Kind) (hu : uniqueListen prog = true)
    (hr cr : Bool) (q : Nat) (sched : List Nat) (t u : Nat)
    (ht : ((reach client prog hr cr q sched).loc t).sd = true)
    (hu' : ((reach client prog hr cr q sched).loc u).sd = true) : t = u :=
  (reach_inv1 client prog hu hr cr q sched).uniq t u (Or.inl ht) (Or.inl hu')

/-- well-formed program: a Session has at most one listen goroutine, a client Session has one -/
def wf (client : Bool) (prog : List Kind) : Bool :=
  uniqueListen prog && (!client || hasListen prog)

theorem reach_inv (client : Bool) (prog : List Kind) (hw : wf client prog = true) (hr cr : Bool)
    (q : Nat) (sched : List Nat) :
    Inv1 (cfgF client) (reach client prog hr cr q sched) ∧
    Inv2 (cfgF client) prog.length (reach client prog hr cr q sched) ∧
    Inv3 (cfgF client) (reach client prog hr cr q sched) :=
  inv123_fresh (cfgF client) facts_ok.1 facts_ok2.2.1 prog hw hr cr q sched

/-- Close returns, part 2 — the end of every maximal run: in ANY reachable state in which no thread
can move, if the Session is a client Session or its Closing flag is set, then every thread has
returned (every Close()/close(false) call, every SvShutdown handler, the listen goroutine, every
Wait(), the event thread; only the server loop idles at its receive, pc 92), `s.ch` is closed exactly once (Wait / Done
are released), the Closed flag is set (IsClosed), the event queue of a client is closed, the lock
is free and nobody died in a double close. Together with `closing_variant` (no infinite run):
from the moment Closing is set every schedule reaches such a state after at most `measure` steps. -/
theorem close_returns (client : Bool) (prog : List Kind) (hw : wf client prog = true) (hr cr : Bool)
    (q : Nat) (sched : List Nat) :
    let s := reach client prog hr cr q sched
    quiescent (cfgF client) prog.length s → (client = true ∨ s.closing = true) →
    (∀ t, t < prog.length → (s.loc t).pc = fin ∨ (s.loc t).pc = 92) ∧
    s.chC = 1 ∧ s.closed = true ∧ s.lock = none ∧ (client = true → s.evC = 1) ∧
    ∀ t c, (s.loc t).out ≠ .panicClose c := by
  intro s hq hc
  obtain ⟨hi, hj, hk⟩ := reach_inv client prog hw hr cr q sched
  obtain ⟨h1, h2, h3, h4, h5⟩ := quiescent_done hi hj hk hq hc
  exact ⟨h1, h2, h3, h4, h5, hi.noPanic⟩

/-- The server stops listing the session: at the end of every maximal run of a closing server-side
Session whose Server loop is running (a thread at pc 92), the id is no longer in `Server.sessions` (both Remove calls
were issued before, the loop has drained them). -/
theorem server_unlists (prog : List Kind) (hw : wf false prog = true) (hr cr : Bool) (q : Nat)
    (sched : List Nat) (d : Nat) (hdn : d < prog.length) :
    let s := reach false prog hr cr q sched
    (s.loc d).pc = 92 → quiescent (cfgF false) prog.length s → s.closing = true →
    s.listed = false ∧ s.delReq = 0 := by
  intro s h92 hq hc
  obtain ⟨hi, hj, hk⟩ := reach_inv false prog hw hr cr q sched
  exact quiescent_unlisted hi hj hk hq rfl hc hdn h92

/-- every further schedule from a closing state executes at most `measure` actions -/
theorem closing_terminates (client : Bool) (prog : List Kind) (hw : wf client prog = true)
    (hr cr : Bool) (q : Nat) (sched more : List Nat) :
    let s := reach client prog hr cr q sched
    s.closing = true → effSteps (cfgF client) prog.length s more ≤ measure prog.length s := by
  intro s hc
  exact effSteps_le_measure facts_ok2.1 more hc
    (reach_inv1 client prog (Bool.and_eq_true_iff.1 hw).1 hr cr q sched).contOk

/-- Nothing panics, PARTIAL: under the assumption that the check and the non-blocking send of
Session.queue and of Session.Wake are not separated (`fuse`), no thread ever panics — neither close
of a closed channel nor send on a closed channel — under all schedules. The assumption is needed:
`queue_send_on_closed`, `wake_send_on_closed` below. chanWake and the acknowledgement write need
no assumption (they hold the lock). -/
theorem no_panic_partial (client : Bool) (prog : List Kind) (hw : wf client prog = true)
    (hr cr : Bool) (q : Nat) (sched : List Nat) (t : Nat) :
    let cfg := { cfgF client with fuse := true }
    ((run cfg prog.length (init cfg prog hr cr q) sched).loc t).out.isPanic = false := by
  intro cfg
  have h := inv123_fresh cfg facts_ok.1 facts_ok2.2.1 prog hw hr cr q sched
  have a := h.1.noPanic t
  have b := h.2.1.noPanicS rfl t
  cases e : ((run cfg prog.length (init cfg prog hr cr q) sched).loc t).out with
  | none | ret => rfl
  | panicClose c => exact absurd e (a c)
  | panicSend c => exact absurd e (b c)

/-- Close returns, part 1 — the variant: once the Closing flag is set, EVERY enabled atomic action
of EVERY thread (the closers, the SvShutdown handlers, the listen goroutine whatever its connects
do, waiters, senders, the event thread, the server loop) strictly decreases `measure`; so from a
closing Session every run, under every schedule, makes at most `measure` further steps: no call
can spin or loop for ever. -/
theorem closing_variant (client : Bool) (prog : List Kind) (hu : uniqueListen prog = true)
    (hr cr : Bool) (q : Nat) (sched : List Nat) (t : Nat) (ht : t < prog.length) :
    let s := reach client prog hr cr q sched
    s.closing = true → enabled (cfgF client) prog.length s t = true →
    measure prog.length (step (cfgF client) prog.length s t) < measure prog.length s := by
  intro s hc he
  rw [step_of_enabled ht he]
  exact var_act facts_ok2.1 ht hc he
    ((reach_inv1 client prog hu hr cr q sched).contOk t)

/-! ### negations: the defects, machine-checked on the model of the unrepaired code -/

/-- The unrepaired check-then-set: two connection handlers that both carry the client's SvShutdown
both pass `Closing()`, both `Set(stateClosing)`, both run shutdown(); the second dies in the
unguarded `close(s.ch)`. (Replayed on the real code with the fix reverted: corpus/C16.) -/
def dcProg : List Kind := [.recvShutdown, .recvShutdown]
def dcSched : List Nat :=
  [0,0,0,0,0,0,0, 1,1,1,1,1,1,1, 0,0,0,0,0,0,0,0,0,0,0,0,0,0, 1,1,1,1,1,1,1,1,1,1]

theorem orig_double_close :
    ((run (cfgO false) 2 (init (cfgO false) dcProg false false 0) dcSched).loc 1).out = .panicClose .ch := by
  -- `+kernel` here and below: on a run of 30 steps or more the elaborator's evaluator exceeds its
  -- recursion depth, the kernel's does not
  decide +kernel

/-- the three steps that matter: both threads are past the `Closing()` check before either sets the flag -/
theorem orig_both_pass_check :
    let s := run (cfgO false) 2 (init (cfgO false) dcProg false false 0) (dcSched.take 14)
    (s.loc 0).pc = 25 ∧ (s.loc 1).pc = 25 ∧ s.closing = false := by
  decide

/-- the same schedule on the current tree: the loser of the test-and-set returns -/
theorem fixed_same_schedule :
    let s := run (cfgF false) 2 (init (cfgF false) dcProg false false 0) (dcSched ++ [0, 0, 0, 0, 0, 0])
    (s.loc 0).out = .ret ∧ (s.loc 1).out = .ret ∧ s.chC = 1 := by
  decide +kernel

/-! ### negations: the recorded findings, on the model of the CURRENT tree -/

/-- OPEN: `∀ prog sched t, ((reach …).loc t).out.isPanic = false` (nothing panics) is FALSE for the
current tree: two check-then-send windows remain (known/C16.json). The witnesses: -/
def qProg : List Kind := [.send, .recvShutdown]
def qSched : List Nat := [0] ++ List.replicate 33 1 ++ [0]

/-- Session.queue: the sender passes `SendClosed()`, a handler with the client's SvShutdown runs the
whole shutdown (closes s.send), the sender sends: send on closed channel. -/
theorem queue_send_on_closed :
    ((reach false qProg false false 0 qSched).loc 0).out = .panicSend .send := by decide +kernel

def wProg : List Kind := [.listen [], .close true]
def wSched : List Nat := [1, 1, 1, 1] ++ List.replicate 25 0 ++ [1]

/-- Session.Wake in a client's Close(): the caller passes `WakeClosed()`, the listen goroutine
completes the handshake and shutdown (closes s.wake), the caller sends: send on closed channel. -/
theorem wake_send_on_closed :
    ((reach true wProg false false 0 wSched).loc 1).out = .panicSend .wake := by decide +kernel

/-- OPEN: "a server-side Close() that returned leaves the SvShutdown packet pending until it is
sent" is FALSE: the connection handler's `n, s.peek = nextPacket(…)` overwrites it. After this
schedule Close() has returned, nothing was sent, nothing is pending and the Session is not closing. -/
theorem server_close_request_lost :
    let s := reach false [.serve, .close true] false false 2 [0, 0, 1, 1, 1, 1, 1, 0]
    (s.loc 1).out = .ret ∧ (s.loc 0).out = .ret ∧ s.peek = false ∧ s.told = 0 ∧ s.closing = false := by
  decide

/-! ### non-vacuity -/

example : uniqueListen dcProg = true := by decide
example : uniqueListen [.listen [true, false], .close true, .close true, .evLoop, .cancel, .waitCh] = true := by decide
example : uniqueListen [.listen [], .listen []] = false := by decide

/-- the hypotheses of `close_returns` / `server_unlists` are satisfiable: a server-side Session with
two SvShutdown handlers, an operator Close(), a waiter and the server loop, run to the end -/
def nvProg : List Kind := [.recvShutdown, .recvShutdown, .close true, .waitCh, .srvLoop]
def nvSched : List Nat := (List.replicate 30 [0, 1, 2, 3, 4]).flatten

example : wf false nvProg = true := by decide
example : (reach false nvProg true false 3 nvSched).closing = true := by decide +kernel
example : quiescent (cfgF false) nvProg.length (reach false nvProg true false 3 nvSched) := by
  unfold quiescent
  decide +kernel
example : ((reach false nvProg true false 3 nvSched).loc 4).pc = 92 := by decide +kernel

/-- … and a client Session: Close() twice, context cancellation with the event thread, a waiter -/
def nvProgC : List Kind := [.listen [true, true], .close true, .close true, .evLoop, .cancel, .waitCh]
def nvSchedC : List Nat := (List.replicate 40 [1, 0, 2, 4, 3, 5]).flatten

example : wf true nvProgC = true := by decide
example : quiescent (cfgF true) nvProgC.length (reach true nvProgC false false 2 nvSchedC) := by
  unfold quiescent
  decide +kernel
example : (reach true nvProgC false false 2 nvSchedC).told = 1 := by decide +kernel

/-! ## Server / Listener teardown — model XMT/Teardown.lean

  Threads: the Server loop from its first statement (`go s.listen()`), any number of `Server.Close()`
  callers, cancellation of the parent context, the `listen` goroutine and any number of `Close()` callers
  of every Listener, `Server.Remove(id, false)` callers (Sessions shutting down), connection handlers
  registering new Sessions; channels with their real capacities (a full channel blocks, a closed one
  panics). A schedule entry is `t + 1000 * arm` (arm = the case Go's `select` / `range` chose).
  `sched`, the number of Listeners `nl` and Sessions `ns` are arbitrary, `prog` too but for `uniqueLL` (at most
  one `listen` goroutine per Listener, as in the real code). -/

/-- the state the current tree reaches from a fresh Server (run word 0, loop not yet started) with `nl`
Listeners in `s.active` and `ns` registered Sessions -/
abbrev treach (nl ns : Nat) (prog : List Teardown.Kind) (sched : List Nat) : Teardown.St :=
  Teardown.run (Teardown.cfgF nl) prog.length (Teardown.init (Teardown.cfgF nl) ns prog) sched

/-- What the teardown proofs need from the source (closed by `decide` on Generated/Facts.lean): the loop
claims the run word with CompareAndSwap(0,1); the channel capacities; the statement order of
Server.shutdown, Server.Close, Server.Remove(…, false), Listener.Close and of the exit sequence of
Listener.listen is the order of the model's pcs 110‥119, 120‥122, 150‥151, 140‥144, 134‥139. -/
theorem td_facts_ok :
    Facts.c16SrvLoopCAS = true ∧ Facts.c16DelListenerCap = 16 ∧ Facts.c16DelSessionCap = 64 ∧
    Facts.c16SrvShutdownOrder =
      ["s.cancel()", "v.Close()", "v.Close()", "delete(s.active, <-s.delListener)", "<-s.delListener",
       "s.active = nil", "atomic.SwapUint32(&s.run, 2)", "close(s.new)", "close(s.delListener)",
       "close(s.delSession)", "close(s.events)", "close(s.ch)"] ∧
    Facts.c16SrvCloseOrder = ["s.cancel()", "atomic.LoadUint32(&s.run)", "s.shutdown()", "<-s.ch"] ∧
    Facts.c16SrvRemoveOrder = ["s.IsActive()", "s.delSession <- i"] ∧
    Facts.c16LsnCloseOrder =
      ["l.state.Closed()", "l.state.Set(stateClosing)", "l.cancel()", "l.state.Replacing()",
       "l.listener.Close()", "<-l.ch"] ∧
    Facts.c16LsnExitOrder =
      ["l.cancel()", "l.state.WakeClosed()", "l.state.Set(stateWakeClose)", "l.listener.Close()",
       "l.s.delListener <- l.name", "l.state.Set(stateClosed)", "close(l.ch)"] := by decide

theorem td_reach_inv (nl ns : Nat) (prog : List Teardown.Kind) (hu : Teardown.uniqueLL prog = true)
    (sched : List Nat) : Teardown.Inv (Teardown.cfgF nl) (treach nl ns prog sched) :=
  Teardown.inv_run td_facts_ok.1 (Teardown.inv_init (Teardown.cfgF nl) ns prog hu) sched

/-- Server / Listener teardown, no double close: under ALL interleavings (and all choices of `select`
and of the map iteration) of the Server loop, any number of Server.Close() callers, context cancellation,
the Listener goroutines (at most one per Listener: `uniqueLL`), any number of Listener.Close() callers,
Server.Remove callers and registering handlers, each of `s.new`, `s.delListener`, `s.delSession`, `s.events`,
`s.ch` and every `l.ch` is closed at most once and no thread dies in a close of a closed channel. -/
theorem td_no_double_close (nl ns : Nat) (prog : List Teardown.Kind)
    (hu : Teardown.uniqueLL prog = true) (sched : List Nat) :
    let s := treach nl ns prog sched
    s.newC ≤ 1 ∧ s.dlC ≤ 1 ∧ s.dsC ≤ 1 ∧ s.evC ≤ 1 ∧ s.chC ≤ 1 ∧ (∀ j, s.lchC j ≤ 1) ∧
    ∀ t c, (s.loc t).out ≠ .panicClose c := by
  have h := td_reach_inv nl ns prog hu sched
  exact ⟨h.newC.le_one, h.dlC.le_one, h.dsC.le_one, h.evC.le_one, h.chC.le_one, h.lchC_le_one, h.noPanic⟩

/-- … because at most one thread ever passes the `SwapUint32(&s.run, 2) == 2` guard of Server.shutdown,
and once one has, the run word stays 2: a loop goroutine scheduled late cannot restart a finished Server. -/
theorem td_shutdown_winner_unique (nl ns : Nat) (prog : List Teardown.Kind)
    (hu : Teardown.uniqueLL prog = true) (sched : List Nat) (t u : Nat)
    (ht : ((treach nl ns prog sched).loc t).won = true)
    (hv : ((treach nl ns prog sched).loc u).won = true) :
    t = u ∧ (treach nl ns prog sched).run = 2 :=
  ⟨(td_reach_inv nl ns prog hu sched).uniq t u ht hv, (td_reach_inv nl ns prog hu sched).wonRun t ht⟩

/-! ### negations (teardown): the repaired defect on the model of the unrepaired code, the recorded
findings on the model of the current tree; all replayed on the real code (corpus of c16_s3.go) -/

/-- Server.listen with `SwapUint32(&s.run, 1)` (before the `fix:` commit): two Close() callers of a Server
whose loop has not started both read run == 0 and enter shutdown(); the first completes it; the loop
goroutine, scheduled only now, resets the run word 2 → 1 and returns; the second caller passes the swap
guard and closes `s.new` again: close of closed channel. -/
def tdLateProg : List Teardown.Kind := [.sclose, .sclose, .loop]
def tdLateSched : List Nat := [0, 0, 1, 1, 0, 0, 0, 0, 0, 0, 0, 0, 0, 0, 2, 1, 1, 1, 1, 1, 1]

theorem td_orig_late_start_double_close :
    let cfg := { Teardown.cfgF 0 with loopCAS := false }
    ((Teardown.run cfg 3 (Teardown.init cfg 0 tdLateProg) tdLateSched).loc 1).out = .panicClose .new := by
  decide +kernel

/-- the same schedule on the current tree: the late loop returns without touching the run word, the second
caller returns at the guard, Close() returns for both -/
theorem td_fixed_late_start :
    let s := treach 0 0 tdLateProg (tdLateSched ++ [0])
    (s.loc 0).out = .ret ∧ (s.loc 1).out = .ret ∧ (s.loc 2).out = .ret ∧ s.chC = 1 ∧ s.run = 2 := by
  decide +kernel

/-- OPEN: `∀ … t, ((treach …).loc t).out.isPanic = false` (nothing panics during a teardown) is FALSE for
the current tree: Server.Remove(id, false) tests IsActive() and then sends on `s.delSession`; the Server
shuts down in between and closes the channel (known/C16.json, panic:teardown:send-on-closed:delSession). -/
theorem td_remove_send_on_closed :
    ((treach 0 1 [.remove 0, .loop, .sclose] [1, 0, 2, 2, 1, 1, 1, 1, 1, 1, 1, 1, 1, 1, 0]).loc 0).out
      = .panicSend .delSession := by
  decide

/-- OPEN (same statement): on the CURRENT tree a Server.Close() caller that read run == 0 runs shutdown()
itself while the loop goroutine of the first Listen starts (its claim of the run word succeeds: it is still
0); the caller closes the channels; the loop's `select` may then take `case l := <-s.new` on the closed
channel and dereference the nil Listener (`l.name`): the process dies (known/C16.json,
panic:teardown:other:loop). Go chooses among the ready cases at random: the context arm ends the loop
cleanly, this arm does not. -/
theorem td_close_races_loop_start_nil_deref :
    let s := treach 0 0 [.sclose, .loop] [0, 0, 1, 0, 0, 0, 0, 0, 0, 0, 0, 0, 0, 3001]
    (s.loc 1).out = .panicNil ∧ s.newC = 1 ∧ s.run = 2 := by
  decide

/-- 17 Listeners: P, A0‥A16, Z -/
def tdManyProg (n : Nat) : List Teardown.Kind :=
  [.loop] ++ (List.range n).map .llisten ++ [.sclose]
/-- Close() cancels; every Listener goroutine runs its exit sequence (the 17th blocks in
`l.s.delListener <- l.name`: 16 names are buffered); the loop enters shutdown and calls Close() on that
Listener first -/
def tdManySched (n : Nat) : List Nat :=
  [n + 1] ++ ((List.range n).map fun j => List.replicate 7 (1 + j)).flatten ++ [0, 0, 0, 1000 * n, 0, 0, 0, 0, 0, n + 1]

/-- OPEN: "every Server.Close() call returns" is FALSE for a Server with more Listeners than
cap(s.delListener) = 16: Server.shutdown closes the Listeners one after the other and only afterwards
receives from `s.delListener`; the 17th Listener goroutine blocks in its send, its `l.ch` is never
closed, shutdown waits for it in Listener.Close: no thread can move, Close() has not returned
(known/C16.json, hang:teardown:*). -/
theorem td_many_listeners_deadlock :
    let s := treach 17 0 (tdManyProg 17) (tdManySched 17)
    (List.range 19).all (fun t => !Teardown.enabled (Teardown.cfgF 17) s t) = true ∧
    (s.loc 0).pc = 144 ∧ (s.loc 17).pc = 137 ∧ (s.loc 18).pc = 122 ∧ s.ctxDone = true ∧ s.chC = 0 := by
  decide +kernel

/-! ### non-vacuity (teardown) -/

example : Teardown.uniqueLL (tdManyProg 17) = true := by decide
example : Teardown.uniqueLL [.loop, .llisten 0, .llisten 1, .lclose 1, .lclose 1, .sclose, .sclose, .cancel,
    .remove 0, .register 1 2] = true := by decide
example : Teardown.uniqueLL [.llisten 0, .llisten 0] = false := by decide

/-- with 16 Listeners the same teardown runs to its end: every Listener closed, all five Server channels
closed once, both the loop and Close() have returned -/
def tdFullSched (n : Nat) : List Nat :=
  [n + 1] ++ ((List.range n).map fun j => List.replicate 7 (1 + j)).flatten ++ [0, 0, 0, 1000 * n] ++
  ((List.range n).map fun k => [0, 1000 * (n - 1 - k)]).flatten ++ [0] ++ List.replicate n 0 ++
  [0, 0, 0, 0, 0, 0, 0, n + 1, n + 1]

example :
    let s := treach 16 0 (tdManyProg 16) (tdFullSched 16)
    (List.range 18).all (fun t => (s.loc t).out == .ret) = true ∧ s.chC = 1 ∧ s.dlC = 1 ∧ s.run = 2 ∧
    (List.range 16).all (fun j => s.lchC j == 1 && s.lClosed j) = true := by
  decide +kernel

end XMT.Props.C16
