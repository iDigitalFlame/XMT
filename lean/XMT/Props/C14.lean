/-
  C14 — A Job finishes exactly once whether it completes, errors or is cancelled.
  Property theorems only; the model is XMT/Job.lean (`stepF` = the code as repaired by the `fix:`
  commits, `stepO` = the code before), the invariant and its preservation are in XMT/JobInv.lean, the
  notions for the count of the table's keys in XMT/JobCount.lean.

  Quantification: `prog : List Kind` is ANY finite set of threads (any number of Task / result
  arrival (normal, error-flagged, duplicate = same number again, unknown number) / Cancel (repeated) /
  Wait / IsDone / accept / frag calls on one session), `sched : List Nat` ANY schedule of their
  atomic actions (entries naming finished, blocked or non-existent threads are no-ops), starting
  from a fresh session `{}`. Nothing is bounded.

  Scope (DESIGN.md Appendix B.5):
  * granularity: in XMT/Job.lean the locked region of `Cancel` (delete; Status = Canceled; close(done);
    done = nil) is ONE atomic action. Lock-free readers (`Wait`, `IsDone`, a `Status` read) can in the
    real code run inside that region; `status_first_event` / `released_once` / `finished_is_final`
    speak about the states between actions, i.e. once the finishing call has left its locked region.
    What a lock-free reader sees between the single writes of the locked regions is the subject of
    section "Sub-steps of the locked regions" below (model XMT/JobSub.lean, invariant
    XMT/JobSubInv.lean, its preservation XMT/JobSubStep.lean, the count XMT/JobSubCount.lean).
  * all universally quantified theorems are safety statements (nothing wrong is recorded); that a
    result for a pending Job IS recorded is shown on examples and by the differential run.
  * `St.count` (the unlocked `len(s.jobs)` test of `handle`) is no clause of the invariant; that it is
    the size of the table is `count_is_table_size`, `sub_count_is_table_size`.
  * `Task` registers a caller-supplied Job number as it is (also 1, whose result `handle` then drops:
    `low_numbers_ignored`); "never 0 or 1" is proved for the numbers `newJobID` hands out
    (`jobid_fresh`). The harness never supplies a number below 2.
  * `resync_only_for_pending` is definitional on purpose: it pins the gate to `hasJob` alone; the tie is
    the differential op `resync`.
-/
import XMT.JobSubCount
namespace XMT.Props.C14
open XMT.Job

abbrev reach (prog : List Kind) (sched : List Nat) : St := runF prog {} sched

theorem reach_inv (prog : List Kind) (sched : List Nat) : Inv prog (reach prog sched) :=
  inv_runF prog sched {} (inv_init prog)

/-- The statuses are pairwise distinct and the three final ones differ from the pending ones; the
id-allocation loop rejects 0 and 1 (`i > 1`). Closed by `decide` on Generated/Facts.lean. -/
theorem facts_ok :
    [stWaiting, stAccepted, stReceiving, stCompleted, stError, stCanceled].Nodup ∧
    1 ≤ idMinExcl ∧ handleMin = 2 ∧ acceptMin = 2 ∧ fragMin = 2 ∧ 0 < idTries := by decide

/-- Nothing panics: no thread ever dies in `close` of a closed or nil channel, and the session lock
is never left held. -/
theorem no_panic (prog : List Kind) (sched : List Nat) (t : Nat) :
    ((reach prog sched).loc t).out.isPanic = false ∧ (reach prog sched).lockHeld = false := by
  have h := reach_inv prog sched
  exact ⟨Out.isPanic_eq_false.2 (h.noPanic t), h.noLock⟩

/-- Waiters are released exactly once: the done channel of every Job is closed at most once, and it
is closed iff the close counter is 1. -/
theorem released_once (prog : List Kind) (sched : List Nat) (r : Nat) (hr : r < (reach prog sched).nJobs) :
    ((reach prog sched).jobs r).closes ≤ 1 ∧
    (((reach prog sched).jobs r).closed = true ↔ ((reach prog sched).jobs r).closes = 1) :=
  ((reach_inv prog sched).jobs r hr).closes_le_one

/-- The final status reflects the first finishing event: as soon as the waiters are released the
Status is the one of the event that released them (Completed / Error for a result, Canceled for
Cancel) — in every reachable state, hence also whatever runs afterwards. -/
theorem status_first_event (prog : List Kind) (sched : List Nat) (r : Nat)
    (hr : r < (reach prog sched).nJobs) (hc : ((reach prog sched).jobs r).closed = true) :
    ∃ e, ((reach prog sched).jobs r).first = some e ∧ ((reach prog sched).jobs r).status = e.status :=
  (((reach_inv prog sched).jobs r hr).of_closed hc).2

/-- The Job leaves the pending table: a finished Job is never in the table, and whatever the table
holds under a number is an unfinished Job with that number (no entry is ever attributed to a
different number). -/
theorem leaves_table (prog : List Kind) (sched : List Nat) (i r : Nat)
    (ht : (reach prog sched).table i = some r) :
    r < (reach prog sched).nJobs ∧ ((reach prog sched).jobs r).id = i ∧
    ((reach prog sched).jobs r).closed = false ∧ ((reach prog sched).jobs r).doneNil = false := by
  have h := (reach_inv prog sched).tab i r ht
  exact ⟨h.lt, h.id, h.isOpen, h.notNil⟩

/-- Results with an unknown, already used (duplicate) or cancelled number are ignored: when the
number is not in the pending table at the locked lookup, `handle` returns false and no Job, no
table entry and no other thread changes. (A finished or cancelled Job is not in the table, see
`leaves_table`.) -/
theorem foreign_results_ignored (s : St) (t id : Nat) (ef : Bool) (tag : Nat)
    (hpc : (s.loc t).pc = 1) (hl : s.lockHeld = false) (hn : s.table id = none) :
    let s' := resultF s t id ef tag
    s'.jobs = s.jobs ∧ s'.table = s.table ∧ s'.nJobs = s.nJobs ∧
    (s'.loc t).out = .ignored ∧ (s'.loc t).pc = fin ∧ ∀ t', t' ≠ t → s'.loc t' = s.loc t' := by
  simp [resultF, hpc, hl, hn, finish, setLoc, upd_apply]
  intro t' h; simp [h]

/-- … and numbers below 2 are rejected before the table is even read. -/
theorem low_numbers_ignored (s : St) (t id : Nat) (ef : Bool) (tag : Nat)
    (hpc : (s.loc t).pc = 0) (hid : id < 2) :
    let s' := resultF s t id ef tag
    s'.jobs = s.jobs ∧ s'.table = s.table ∧ (s'.loc t).out = .ignored ∧ (s'.loc t).pc = fin := by
  have : id < handleMin := by have := facts_ok.2.2.1; omega
  simp [resultF, hpc, this, finish, setLoc]

/-- A result is only ever recorded in the Job that was pending under exactly the result's number
when the handler looked it up: a handle-thread that is past its lookup owns a Job with its own
number, and that Job is not (any more) in the table. -/
theorem result_recorded_in_own_job (prog : List Kind) (sched : List Nat) (t id : Nat) (ef : Bool) (tag : Nat)
    (hk : prog[t]? = some (.result id ef tag))
    (h2 : 2 ≤ ((reach prog sched).loc t).pc) (h6 : ((reach prog sched).loc t).pc ≤ 6) :
    ∃ r, ((reach prog sched).loc t).ref = some r ∧ r < (reach prog sched).nJobs ∧
      ((reach prog sched).jobs r).id = id ∧ ((reach prog sched).jobs r).owner = some t ∧
      (reach prog sched).table id ≠ some r := by
  have hi := reach_inv prog sched
  obtain ⟨r, e, hlt, ho⟩ := hi.owned hk h2 h6
  exact ⟨r, e, hlt, ho.id, ho.owner, fun ht => nomatch (hi.tab id r ht).free.symm.trans ho.owner⟩

/-- Wait never blocks on a finished Job: inside `Wait` (either action) a thread whose Job's channel
is closed always makes progress. -/
theorem no_block_after_finish (s : St) (t k r : Nat) (hj : jobOf s k = some (some r))
    (hc : (s.jobs r).closed = true) (hpc : (s.loc t).pc = 0 ∨ (s.loc t).pc = 1) :
    ((waitF s t k).loc t).pc ≠ (s.loc t).pc := by
  rcases hpc with h | h
  · simp [waitF, hj, h, finish, goto, setLoc]
    split <;> simp [fin]
  · simp [waitF, hj, h, hc, finish, setLoc, fin]

/-- IsDone on a finished Job answers true (either the field is already nil, or the channel read
into the local is closed). -/
theorem isDone_after_finish (s : St) (t k r : Nat) (hj : jobOf s k = some (some r))
    (hc : (s.jobs r).closed = true) (hpc : (s.loc t).pc = 0 ∨ (s.loc t).pc = 1) :
    ((isDoneF s t k).loc t).pc = 1 ∨ ((isDoneF s t k).loc t).out = .bool true := by
  rcases hpc with h | h <;> simp [isDoneF, hj, h, hc, finish, goto, setLoc]
  split <;> simp

/-- Job numbers handed out by newJobID are never 0 or 1, fit 16 bits and are never the number of a
pending Job — for every table and every PRNG draw sequence. (0 = "cannot assign a Job ID": the loop
gives up after `idTries` = 512 draws even when free numbers exist; it cannot spin forever.) -/
theorem jobid_fresh (table : Nat → Option Nat) (draws : List Nat) :
    newJobID table draws = 0 ∨
    (2 ≤ newJobID table draws ∧ newJobID table draws < 65536 ∧ table (newJobID table draws) = none) :=
  (newJobIDGo_fresh table (draws.take idTries)).imp_right fun ⟨a, b, c⟩ => ⟨Nat.lt_of_le_of_lt facts_ok.2.1 a, b, c⟩

/-- **The SvResync gate** (`receiveSingle`, the consumer of `hasJob`): the settings an SvResync
packet carries are applied exactly while the Job it names is pending; a number that is not in the
table is ignored whatever it is — 0 and 1, which are never handed out, get no shortcut — and a
number `newJobID` is about to hand out is not yet accepted. The decision function is compared with
the real `receiveSingle` on every run (op `resync`). -/
theorem resync_only_for_pending (table : Nat → Option Nat) (id : Nat) :
    (resyncApplied table id = true ↔ ∃ r, table id = some r) ∧
    (table id = none → resyncApplied table id = false) := by
  unfold resyncApplied hasJob
  cases h : table id <;> simp

theorem resync_fresh_number_ignored (table : Nat → Option Nat) (draws : List Nat)
    (h : newJobID table draws ≠ 0) : resyncApplied table (newJobID table draws) = false := by
  rcases jobid_fresh table draws with h0 | ⟨_, _, hn⟩
  · exact absurd h0 h
  · exact (resync_only_for_pending table _).2 hn

/-- … and Task registers a Job only under a number that is not pending (check, queueing and
insert are one locked action), so a pending Job is never displaced from the table. -/
theorem task_never_displaces (s : St) (t id : Nat) (draws : List Nat) (wf : Bool) (i r : Nat)
    (ht : s.table i = some r) : (taskF s t id draws wf).table i = some r := by
  unfold taskF
  dsimp only
  split
  · -- pc 0, the draw of a number: locals only
    split
    · split
      · exact ht
      · split <;> exact ht
    · exact ht
  · -- pc 1, the locked region
    split
    · exact ht
    · split
      · exact ht
      · next hn =>
        split
        · exact ht
        · -- the registration writes at the number just found free, which is not `i`
          exact (if_neg fun e => by rw [e, hn] at ht; cases ht).trans ht
  · exact ht

/-- Exactly once, for ever: whatever runs after a Job is finished (any further schedule `more`:
late or duplicate results, repeated Cancel, accept, frag, new Tasks re-using the number …), its
channel stays closed, the close counter and the first finishing event do not change, and its
Status, Result and Error are frozen — nothing is ever attributed to a finished Job. -/
theorem finished_is_final (prog : List Kind) (sched more : List Nat) (r : Nat)
    (hr : r < (reach prog sched).nJobs) (hc : ((reach prog sched).jobs r).closed = true) :
    let a := (reach prog sched).jobs r
    let b := (reach prog (sched ++ more)).jobs r
    b.closed = true ∧ b.closes = 1 ∧ b.first = a.first ∧ b.status = a.status ∧ b.result = a.result ∧
    b.err = a.err ∧ b.id = a.id :=
  (good_of_prefix (inv_init prog) (List.prefix_append sched more)).final (reach_inv prog sched) hr hc

/-- No Job is ever lost: in every reachable state an unfinished Job is either pending in the table
under its own number (so a result or Cancel can still finish it) or a handle-thread that took it
out of the table is on its way to close it. -/
theorem never_orphaned (prog : List Kind) (sched : List Nat) (r : Nat) (hr : r < (reach prog sched).nJobs)
    (hc : ((reach prog sched).jobs r).closed = false) :
    (reach prog sched).table ((reach prog sched).jobs r).id = some r ∨
    ∃ t, ((reach prog sched).jobs r).owner = some t ∧ isResult prog t = true ∧
      2 ≤ ((reach prog sched).loc t).pc ∧ ((reach prog sched).loc t).pc ≤ 5 ∧
      ((reach prog sched).loc t).ref = some r :=
  (reach_inv prog sched).live_open hr hc

/-- … in particular, once every thread has returned each Job is either still pending or finished
(waiters released, out of the table): no Job is left half-finished. -/
theorem quiescent_jobs (prog : List Kind) (sched : List Nat)
    (hq : ∀ t, t < prog.length → ((reach prog sched).loc t).pc = fin) (r : Nat)
    (hr : r < (reach prog sched).nJobs) :
    (reach prog sched).table ((reach prog sched).jobs r).id = some r ∨
    ((reach prog sched).jobs r).closed = true :=
  (reach_inv prog sched).quiescent hq hr

/-- the hypothesis of `quiescent_jobs` is satisfiable: a run in which all three threads returned -/
example :
    let prog := [Kind.task 5 [] false, .result 5 true 0, .cancel 0]
    ∀ t, t < prog.length → ((reach prog [0, 0, 1, 1, 2, 1, 1, 2, 1, 1, 1]).loc t).pc = fin := by decide

/-- the double-close schedule of the unrepaired code (see `orig_double_close`) on the repaired code:
handle parked before its close, Cancel runs completely, handle closes. Status stays Completed. -/
example :
    let s := runF [.task 5 [] false, .result 5 false 0, .cancel 0] {} [0, 0, 1, 1, 1, 1, 2, 2, 1, 1]
    (s.loc 1).out = .handled ∧ (s.loc 2).out = .ret ∧ (s.jobs 0).closes = 1 ∧
    (s.jobs 0).status = stCompleted ∧ (s.jobs 0).first = some .completed ∧ s.table 5 = none := by decide

/-- Cancel first, then the result: ignored, status Canceled. -/
example :
    let s := runF [.task 5 [] false, .result 5 true 0, .cancel 0] {} [0, 0, 2, 2, 1, 1]
    (s.loc 1).out = .ignored ∧ (s.jobs 0).status = stCanceled ∧ (s.jobs 0).closes = 1 := by decide

/-- hypotheses of `result_recorded_in_own_job` / `never_orphaned` (second alternative): a handler
parked before its close owns Job 0, which is neither in the table nor finished. -/
example :
    let s := reach [.task 5 [] false, .result 5 false 0] [0, 0, 1, 1, 1, 1]
    (s.loc 1).pc = 5 ∧ (s.loc 1).ref = some 0 ∧ (s.jobs 0).owner = some 1 ∧ s.table 5 = none ∧
    (s.jobs 0).closed = false := by decide

/-- hypotheses of `finished_is_final`: Job 0 finished by an error result; a duplicate result, a
Cancel, an accept and a Task re-using the number run afterwards. -/
example :
    let prog := [Kind.task 5 [] false, .result 5 true 0, .result 5 false 0, .cancel 0, .accept 5, .task 5 [] false]
    let a := (reach prog [0, 0, 1, 1, 1, 1, 1, 1, 1]).jobs 0
    let b := (reach prog ([0, 0, 1, 1, 1, 1, 1, 1, 1] ++ [5, 5, 2, 2, 2, 2, 2, 2, 3, 3, 4, 4])).jobs 0
    a.closed = true ∧ a.status = stError ∧ b.status = stError ∧ b.result = some 0 ∧ b.closes = 1 := by decide

/-! ### negations: the defects of the unrepaired code, each on a concrete schedule

`stepO false` is the code before all repairs. Every schedule below is replayed on the real code
from corpus/C14 (as a label script) on every run. -/

/-- Cancel of a pending Job left Status = Waiting (never Canceled). -/
theorem orig_cancel_status_waiting :
    let s := runO false [.task 5 [] false, .cancel 0] {} [0, 0, 0, 0, 1, 1, 1]
    (s.jobs 0).closed = true ∧ (s.jobs 0).first = some .canceled ∧ (s.jobs 0).status = stWaiting := by
  decide

/-- Double close: handle stores Status=Completed and tests `j.done != nil`; Cancel sees
Status ≥ Completed and closes; handle closes again → panic "close of closed channel". -/
theorem orig_double_close :
    ∃ sched, ((runO false [.task 5 [] false, .result 5 false 0, .cancel 0] {} sched).loc 1).out = .panicClosed :=
  ⟨[0, 0, 0, 0, 1, 1, 1, 1, 1, 2, 2, 2, 2, 1], by decide⟩

/-- close(nil) while holding the session lock: Cancel passes its unlocked checks, handle completes
the Job (done = nil), Cancel takes the lock, finds the Job gone and closes the nil field: panic with
the lock held — every later locked access of the session blocks forever. -/
theorem orig_close_nil_under_lock :
    ∃ sched, let s := runO false [.task 5 [] false, .result 5 false 0, .cancel 0] {} sched
      (s.loc 2).out = .panicNil ∧ s.lockHeld = true :=
  ⟨[0, 0, 0, 0, 2, 2, 1, 1, 1, 1, 1, 1, 1, 2], by decide⟩

/-- A completion racing a cancellation overwrites the status: Cancel finishes the Job first
(waiters released by Cancel), the handler that had already looked the Job up then stores Completed. -/
theorem orig_status_overwritten :
    ∃ sched, let s := runO true [.task 5 [] false, .result 5 false 0, .cancel 0] {} sched
      (s.jobs 0).first = some .canceled ∧ (s.jobs 0).status = stCompleted ∧ (s.jobs 0).closes = 1 :=
  ⟨[0, 0, 0, 0, 1, 1, 2, 2, 2, 1, 1, 1], by decide⟩

/-- Task queued the packet before it registered the Job: a fast result finds no Job and is dropped,
the Job then waits forever. -/
theorem orig_result_before_registration :
    ∃ sched, let s := runO true [.task 5 [] false, .task 7 [] false, .result 7 false 1] {} sched
      s.pub = [5, 7] ∧ (s.loc 2).out = .ignored ∧ s.table 7 = some 1 ∧ (s.jobs 1).closed = false :=
  ⟨[0, 0, 0, 0, 1, 1, 1, 2, 2, 1], by decide⟩

/-- Two Tasks with the same number both pass the duplicate check; the second insert displaces the
first Job, which can then never be finished. -/
theorem orig_task_displaces_pending :
    ∃ sched, let s := runO true [.task 5 [] false, .task 5 [] false] {} sched
      (s.loc 0).out = .job 0 ∧ (s.loc 1).out = .job 1 ∧ s.table 5 = some 1 ∧ (s.jobs 0).closed = false :=
  ⟨[0, 0, 1, 1, 0, 0, 1, 1], by decide⟩

/-- accept raced a completion: the finished Job ends with Status = Accepted. -/
theorem orig_accept_overwrites_final_status :
    ∃ sched, let s := runO true [.task 5 [] false, .result 5 false 0, .accept 5] {} sched
      (s.jobs 0).closed = true ∧ (s.jobs 0).first = some .completed ∧ (s.jobs 0).status = stAccepted :=
  ⟨[0, 0, 0, 0, 2, 2, 1, 1, 1, 1, 1, 1, 1, 2], by decide⟩

/-- Wait read `j.done` twice: non-nil at the test, nil at the receive → blocked forever on a
finished Job (the step of the waiting thread is the identity on the state, so it stays blocked
however often it is scheduled; no other thread is left to run). -/
theorem orig_wait_blocks_after_finish :
    ∃ sched, let prog := [.task 5 [] false, .result 5 false 0, .wait 0]
      let s := runO true prog {} sched
      (s.jobs 0).closed = true ∧ (s.loc 0).pc = fin ∧ (s.loc 1).pc = fin ∧ (s.loc 2).pc = 1 ∧
      stepO true prog s 2 = s := by
  -- a waiter at its receive does not move while the `done` field of its Job is nil
  have stuck : ∀ s : St, jobOf s 0 = some (some 0) → (s.jobs 0).doneNil = true → (s.loc 2).pc = 1 →
      stepO true [.task 5 [] false, .result 5 false 0, .wait 0] s 2 = s := fun s hj hn hp => by
    simp [stepO, stepKO, waitO, hj, hn, hp]
  exact ⟨[0, 0, 0, 0, 2, 1, 1, 1, 1, 1, 1, 1], by decide, by decide, by decide, by decide,
    stuck _ (by decide) (by decide) (by decide)⟩

/-- IsDone read `j.done` twice: called after the Job was finished (channel closed, field not yet
nil) it passes the nil test, the handler then stores nil, and the `select` on the re-read nil field
falls to `default`: false for a Job that was finished before the call began. -/
theorem orig_isDone_false_after_finish :
    let prog := [.task 5 [] false, .result 5 false 0, .isDone 0]
    let s1 := runO true prog {} [0, 0, 0, 0, 1, 1, 1, 1, 1, 1]
    let s2 := runO true prog s1 [2, 1, 2]
    (s1.jobs 0).closed = true ∧ (s1.loc 2).pc = 0 ∧ (s2.loc 2).out = .bool false := by decide

/-! ### recorded finding (not repaired): stale result after the number is handed out again

Results are matched by the 16-bit number only. After Job #0 (number 7) is cancelled the number is
free, a second Task may get it (explicitly or from newJobID), and the late result of the first Task
is then recorded in the second Job. This holds for the repaired code as well (protocol limit). -/
theorem stale_result_after_id_reuse :
    let s := runF [.task 7 [] false, .cancel 0, .task 7 [] false, .result 7 false 0] {} [0, 0, 1, 1, 2, 2, 3, 3, 3, 3, 3, 3, 3]
    (s.jobs 0).status = stCanceled ∧ (s.loc 2).out = .job 1 ∧ (s.jobs 1).result = some 0 ∧
    (s.jobs 1).status = stCompleted := by decide

/-! ## Sub-steps of the locked regions as seen by lock-free readers (model XMT/JobSub.lean)

`Job.Cancel`'s locked region is five single writes (`jobs[ID] = nil`, `delete`, `Status = Canceled`,
`close(done)`, `done = nil`), `Session.frag`'s two; `Wait`, `IsDone`, `IsError` and the reads of
`Status` / `Result` / `Error` that follow them are threads whose every single read can fall between
any two of those writes (and between the unlocked stores of `handle`). `prog : List KindS` is ANY
set of threads, `sched` ANY schedule; nothing is bounded. Memory is sequentially consistent (what
the schedule replay executes); the order of Cancel's writes is the list `cancelActs`, which is
compared with the order regenerated from the source (`sub_order_tie`). -/

section SubSteps
open XMT.JobSub

abbrev reachS (prog : List KindS) (sched : List Nat) : StS := runS prog {} sched

theorem sub_reach_inv (prog : List KindS) (sched : List Nat) : InvS prog (reachS prog sched) :=
  inv_runS prog sched {} (invS_init prog)

/-- **Tie of the write ORDER.** The sequence of shared-memory writes inside Cancel's locked region
(the list the model's step function interprets), of handle's job-finishing block, of accept and of
frag is the sequence regenerated from c2/job.go and c2/session_no_implant.go by go/parser. Swapping
`close(j.done)` and `j.Status = …` in the source breaks this obligation even if no sampled schedule
exposes the difference. -/
theorem sub_order_tie :
    Facts.c14sCancelOrder = cancelActs.map CAct.name ∧ Facts.c14sHandleOrder = handleActs ∧
    Facts.c14sAcceptOrder = acceptActs ∧ Facts.c14sFragOrder = fragActs := by decide

/-- Nothing panics at sub-step granularity either (readers included: they only read), and the session
lock is only ever held by a Cancel or frag thread that is inside its region — never by a thread that
has returned or died. -/
theorem sub_no_panic (prog : List KindS) (sched : List Nat) (t : Nat) :
    ((reachS prog sched).loc t).out.isPanic = false ∧
    ((reachS prog sched).lock = some t → ((reachS prog sched).loc t).pc ≠ fin) := by
  have h := sub_reach_inv prog sched
  exact ⟨Out.isPanic_eq_false.2 (h.noPanic t), h.lock_ne_fin⟩

/-- **In EVERY state between two single writes** — also inside Cancel's locked region — a Job whose
done channel is closed has the Status of the event that closed it, was closed exactly once, holds the
Result / Error of that event (none for Cancel), and a `done` field that is nil belongs to a closed
channel. So there is no instant at which a lock-free reader can find the waiters released and the
Status not final. -/
theorem sub_released_with_final_status (prog : List KindS) (sched : List Nat) (r : Nat)
    (hr : r < (reachS prog sched).nJobs) :
    let j := (reachS prog sched).jobs r
    (j.doneNil = true → j.closed = true) ∧
    (j.closed = true → j.closes = 1 ∧ ∃ e, j.first = some e ∧ j.status = e.status ∧
      (e = .canceled → j.result = none ∧ j.err = false) ∧ (e = .error → j.err = true) ∧
      (e = .completed → j.err = false)) := by
  have h := (sub_reach_inv prog sched).jobs r hr
  refine ⟨h.closed_of_doneNil, fun hc => ?_⟩
  obtain ⟨h1, e, h2, h3, h4, h5, h6⟩ := h.of_closed hc
  exact ⟨h1, e, h2, h3, h4, fun x => (h5 x).2, fun x => (h6 x).2⟩

/-- Exactly once, for ever, at sub-step granularity: whatever single actions run after the channel of
a Job was closed, its Status, Result, Error and first finishing event never change. -/
theorem sub_finished_is_final (prog : List KindS) (sched more : List Nat) (r : Nat)
    (hr : r < (reachS prog sched).nJobs) (hc : ((reachS prog sched).jobs r).closed = true) :
    let a := (reachS prog sched).jobs r
    let b := (reachS prog (sched ++ more)).jobs r
    b.closed = true ∧ b.status = a.status ∧ b.result = a.result ∧ b.err = a.err ∧
    (∀ e, a.first = some e → b.first = some e) := by
  have le := (monoS_of_prefix (invS_init prog) (List.prefix_append sched more)).jobLe hr
  obtain ⟨fs, fr, fe⟩ := le.frozen hc
  exact ⟨le.closed hc, fs, fr, fe, fun _ => le.first⟩

/-- **A reader that observed 'done' observes the final Status.** In every reachable state, whatever
a reader thread (`j.Wait()` returned, or `j.IsDone()` said true) has read from `j.Status` is the
Status of the event that released the waiters — Completed / Error / Canceled, never Waiting, Accepted
or Receiving — and it is what the Job holds now (and for ever: `sub_finished_is_final`). -/
theorem reader_sees_final_status (prog : List KindS) (sched : List Nat) (t k r v : Nat)
    (hk : isReader prog t k) (hj : jobOf (reachS prog sched) k = some (some r))
    (hv : ((reachS prog sched).loc t).oSt = some v) :
    ∃ e, ((reachS prog sched).jobs r).first = some e ∧ v = e.status ∧
      ((reachS prog sched).jobs r).status = v ∧ ((reachS prog sched).jobs r).closed = true ∧
      v ≠ stWaiting ∧ v ≠ stAccepted ∧ v ≠ stReceiving :=
  (sub_reach_inv prog sched).reader_status hk hj hv

/-- … and the Result it reads is the Job's final Result, which — when there is one — is the packet of
a handle-thread whose packet carried exactly this Job's number (never a result of another Job); a
cancelled Job has none. -/
theorem reader_sees_own_result (prog : List KindS) (sched : List Nat) (t k r : Nat) (x : Option Nat)
    (hk : isReader prog t k) (hj : jobOf (reachS prog sched) k = some (some r))
    (hv : ((reachS prog sched).loc t).oRes = some x) :
    x = ((reachS prog sched).jobs r).result ∧ ((reachS prog sched).jobs r).closed = true ∧
    (((reachS prog sched).jobs r).first = some .canceled → x = none) ∧
    (∀ g, x = some g → ∃ (t' : Nat) (ef : Bool), prog[t']? = some (KindS.result ((reachS prog sched).jobs r).id ef g)) :=
  (sub_reach_inv prog sched).reader_result hk hj hv

/-- `IsError` (and the Error read of the other readers) is exact: after 'done' was observed, the
Error a reader sees is non-empty iff the Job was finished by an error-flagged result. -/
theorem reader_error_iff_error_event (prog : List KindS) (sched : List Nat) (t k r : Nat) (b : Bool)
    (hk : isReader prog t k) (hj : jobOf (reachS prog sched) k = some (some r))
    (hv : ((reachS prog sched).loc t).oErr = some b) :
    (b = true ↔ ((reachS prog sched).jobs r).first = some .error) :=
  (sub_reach_inv prog sched).reader_err hk hj hv

/-- A reader that is past its done-test (between `Wait` returning / `IsDone` answering true and its
last read) reads a Job whose channel IS closed: 'done' is never reported early, whichever writes of
Cancel or handle the test fell between. -/
theorem reader_done_means_closed (prog : List KindS) (sched : List Nat) (t k r : Nat)
    (hk : isReader prog t k) (hj : jobOf (reachS prog sched) k = some (some r))
    (h2 : 2 ≤ ((reachS prog sched).loc t).pc) (h4 : ((reachS prog sched).loc t).pc ≤ 4) :
    ((reachS prog sched).jobs r).closed = true :=
  ((sub_reach_inv prog sched).rd t k hk).closed hj h2 h4

/-- Wait never blocks on a finished Job at sub-step granularity: both actions of `Wait` (the one read
of `j.done`, the receive from the channel read) make progress once the channel is closed — the
receive is never on a nil channel because the field is read once. -/
theorem sub_no_block_after_finish (s : StS) (t k r : Nat) (hj : jobOf s k = some (some r))
    (hc : (s.jobs r).closed = true) (hpc : (s.loc t).pc = 0 ∨ (s.loc t).pc = 1) :
    ((waitRdS s t k).loc t).pc ≠ (s.loc t).pc := by
  rcases hpc with h | h
  · simp [waitRdS, hj, h, JobSub.goto, JobSub.setLoc]
    split <;> simp
  · simp [waitRdS, hj, h, hc, JobSub.goto, JobSub.setLoc]

/-- non-vacuity: a waiter parked in `Wait`, Cancel executed write by write with the waiter scheduled
between every two writes: the waiter stays blocked until the close, then reads Canceled / no Result /
no Error; the lock is free at the end. -/
example :
    let prog := [KindS.task 5 [] false, .cancel 0, .waitRd 0]
    let s := reachS prog [0, 0, 2, 1, 2, 1, 2, 1, 2, 1, 2, 1, 2, 1, 2, 1, 2, 2, 2]
    jobOf s 0 = some (some 0) ∧ (s.loc 2).oSt = some stCanceled ∧
    (s.loc 2).oRes = some none ∧ (s.loc 2).oErr = some false ∧ (s.loc 2).pc = fin ∧ s.lock = none ∧
    (s.jobs 0).first = some .canceled := by decide

example : isReader [KindS.task 5 [] false, .cancel 0, .waitRd 0] 2 0 := Or.inl rfl

/-- non-vacuity of `reader_done_means_closed` / `sub_no_panic` (second part): the Cancel thread is
parked inside its region after the close (holding the lock), the reader is between its reads. -/
example :
    let prog := [KindS.task 5 [] false, .cancel 0, .doneRd 0]
    let s := reachS prog [0, 0, 1, 1, 1, 1, 1, 1, 2, 2, 2]
    s.lock = some 1 ∧ (s.loc 1).pc = 6 ∧ (s.loc 2).pc = 3 ∧ (s.loc 2).oSt = some stCanceled ∧
    (s.jobs 0).closed = true ∧ (s.jobs 0).doneNil = false := by decide

/-- an error-flagged result, reader `IsError` after the close and before `done = nil` -/
example :
    let prog := [KindS.task 5 [] false, .result 5 true 7, .isError 0]
    let s := reachS prog [0, 0, 1, 1, 1, 1, 1, 1, 1, 2, 2, 2, 1]
    (s.loc 2).out = .bool true ∧ (s.loc 2).oErr = some true ∧ (s.jobs 0).first = some .error ∧
    (s.jobs 0).result = some 7 := by decide

/-! ### negation: the write order before the repair `fix: Job.Cancel stores StatusCanceled before it
releases the waiters` (`cancelActsO`: close, then `Status, done = Canceled, nil`) -/

/-- Cancel released the waiters BEFORE it stored the Status: a waiter parked in `Wait` is released by
the close, reads `j.Status` and gets Waiting — the Status of a Job that is not finished — although
`Wait` has returned; the Job then ends Canceled. Replayed on the real code by the corpus of
c14_s3_sub.go (`T:5:0:-,C:0,w:0  0@end,2@W2,1@Cs,2@end,1@end`). -/
theorem orig_cancel_releases_before_status :
    let prog := [KindS.task 5 [] false, .cancel 0, .waitRd 0]
    let s := runSO prog {} [0, 0, 2, 1, 1, 1, 1, 1, 2, 2, 1, 2, 2]
    (s.loc 2).oSt = some stWaiting ∧ (s.loc 2).pc = fin ∧ (s.jobs 0).status = stCanceled ∧
    (s.jobs 0).first = some .canceled := by decide

/-- … and IsDone likewise: true, then Status = Accepted (an `accept` had run before). -/
theorem orig_isDone_true_status_not_final :
    let prog := [KindS.task 5 [] false, .accept 5, .cancel 0, .doneRd 0]
    let s := runSO prog {} [0, 0, 1, 1, 2, 2, 2, 2, 2, 3, 3, 3, 2, 3, 3]
    (s.loc 3).out = .bool true ∧ (s.loc 3).oSt = some stAccepted ∧ (s.jobs 0).status = stCanceled := by decide

/-- the same schedules on the repaired order: the waiter is still blocked when the Status is stored -/
example :
    let prog := [KindS.task 5 [] false, .cancel 0, .waitRd 0]
    let s := reachS prog [0, 0, 2, 1, 1, 1, 1, 1, 2, 2, 1, 2, 2, 1, 2, 2, 2]
    (s.loc 2).oSt = some stCanceled ∧ (s.loc 2).pc = fin := by decide

/-- Scope of the reader guarantees: they are for readers that test 'done' first. A thread that polls
`j.Status` alone sees `handle`'s two stores for an error-flagged result one after the other:
Completed (a final-looking value) while the Job is not finished, then Error. Not repaired (the
contract of the API is `Wait` / `IsDone` first); recorded here so that nobody reads
`reader_sees_final_status` as a statement about bare Status polls. -/
theorem status_poll_sees_completed_before_error :
    let prog := [KindS.task 5 [] false, .result 5 true 0]
    let a := reachS prog [0, 0, 1, 1, 1]
    let b := reachS prog [0, 0, 1, 1, 1, 1, 1, 1, 1, 1]
    (a.jobs 0).status = stCompleted ∧ (a.jobs 0).closed = false ∧
    (b.jobs 0).status = stError ∧ (b.jobs 0).first = some .error := by decide

/-! ### beyond sequential consistency: which earlier values an unsynchronised read may return

All stores to `j.Status` / `j.Result` / `j.Error` of one Job are ordered by happens-before (they are
made under the session lock while the Job is in the table, or by the one thread that took it out), so
under the Go memory model a read may return the value of any of those stores that is not
happens-before-overwritten: in terms of the sequentially consistent run `sched`, the value the field
had after SOME prefix `sched.take m`, where `m` is not before the reader's last synchronisation.
A receive from the closed channel synchronises with the close (`m ≥` the prefix that closed it);
a reader that returned because its plain read of `j.done` saw nil has synchronised with nothing
since `Task` returned the Job. -/

/-- **Synchronised path.** Whatever prefix at or after the close of the channel a read takes its value
from, it is the final Status / Result / Error: a reader released by `<-d` (or told true by the
`select` of IsDone) sees the final values under the Go memory model too, not only under sequential
consistency. -/
theorem sync_read_sees_final (prog : List KindS) (sched : List Nat) (m0 m r : Nat) (hm : m0 ≤ m)
    (hr : r < (reachS prog (sched.take m0)).nJobs)
    (hc : ((reachS prog (sched.take m0)).jobs r).closed = true) :
    ((reachS prog (sched.take m)).jobs r).status = ((reachS prog sched).jobs r).status ∧
    ((reachS prog (sched.take m)).jobs r).result = ((reachS prog sched).jobs r).result ∧
    ((reachS prog (sched.take m)).jobs r).err = ((reachS prog sched).jobs r).err := by
  -- both the prefix the read takes its value from and the whole schedule extend the prefix that closed the channel
  have a := ((monoS_of_prefix (invS_init prog) (List.take_prefix_take_left hm)).jobLe hr).frozen hc
  have b := ((monoS_of_prefix (invS_init prog) (List.take_prefix m0 sched)).jobLe hr).frozen hc
  exact ⟨a.1.trans b.1.symm, a.2.1.trans b.2.1.symm, a.2.2.trans b.2.2.symm⟩

/-- **Unsynchronised (nil) path: OPEN, with witness.** `handle` finishes the Job (prefix 10: Status
Completed, channel closed, `done = nil`); a reader then calls `Wait`, its plain read of `j.done` sees
nil and `Wait` returns without any synchronisation; the value of `j.Status` after prefix 2 (right
after `Task` returned the Job: Waiting) is one the Go memory model allows for its next read. Under
sequential consistency — and on the real hardware the replay runs on — the read returns Completed
(`reader_sees_final_status`). -/
theorem nil_path_allows_stale_status :
    let prog := [KindS.task 5 [] false, .result 5 false 0, .waitRd 0]
    let sched := [0, 0, 1, 1, 1, 1, 1, 1, 2]
    ((reachS prog (sched.take 8)).jobs 0).doneNil = true ∧           -- the reader's read of j.done sees nil
    ((reachS prog sched).loc 2).pc = 2 ∧                              -- Wait has returned, via the nil test
    ((reachS prog (sched.take 2)).jobs 0).status = stWaiting ∧       -- an allowed (stale) value …   
    ((reachS prog sched).jobs 0).status = stCompleted := by decide   -- … the final one

end SubSteps

/-- `count` (the model of `len(s.jobs)`, which `handle` / `accept` / `frag` read WITHOUT the lock) is the
number of keys of the pending table in every reachable state of the coarse model … -/
theorem count_is_table_size (prog : List Kind) (sched : List Nat) :
    CountIs (reach prog sched).table (reach prog sched).count :=
  countIs_runF prog sched {} (inv_init prog) countIs_empty

/-- … so the unlocked `len(s.jobs) == 0` guard never drops the result of a pending Job: while a Job is
in the table the count is not 0, and a handle-thread for its number (≥ 2) passes the guard and goes
on to the locked lookup. -/
theorem guard_never_drops_pending (prog : List Kind) (sched : List Nat) (t id r : Nat) (ef : Bool) (tag : Nat)
    (ht : (reach prog sched).table id = some r) :
    (reach prog sched).count ≠ 0 ∧
    (2 ≤ id → ((reach prog sched).loc t).pc = 0 →
      ((resultF (reach prog sched) t id ef tag).loc t).pc = 1 ∧
      ((resultF (reach prog sched) t id ef tag).loc t).out = ((reach prog sched).loc t).out) := by
  have hne := countIs_ne_zero (count_is_table_size prog sched) ht
  refine ⟨hne, ?_⟩
  intro h2 hpc
  have hm : ¬ id < handleMin := by have := facts_ok.2.2.1; omega
  simp [resultF, hpc, hm, hne, goto, setLoc]

/-- the same for the sub-step model: also between the single writes of Cancel's locked region
(`delete` changes the table and the count in one write) -/
theorem sub_count_is_table_size (prog : List JobSub.KindS) (sched : List Nat) :
    CountIs (JobSub.runS prog {} sched).table (JobSub.runS prog {} sched).count :=
  JobSub.countIs_runS prog sched {} (JobSub.invS_init prog) countIs_empty

/-- non-vacuity of `guard_never_drops_pending` -/
example :
    let s := reach [.task 5 [] false, .result 5 false 0] [0, 0]
    s.table 5 = some 0 ∧ (s.loc 1).pc = 0 ∧ s.count = 1 := by decide

/-- `Task` registers whatever number the caller put into the packet (the code has no guard; only
`newJobID` avoids 0 and 1 — `jobid_fresh`). A Job registered
under 1 is a normal pending Job for `Cancel`, but `handle` drops every result numbered below 2 before
it looks at the table (`low_numbers_ignored`), so such a Job can only be finished by `Cancel`. The
property's "never 0 or 1" clause is about numbers handed out, which is what is proved; this witness
pins down what happens otherwise (c2 itself uses Job 1 only for SvShutdown packets, never via Task). -/
theorem caller_supplied_one_only_cancel :
    let prog := [Kind.task 1 [] false, .result 1 false 0, .cancel 0]
    let a := reach prog [0, 0, 1, 1, 1]
    let b := reach prog [0, 0, 1, 1, 1, 2, 2]
    (a.loc 1).out = .ignored ∧ a.table 1 = some 0 ∧ (a.jobs 0).closed = false ∧
    (b.jobs 0).status = stCanceled ∧ (b.jobs 0).closed = true ∧ b.table 1 = none := by decide

-- OPEN: attribution across number reuse. Full statement: "a result meant for the Job created by
-- Task k is never recorded in a Job created by another Task". False as stated (see
-- `stale_result_after_id_reuse`); what is proved is `result_recorded_in_own_job` (attribution by
-- number is exact) together with `foreign_results_ignored`.

end XMT.Props.C14
