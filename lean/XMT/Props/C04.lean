/-
  C04 — No bytes from the network can crash a listener or make it allocate without bound.
  Property theorems only; models in XMT/Decode.lean, DecodeDns.lean, DecodeStream.lean (decoders) and
  XMT/Dispatch.lean (the arms of conn.process / handle / receive); lemmas in XMT/DecodeSlice.lean →
  DecodeLemmas.lean → DecodeSafe.lean (`Safe`, from which the `*_total_alloc` of every decoder of
  XMT.Decode follows by `safe_total_bounded`), XMT/PacketAlloc.lean (top-level wire form), XMT/DispatchLemmas.lean,
  XMT/CbkHostile.lean and XMT/FragHostile.lean (readers and dispatcher with state across packets).

  Shape per decoder `d`: for EVERY byte string `bs` (not longer than `MaxSlice`, the largest Chunk the
  code can hold) `run d bs` is neither `panic` nor `hang`, and the bytes it requests from the
  allocator are at most `K·|bs| + B` with the constants spelled out.

  `panic` covers a refused `make` AND every index / reslice expression on the buffer: in the models
  `c.buf[c.rpos+i]`, `c.buf[c.rpos : c.rpos+l]`, `c.buf[c.rpos:]`, `c.rpos += n` (XMT.Decode: `idxP`,
  `sliceP`, `sliceFromP`, `advanceP`), `b[s]`, `b[s : s+i]`, `b[i:]` (XMT.DecodeDns: `idx`, `sliceP`,
  `sliceFromP`) and `b[:n]` of the stream reader (XMT.DecodeStream: `prefixP`) panic out of range as Go
  does.  The proofs discharge each bound from the guard the Go code puts in front of the expression
  (XMT/DecodeSlice.lean); the same decoders without the guard panic (`*_guard_needed` below,
  XMT/DecodeGuardsMatter.lean).
-/
import XMT.DecodeSafe
import XMT.DecodeDns
import XMT.DecodeStream
import XMT.DecodeGuardsMatter
import XMT.FragHostile
import XMT.PacketAlloc
import XMT.CbkHostile
import XMT.DispatchLemmas

namespace XMT.Props.C04
open XMT.Decode

/-- what "safe on every input" means for a decoder run from a fresh state -/
def TotalAndBounded {α : Type} (d : D α) (K B : Nat) : Prop :=
  ∀ bs : Bytes, bs.length ≤ Facts.maxSlice →
    (run d bs).isPanic = false ∧ (run d bs).isHang = false ∧ (run d bs).alloc ≤ K * bs.length + B

/-- composition: a `Safe` decoder is total and proportional from the empty state -/
theorem safe_total_bounded {α : Type} {K M B E : Nat} {d : D α} (h : Safe K M B E d) :
    TotalAndBounded d (K + M) (B + E) :=
  fun _ hb => h.total hb

/-- handlers compose: running one safe decoder after another (on what the first left) is safe, the
constants add up; a counted loop of a safe body costs nothing extra -/
theorem handler_compose {α β : Type} {K M1 B1 E1 M2 B2 E2 : Nat} {d : D α} {f : α → D β}
    (h1 : Safe K M1 B1 E1 d) (h2 : ∀ a, Safe K M2 B2 E2 (f a)) :
    TotalAndBounded (d >>= f) (K + (M1 + M2)) (B1 + B2 + max E1 E2) :=
  safe_total_bounded (safe_bind h1 h2)

theorem loop_compose {α : Type} {K E : Nat} {d : D α} (h : Safe K 0 0 E d) (n : Nat) :
    TotalAndBounded (rep n d) K E := by
  simpa using safe_total_bounded (safe_rep0 h n)

/-! ### data layer (in-memory reader) -/

/-- `(*Chunk).Bytes()`: no input makes the reslice `c.buf[c.rpos : c.rpos+l]` (or any index read of the
header) leave the buffer, nothing is allocated -/
theorem bytes_total_alloc : TotalAndBounded bytes 1 0 :=
  safe_total_bounded (safe_bytes (K := 1) (Nat.le_refl 1))

theorem str_total_alloc : TotalAndBounded str 1 0 :=
  safe_total_bounded (safe_str (K := 1) (Nat.le_refl 1))

/-- the two theorems above rest on the guards of `Bytes()`: the same decoder with its length guards
deleted is NOT total for any constants (it panics on a 3-byte input), and neither is the one that
only lost `if n := c.Size(); n < c.rpos+int(l)` -/
theorem bytes_guard_needed (K B : Nat) :
    ¬ TotalAndBounded GuardsMatter.bytesBad K B ∧ ¬ TotalAndBounded GuardsMatter.bytesNoShortGuard K B ∧
    ¬ TotalAndBounded GuardsMatter.strBad K B :=
  ⟨fun h => Bool.false_ne_true ((h [1, 5, 65] (by decide)).1.symm.trans GuardsMatter.bytesBad_panics_short),
    fun h => Bool.false_ne_true ((h [1, 5, 65] (by decide)).1.symm.trans GuardsMatter.bytesNoShortGuard_panics),
    fun h => Bool.false_ne_true ((h [1, 5, 65] (by decide)).1.symm.trans GuardsMatter.strBad_panics)⟩

/-- the primitive reads rest on `checkBounds` -/
theorem checkBounds_guard_needed (K B : Nat) :
    ¬ TotalAndBounded GuardsMatter.u8rBad K B ∧ ¬ TotalAndBounded GuardsMatter.u16rBad K B :=
  ⟨fun h => Bool.false_ne_true ((h [] (by decide)).1.symm.trans GuardsMatter.u8rBad_panics),
    fun h => Bool.false_ne_true ((h [1] (by decide)).1.symm.trans GuardsMatter.u16rBad_panics)⟩

/-- `data.ReadStringList` (after the fix): total, at most 129 bytes requested per byte received -/
theorem strList_total_alloc : TotalAndBounded strList 129 0 :=
  safe_total_bounded (safe_strList (K := 129) (Nat.le_refl _))

/-- the code before the fix: a 9-byte message whose count makes `make` panic, and a 5-byte message
that requests 64 GiB -/
theorem strListOld_panics : (run strListOld [7, 0x10, 0, 0, 0, 0, 0, 0, 0]).isPanic = true := by
  decide
theorem strListOld_alloc_unbounded :
    (run strListOld [5, 0xFF, 0xFF, 0xFF, 0xFF]).alloc = 16 * (2 ^ 32 - 1) := by
  decide

/-! ### registration / device info -/

theorem readDeviceInfo_total_alloc (t : Nat) : TotalAndBounded (readDeviceInfo t) 1 bDevInfo :=
  safe_total_bounded (safe_readDeviceInfo (K := 1) (Nat.le_refl 1) t)

theorem readProxyData_total_alloc (f : Bool) : TotalAndBounded (readProxyData f) 1 bProxy :=
  safe_total_bounded (safe_readProxyData (K := 1) (Nat.le_refl 1) f)

theorem bDevInfo_value : bDevInfo = 1066928 ∧ bProxy = 14280 := by decide

/-! ### batched packets -/

/-- one nested packet: the tag table (≤ 65535 × 4 bytes) is the only request sized by the peer
without a check; it is paid back when the tags are really there (`K = 2`) and is a one-off
constant when they are not (the unpack loop stops at the first error) -/
theorem unmarshalStream_total_alloc : TotalAndBounded unmarshalStream 2 bTags :=
  safe_total_bounded (safe_unmarshalStream (K := 2) (Nat.le_refl 2))

/-- the unpack loop of `receive` / `processMultiple`: ANY count of nested packets — the constant
does not grow with the count -/
theorem unpackLoop_total_alloc (x : Nat) : TotalAndBounded (rep x unmarshalStream) 2 bTags :=
  loop_compose (safe_unmarshalStream (Nat.le_refl 2)) x

/-! ### exported result decoders -/

theorem rPwd_total_alloc (fl : Nat) : TotalAndBounded (rPwd fl) 1 0 :=
  safe_total_bounded (safe_reads (Nat.le_refl 1) [.guard fl, .str])
theorem rSpawn_total_alloc (fl : Nat) : TotalAndBounded (rSpawn fl) 1 0 :=
  safe_total_bounded (safe_reads (Nat.le_refl 1) [.guard fl, .u32])
theorem rBool_total_alloc (fl : Nat) : TotalAndBounded (rBool fl) 1 0 :=
  safe_total_bounded (safe_reads (Nat.le_refl 1) [.guard fl, .bool])
theorem rMounts_total_alloc (fl : Nat) : TotalAndBounded (rMounts fl) 129 0 :=
  safe_total_bounded (safe_rMounts fl)
theorem rUpload_total_alloc (fl : Nat) : TotalAndBounded (rUpload fl) 1 0 :=
  safe_total_bounded (safe_reads (Nat.le_refl 1) [.guard fl, .str, .u64])
theorem rWhoami_total_alloc (fl : Nat) : TotalAndBounded (rWhoami fl) 1 0 :=
  safe_total_bounded (safe_reads (Nat.le_refl 1) [.guard fl, .str, .str])
theorem rPull_total_alloc (fl : Nat) : TotalAndBounded (rPull fl) 1 0 :=
  safe_total_bounded (safe_reads (Nat.le_refl 1) [.guard fl, .str, .u64])
theorem rAssembly_total_alloc (fl : Nat) : TotalAndBounded (rAssembly fl) 1 0 :=
  safe_total_bounded (safe_reads (Nat.le_refl 1) [.guard fl, .u64, .u32, .u32])
theorem rProcess_total_alloc (fl : Nat) : TotalAndBounded (rProcess fl) 1 0 :=
  safe_total_bounded (safe_reads (Nat.le_refl 1) [.guard fl, .u32, .u32])
theorem rDownload_total_alloc (fl : Nat) : TotalAndBounded (rDownload fl) 1 0 :=
  safe_total_bounded (safe_reads (Nat.le_refl 1) [.guard fl, .str, .bool, .u64])
theorem rSystemIO_total_alloc (fl : Nat) : TotalAndBounded (rSystemIO fl) 1 0 :=
  safe_total_bounded (safe_rSystemIO fl)
theorem rLs_total_alloc (fl : Nat) : TotalAndBounded (rLs fl) (kLs + Facts.c04_sizeofInterface) 0 :=
  safe_total_bounded (safe_rLs fl)
theorem rWindowList_total_alloc (fl : Nat) :
    TotalAndBounded (rWindowList fl) (1 + Facts.c04_sizeofWindow) 0 :=
  safe_total_bounded (safe_rWindowList fl)
theorem rFuncRemapList_total_alloc (fl : Nat) :
    TotalAndBounded (rFuncRemapList fl) (1 + Facts.c04_sizeofFuncEntry) 0 :=
  safe_total_bounded (safe_rFuncRemapList fl)
theorem rProcessList_total_alloc (fl : Nat) :
    TotalAndBounded (rProcessList fl) (1 + Facts.c04_sizeofProcessInfo) 0 :=
  safe_total_bounded (safe_rProcessList fl)
theorem rRegistry_total_alloc (fl : Nat) :
    TotalAndBounded (rRegistry fl) (1 + Facts.c04_sizeofRegEntry) 0 :=
  safe_total_bounded (safe_rRegistry fl)
theorem rUserLogins_total_alloc (fl : Nat) : TotalAndBounded (rUserLogins fl) 1 bLogins :=
  safe_total_bounded (safe_rUserLogins fl)

/-- `result.Script`: any number of rounds; the one Packet allocated by the round that hits the end
of the data is the constant -/
theorem rScript_total_alloc (fl : Nat) : TotalAndBounded (rScript fl) kScript Facts.c04_sizeofPacket :=
  safe_total_bounded (safe_rScript fl)

/-! ### connection handler: channel or close -/

/-- whatever the flags of the received Packet and of the reply, and whether or not the peer is a
registered client, the end of `handle` never dereferences a missing Session -/
theorem handleSwitch_total (host : Option Bool) (nChan nextChan : Bool) :
    handleSwitch host nChan nextChan ≠ .panic := by
  cases host with
  | none => nofun
  | some cs => cases cs <;> cases nChan <;> cases nextChan <;> decide

/-- a connection without a Session is always closed -/
theorem handleSwitch_noHost (nChan nextChan : Bool) : handleSwitch none nChan nextChan = .close := rfl

/-- before the fix: one Packet with `FlagChannel` from an unregistered client -/
theorem handleSwitchOld_panics : handleSwitchOld none true false = .panic := rfl

/-! ### DNS transform -/

/-- `DNSTransform.Read` (after the bounds fix) neither panics nor loops on ANY message -/
theorem dnsRead_total (b : Bytes) : Dns.Fine (Dns.read b) := Dns.read_fine b

/-- what it writes (into the Chunk the packet is then parsed from) is never more than it received:
the output buffer grows in proportion to the message -/
theorem dnsRead_alloc (b w : Bytes) (h : Dns.read b = .ok w) : w.length ≤ b.length :=
  (Dns.read_sat b).fine.2 w h

/-- `dnsRead_total` rests on the guards: with `if s += 2; s+i > len(b)` (resp. `if s += 10; s+2 >
len(b)`) deleted, a 33-byte (resp. 23-byte) message makes `b[s : s+i]` (resp. `b[s]`) panic -/
theorem dns_guard_needed :
    ¬ Dns.Fine (GuardsMatter.Dns.decodePacketBad GuardsMatter.Dns.shortRecord) ∧
    ¬ Dns.Fine (GuardsMatter.Dns.decodePacketBad GuardsMatter.Dns.shortAnswer) :=
  ⟨GuardsMatter.Dns.not_fine GuardsMatter.Dns.decodePacketBad_panics,
    GuardsMatter.Dns.not_fine GuardsMatter.Dns.answersBad_panics⟩

/-- before the fix: a 5-byte message hits `_ = b[12]` -/
theorem dnsOld_panics : ∃ b : Bytes, b.length = 5 ∧
    (match Dns.decodePacketOld b with | .panic _ => true | _ => false) = true :=
  ⟨[1, 2, 3, 4, 5], rfl, by decide⟩

/-! ### stream reader: known finding (allocation policy) -/

/-- `(*reader).Bytes()` requests the announced length before reading the body: 9 bytes ask for
`MaxSlice` = 4 TiB.  (Negation of `alloc ≤ K·len + B` for any sensible constants.) -/
theorem streamBytes_alloc_unbounded :
    Stream.bytesAlloc [[7, 0, 0, 4, 0, 0, 0, 0, 0]] = Facts.maxSlice := by decide

/-- the one reslice of the stream reader with a run-time bound, `b[:n]` after `io.ReadFull(r.r, b)`, is
in range on EVERY stream: evaluated as Go evaluates it (`none` = panic) it is the `body` read of
`Codec.streamPrim` -/
theorem streamBytes_reslice_total (l : Nat) (s : Codec.Stream) :
    Stream.bodyP l s = some (Codec.streamPrim.body l s) :=
  Stream.bodyP_eq l s

/-- what does hold: a single call never requests more than `MaxSlice` -/
theorem streamBytes_alloc_partial (s : Codec.Stream) : Stream.bytesAlloc s ≤ Facts.maxSlice :=
  Stream.bytesAlloc_le s

-- OPEN: streamBytes_alloc : ∀ s, Stream.bytesAlloc s ≤ K * s.flatten.length + B — false on the
-- current code (witness above); recorded as known finding `alloc:data.reader.Bytes`.

/-! ### the top-level wire form `Packet.Unmarshal` on arbitrary bytes -/

open XMT.Packet in
/-- **Whatever the header announces, a decoded packet never holds more than was consumed from the
wire.** For EVERY piece stream `s` (any bytes, any piece sizes) on which the outcome model of
`Packet.Unmarshal` (XMT/Packet.lean — the model C01 round-trips and the differential run drives with
op `wire`) succeeds: identity + the 14 fixed header bytes + 4 bytes per tag + the payload + whatever
is left of the stream fit into the input, so the bytes a packet retains are bounded by the bytes its
sender paid for (K = 1); the tag count is a 16-bit value (at most 256 KiB of tag slots whatever
follows). An announced length is the chunk's `Limit`, never a pre-allocation. -/
theorem packetUnmarshal_alloc (cf : Nat → Nat) {s s' : Codec.Stream} {p : Packet.Packet}
    (h : Packet.unmarshal cf s = .ok (p, s')) :
    Facts.idSize + 14 + 4 * p.tags.length + p.payload.length + s'.flatten.length ≤ s.flatten.length ∧
    p.dev.length = Facts.idSize ∧ p.tags.length < 2^16 := by
  unfold unmarshal at h
  split at h
  · cases h
  · rename_i dev s1 h1
    obtain ⟨d1, d2⟩ := readExact_len h1
    split at h
    · cases h
    · split at h
      · cases h
      · rename_i i j1 j0 f7 f6 f5 f4 f3 f2 f1 f0 t1 t0 cls s2 h2
        obtain ⟨_, e2⟩ := readExact_len h2
        split at h
        · cases h
        · rename_i len s3 h3
          have l3 := readLen_len h3
          split at h
          · cases h
          · rename_i tags s4 h4
            obtain ⟨t4, e4⟩ := readTags_len h4
            split at h
            · cases h
            · rename_i pay s5 h5
              obtain ⟨_, e5, _⟩ := readPayload_len cf h5
              injection h with h
              injection h with hp hs
              subst hp hs
              simp only
              have := ofBe16_lt t1 t0
              refine ⟨by omega, d1, by omega⟩
      · cases h

/-- the payload handed on is exactly as long as announced; an announced length of 2^63 or more (which
`int(p.len)` turns into a negative, i.e. absent, `Limit`) is only ever satisfied by an input that
really is that long — a short hostile header ends in an error, not in a packet. -/
theorem packetUnmarshal_len (cf : Nat → Nat) {len : Nat} {s s' : Codec.Stream} {pay : Bytes}
    (h : Packet.readPayload cf len s = .ok (pay, s')) :
    (len < 2^63 → pay.length = len) ∧ len + s'.flatten.length ≤ s.flatten.length := by
  obtain ⟨h1, h2, h3⟩ := Packet.readPayload_len cf h
  exact ⟨h3, by omega⟩

/-- **Totality of the two read loops**: the fuel the model gives `readBody`'s loop and
`Chunk.ReadFrom`'s loop is never what ends them — with any amount of extra fuel they return the same
result, i.e. on every input they stop by their own exit conditions (a zero-byte read, the announced
length reached, the limit reached, a write error) after at most one iteration per byte or piece of the
input. -/
theorem packetUnmarshal_loops_terminate (cf : Nat → Nat) (c : Chunk.Chunk) (hc : c.Inv) (s : Codec.Stream)
    (t len k : Nat) :
    Packet.bodyLoop cf (s.flatten.length + 2 + k) c s t len = Packet.bodyLoop cf (s.flatten.length + 2) c s t len ∧
    Chunk.Chunk.readFromLoop cf (s.flatten.length + s.length + 1 + k) c s t =
      Chunk.Chunk.readFromLoop cf (s.flatten.length + s.length + 1) c s t := by
  induction k with
  | zero => exact ⟨rfl, rfl⟩
  | succ k ih =>
    constructor
    · rw [← ih.1, ← Nat.add_assoc]
      exact Packet.bodyLoop_fuel cf _ c s t len hc (by omega)
    · rw [← ih.2, ← Nat.add_assoc]
      exact Chunk.Chunk.readFromLoop_fuel cf _ c s t (by omega)

/-- non-vacuity: a 48-byte wire packet (no tags, one payload byte) decodes and the bound is tight;
the same header announcing 2^63 bytes ("no limit") with one byte following ends in an error -/
example : (Packet.unmarshal (fun n => n) [List.replicate 32 1 ++ [9, 0, 7, 0, 0, 0, 0, 0, 0, 0, 0, 0, 0, 1, 1, 0x2A]]).toOption.map
    (fun r => (r.1.payload, r.1.tags, r.2.flatten)) = some ([0x2A], [], []) := by decide
example : (Packet.unmarshal (fun n => n)
    [List.replicate 32 1 ++ [9, 0, 7, 0, 0, 0, 0, 0, 0, 0, 0, 0, 0, 7, 0x80, 0, 0, 0, 0, 0, 0, 0, 0x2A]]).toOption.isNone = true := by
  decide

/-! ### the CBK wrapper's reader and the Base64-shift transform's reader on hostile bytes -/

/-- **The CBK reader never panics on attacker-controlled bytes and never returns more than it was
given.** For every key and block size `newSource` accepts and EVERY piece stream `cs` (any bytes, any
chunking, empty pieces, truncated anywhere, count bytes of 0 or above the block size) and every list of
Read sizes `ks`, the literal `(*CBK).Read` state machine of XMT/Cbk.lean (`none` = an outcome the Go
code could only have by panicking) returns; what it hands out is at most the wire's length — at most
`n` bytes per whole `n+1`-byte block — and each Read stays within the size asked for. -/
theorem cbkRead_total_alloc (a b c d sz : UInt8) (s0 : Cbk.St) (h : Cbk.newSource a b c d sz = some s0)
    (cs : Codec.Stream) (ks : List Nat) :
    ∃ pieces e, Cbk.readSeq s0 cs ks = some (pieces, e) ∧
      pieces.flatten.length ≤ cs.flatten.length ∧
      pieces.flatten.length ≤ (s0.buf.length - 1) * (cs.flatten.length / s0.buf.length) ∧
      pieces.flatten.length ≤ ks.sum ∧ pieces.length ≤ ks.length :=
  Cbk.cbk_readSeq_hostile a b c d sz s0 h cs ks

/-- `io.ReadAll` through the CBK reader on hostile bytes: a result exists as soon as the model's fuel
exceeds the number of wire bytes (no panic, no hang; `none` is only ever fuel exhaustion), the error is
never `io.EOF`, the output is bounded by the wire and the result does not depend on extra fuel.
(`readAll 0 = none` by definition, hence "partial": the unconditional `≠ none` is false of the model
for that reason alone.) -/
theorem cbkReadAll_total_alloc_partial (a b c d sz : UInt8) (s0 : Cbk.St) (h : Cbk.newSource a b c d sz = some s0)
    (cs : Codec.Stream) :
    (∀ fuel, cs.flatten.length < fuel → ∃ out e, Cbk.readAll fuel s0 cs = some (out, e) ∧ e ≠ some .eof) ∧
    (∀ fuel out e, Cbk.readAll fuel s0 cs = some (out, e) →
      out.length ≤ cs.flatten.length ∧
      out.length ≤ (s0.buf.length - 1) * (cs.flatten.length / s0.buf.length)) ∧
    (∀ fuel, Cbk.readAll fuel s0 cs = none → fuel ≤ cs.flatten.length) ∧
    (∀ f1 f2, cs.flatten.length < f1 → cs.flatten.length < f2 → Cbk.readAll f1 s0 cs = Cbk.readAll f2 s0 cs) :=
  Cbk.cbk_readAll_hostile_partial a b c d sz s0 h cs

/-- One `Read` from EVERY state the reader can be in (invariant `HInv`: the buffer has its length,
the cursor is not negative; established by `newSource`, preserved by every `Read` whatever its
outcome) returns, keeps the invariant and never overruns the caller's buffer — so also for a consumer
that goes on reading after an error. -/
theorem cbkRead_step_total {n : Nat} (hn : 16 ≤ n) {s : Cbk.St} (h : Cbk.HInv n s) (r : Codec.Stream) (k : Nat) :
    ∃ s' r' got e, Cbk.read s r k = some (s', r', got, e) ∧ Cbk.HInv n s' ∧ got.length ≤ k := by
  obtain ⟨s', r', got, e, hrd, hinv', hk, _⟩ := Cbk.read_hostile hn r k h
  exact ⟨s', r', got, e, hrd, hinv', hk⟩

/-- The Base64-shift transform's `Read`: it fails exactly when the Base64 decoder fails and otherwise
returns the decoder's output, byte for byte shifted back — same length, nothing allocated beyond it
(base64 itself is a parameter). -/
theorem b64Read_total_alloc (dec64 : Bytes → Option Bytes) (shift : UInt8) (p : Bytes) :
    (Wrap.b64Read dec64 shift p = none ↔ dec64 p = none) ∧
    (∀ out, Wrap.b64Read dec64 shift p = some out →
      ∃ raw, dec64 p = some raw ∧ out.length = raw.length ∧ out = raw.map (· - shift)) :=
  ⟨Wrap.b64Read_eq_none dec64 shift p, fun out h => Wrap.b64Read_some dec64 shift p out h⟩

/-- non-vacuity of the hypothesis: a key and size `newSource` accepts -/
example : (Cbk.newSource 7 9 3 200 16).isSome = true := by decide

/-! ### the fragment dispatcher under a hostile peer (state across packets) -/

/-- ANY sequence of fragment packets (any IDs, jobs, groups, counts, positions, empty or not, any
flag bits), from ANY reassembly state: the dispatcher with Go's index expressions evaluated as Go does
(`c.data[0]` in `cluster.add` and after the sort in `cluster.done` panic on an empty slice) never
reaches the panic value; it is the panic-free function of XMT.Frag. -/
theorem fragDispatch_total (fs : Frag.Frags) (ns : List Frag.Pkt) :
    FragHostile.recvAllP fs ns = .ok (Frag.recvAll fs ns) :=
  FragHostile.recvAllP_ok ns fs

/-- the reassembly state a connection history leaves behind holds at most one stored fragment per
fragment received (each stored fragment is bytes the peer sent: state in proportion to input) -/
theorem fragDispatch_state_bounded (ns : List Frag.Pkt) :
    FragHostile.held (Frag.recvAll [] ns).1 ≤ ns.length :=
  Nat.le_trans (FragHostile.recvAll_held ns [] List.nodup_nil) (Nat.le_of_eq (Nat.zero_add _))

/-- the panic value is not decoration: with the emptiness guard of `cluster.done` folded into the
count test (seeded change C04-1) a group made only of empty fragments reaches it -/
theorem fragDispatch_folded_guard_panics :
    FragHostile.doneFolded { data := [], max := 1, e := 2, c := 0 } = .panic := rfl

/-! ### non-vacuity -/

-- (`decide +kernel`: the kernel evaluates the decoder; the elaborator's own evaluator is exponential in
-- the nesting depth of `match`es, which the explicit index / reslice steps of the model deepen)
example : ∃ bs, bs.length ≤ Facts.maxSlice ∧ (∃ s, run (readProxyData true) bs = .ok () s ∧ s.alloc = 56 + 2) :=
  ⟨[1, 1, 1, 65, 1, 1, 66, 0], by decide,
    ⟨[], 58, [.by [], .str [66], .str [65], .u8 1]⟩, by decide +kernel, by decide⟩
example : (run (rFuncRemapList 0) [0, 0, 0, 1, 0, 0, 0, 9]).alloc = 24 := by decide
example : (run (rLs 0) [0xFF, 0xFF, 0xFF, 0xFF, 1]).alloc = 0 := by decide
example : (match Dns.read [0, 0, 1, 0, 0, 1, 0, 0, 0, 0, 0, 1, 1, 97, 0, 0, 1, 0, 1,
    0xC0, 0x0C, 0, 0xA, 0, 1, 0, 0, 0, 0, 0, 2, 7, 9] with | .ok w => w == [7, 9] | _ => false) = true := by
  decide

/-! ### the dispatch arms on a decoded Packet (XMT/Dispatch.lean)

`conn.process` / `processSingle` / `processMultiple` / `conn.resolve`, the tail of `handle` (+ `conn.start`)
and `receive` as outcome-valued functions in which every method call on a nil `connHost`, every access
through a nil `*com.Packet` / `*Session`, every assignment into a nil map and every index expression is a
panicking primitive (`hostP`, `ptrP`, `mset`, `idxP`).  The server side is ANY scripted `connServer`
(client table, `talkSub` answers, failing `notify`) with ANY hosts (`next()` nil or any packet, any
channel answers). -/

open XMT.Dispatch in
/-- **`conn.process` never panics on a decoded packet.**  For EVERY server table `h`, EVERY packet `n`
(any ID / flags / count field / tags, any list of nested packets, more or fewer than announced), both
modes `o`, and every connection state `c` that has a host and no nil entry in `c.add` (what
`Listener.resolve` / `conn.resolve` build, see `dispatch_resolve_total`) — whatever `c.next`, `c.subs`
(nil or not) hold: the outcome is a reply or an error; in the non-channel mode a successful call leaves a
reply (`c.next != nil`), which is what `handle` then dereferences. -/
theorem dispatch_process_total (h : Srv) (c : Conn) (n : In) (o : Bool) (x : Host) (hc : c.host = some x)
    (hadd : ∀ a ∈ c.add, a.isSome = true) :
    (process h c n o).isPanic = false ∧
    (process h c n o).Post (fun c' => c'.host = c.host ∧ (o = false → c'.next.isSome = true)) :=
  have hp := process_post h c n o x hc hadd
  ⟨Post.noPanic hp, hp⟩

open XMT.Dispatch in
/-- **`conn.resolve` never panics**, for every tag list (zero tags, unknown tags, duplicates, a tag that
names the connection's own client, more than `PacketMaxTags`), every client table and every prior
sub-client table (nil included); in channel mode (`o`) the connection must have its host (the channel
threads run between `start` and `stop`).  It only ever appends non-nil packets to `c.add` and leaves
host and reply alone — the precondition of `dispatch_process_total`. -/
theorem dispatch_resolve_total (h : Srv) (c : Conn) (s : Host) (t : List Nat) (o : Bool)
    (hh : o = true → c.host.isSome = true) (hadd : ∀ a ∈ c.add, a.isSome = true) :
    (resolve h c s t o).isPanic = false ∧
    (resolve h c s t o).Post (fun c' => c'.host = c.host ∧ c'.next = c.next ∧ ∀ a ∈ c'.add, a.isSome = true) :=
  have hp := resolve_post h c s t o hh hadd
  ⟨Post.noPanic hp, hp⟩

open XMT.Dispatch in
/-- **The whole non-channel path of a registered client's packet**: `Listener.talk` builds the conn
(`Listener.resolve`: host = the Session, no reply yet, tags resolved with `o = false`), runs
`conn.process`, and `handle` writes the reply and decides between channel and close (`handleTail`,
`conn.start` included).  For EVERY packet, tag list, server table, `talk` result flag, write outcome:
no step panics. -/
theorem dispatch_talk_handle_total (h : Srv) (s : Host) (n : In) (subs : Option SubMap) (e wErr : Bool) :
    (do
      let c ← resolve h { host := some s, subs := subs } s n.hd.tags false
      let c ← process h c n false
      handleTail true (some c) e (has n.hd.flags fChannel) wErr).isPanic = false := by
  have h1 := resolve_post h { host := some s, subs := subs } s n.hd.tags false (by simp) (by simp)
  refine Post.noPanic (Q := fun _ => True) (Post.bind h1 ?_)
  intro c1 ⟨g1, _, g3⟩
  refine Post.bind (process_post h c1 n false s g1 g3) ?_
  intro c2 ⟨_, g5⟩
  exact handleTail_post c2 e _ wErr (g5 rfl)

open XMT.Dispatch in
/-- the tail of `handle` (after fix 8cb7ac5) for ANY conn `talk` may return that carries a reply: with or
without a host, any sub-client table -/
theorem dispatch_handleTail_total (v : Conn) (e nChan wErr : Bool) (hn : v.next.isSome = true) :
    (handleTail true (some v) e nChan wErr).isPanic = false :=
  Post.noPanic (handleTail_post v e nChan wErr hn)

open XMT.Dispatch in
/-- **`receive(s, l, n)` never panics**: for EVERY nested batch container (any depth, any counts, any
flags at every level, empty device IDs, fragments announcing 0 / 1 / more), with or without a Session
(`s == nil` is the call for oneshot packets) and with or without a Listener.  (The reassembly state behind
the `FlagFrag` arm is `fragDispatch_total`.) -/
theorem dispatch_receive_total (s : Option Sess) (l : Bool) (t : Tree) : (receive false s l t).isPanic = false :=
  Post.noPanic (receive_post s l t)

open XMT.Dispatch in
/-- **The guards are needed** (the panic values are reachable):
(1) `processMultiple` without `if z == nil { continue }` (fix 5ec5818) panics when the host has nothing
to send; (2) `handle` without `case v.host == nil` (fix 8cb7ac5) panics on a packet with `FlagChannel`
from an unregistered device; (3) `receive` without `if s == nil || …` panics on a batch container that
reaches it without a Session; (4) `resolve` without the `n != nil` test panics when a tagged client has
nothing to send; (5) `process` on a conn without a host panics (what `conn.stop` must not cause while a
channel thread is still processing: fix 496804c); (6) the nil-map assignment of `processMultiple` is
reachable without `if c.subs == nil { c.subs = make(…) }`. -/
theorem dispatch_guards_needed :
    (pmStep false {} false { host := some { id := [5] }, next := some {}, subs := some [] } { dev := [5] }).isPanic = true ∧
    (pmStep true {} false { host := some { id := [5] }, next := some {}, subs := some [] } { dev := [5] }).isPanic = false ∧
    (handleTail false (some { next := some { id := 3, dev := [5] } }) false true false).isPanic = true ∧
    (handleTail true (some { next := some { id := 3, dev := [5] } }) false true false).isPanic = false ∧
    (receive true none true (.node { dev := [5], flags := fMulti ||| (1 <<< 48) } false [.node { dev := [5] } true []])).isPanic = true ∧
    (receive false none true (.node { dev := [5], flags := fMulti ||| (1 <<< 48) } false [.node { dev := [5] } true []])).isPanic = false ∧
    (tagStep false { clients := [(1, { id := [6] })] } { id := [5] } false [1] 0 { subs := some [] }).isPanic = true ∧
    (tagStep true { clients := [(1, { id := [6] })] } { id := [5] } false [1] 0 { subs := some [] }).isPanic = false ∧
    (process {} {} { hd := { dev := [5] }, subs := [] } false).isPanic = true ∧
    (pmStep true { subs := [([6], { k := true })] } false { host := some { id := [5] }, next := some {}, subs := none } { dev := [6] }).isPanic = true := by
  refine ⟨?_, ?_, ?_, ?_, ?_, ?_, ?_, ?_, ?_, ?_⟩ <;> decide

/-- non-vacuity: a multi-device batch of two packets (one for the connection's own client, one for a
sub-client whose `talkSub` answers with a packet) yields a reply container counting both -/
example : (match XMT.Dispatch.process
      { subs := [([6], { k := true, q := 9, r := some { id := 3, dev := [6] } })] }
      { host := some { id := [5], nxt := some { dev := [5] } } }
      { hd := { dev := [5], flags := XMT.Dispatch.fMulti ||| XMT.Dispatch.fMultiDevice ||| (2 <<< 48) },
        subs := [{ id := 32, dev := [5] }, { id := 33, dev := [6] }] } false with
    | .ok c => (c.next.map fun p => XMT.Flag.len p.flags) == some 2 && c.subs == some [(9, true)]
    | _ => false) = true := by decide

/-! ### `data.ReadStringList` over the stream reader -/

/-- the string list follows the allocation policy of `(*reader).Bytes()`: a list of ONE entry whose
header announces `MaxSlice` requests 4 TiB from 11 bytes (negation of `alloc ≤ K·len + B`; same known
finding `alloc:data.reader.(Bytes|ReadStringList)`) -/
theorem streamStrs_alloc_unbounded :
    Stream.strsAlloc [[1, 1, 7, 0, 0, 4, 0, 0, 0, 0, 0]] = Facts.maxSlice := by decide

open XMT.Decode.Stream XMT.Codec in
/-- what does hold: `n` rounds of the entry loop request at most `n·(2·MaxSlice + 128)` bytes — per entry
the announced body buffer (≤ MaxSlice), its `string` copy (≤ MaxSlice, a successful `Bytes()` never
returns more) and the amortised `append` -/
theorem streamStrs_alloc_partial (n : Nat) (s : Codec.Stream) :
    Stream.strsAllocN n s ≤ n * (2 * Facts.maxSlice + XMT.Decode.appendCost) := by
  induction n generalizing s with
  | zero => exact Nat.zero_le _
  | succ n ih =>
    unfold strsAllocN
    have h1 := bytesAlloc_le s
    cases hd : decBytes streamPrim s with
    | error e => simp only; rw [Nat.succ_mul]; omega
    | ok r =>
      obtain ⟨b, s'⟩ := r
      have h2 := decBytes_stream_len hd
      have h3 := ih s'
      simp only
      rw [Nat.succ_mul]
      omega

-- OPEN: streamStrs_alloc : ∀ s, Stream.strsAlloc s ≤ K * s.flatten.length + B — false on the current code
-- (witness above).  Also open: the sharper partial bound in terms of the entries really present (the
-- loop stops at the first entry that is short).

/-- non-vacuity: two well-formed entries cost their bodies twice plus the appends -/
example : Stream.strsAlloc [[1, 2, 1, 1, 65, 1, 2, 66, 67]] = (1 + 1 + 128) + (2 + 2 + 128) := by decide

end XMT.Props.C04
