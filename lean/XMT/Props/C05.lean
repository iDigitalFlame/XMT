/-
  Property C05 — every task issued to a live session completes exactly once with its own result.

  Theorems over ALL traces of the protocol machine XMT/Proto.lean (`run? f (init n) tr = some st`:
  `tr` is any list of events the acceptor accepts from the initial state with `n` clients; the
  result function `f kind client job payload` of the clients' Taskers is arbitrary).  The machine
  abstracts the transport (C02/C03: what `next` hands out is what `receiveSingle` gets; C06: the
  session cipher is an involution under the agreed key) — a real run in which that fails is not a
  trace of the machine and is reported by the trace validation of the harness.

  Hypotheses named explicitly:
    * job numbers are not reused within a session (guard of the `task` step, `j ∉ used`);
    * no Cancel (C14), no shutdown / migration (C16) during the history.

  Scope notes (see DESIGN.md Appendix B.5):
  * these are theorems about the acceptor `stepS?`: they show that its local guards jointly imply
    the global property. That the real code only produces traces the acceptor accepts is the runtime
    trace validation of the harness (sampling), not a theorem. `drop_only_when_full`,
    `task_refused_iff_full`, `other_sessions_untouched` read back single guards on purpose: they are
    the points at which a real trace is rejected.
  * the acceptor has no capacity guard on the non-drop outcomes of a result; key material (re-key,
    sync) and channel switches are stutter steps for every field the theorems mention.
  * `Proto.lean` refuses a caller-supplied Job number below 2, `Job.lean` (C14) registers it as the
    code does; the harness never supplies one (see C14 scope notes).
-/
import XMT.ProtoLemmas
import XMT.ProtoProgress
namespace XMT.Props.C05
open XMT.Proto

variable {f : Kind → Nat → JobId → Payload → Res}

/-- A client dispatches every job number at most once. -/
theorem exec_at_most_once {n : Nat} {tr : List Ev} {st : State} (h : run? f (init n) tr = some st)
    {c : Nat} {s : Sess} (hs : st[c]? = some s) (j : JobId) : s.execd.count j ≤ 1 :=
  (inv_of_run h hs).execd_le_one j

/-- A Job is completed at most once. -/
theorem complete_at_most_once {n : Nat} {tr : List Ev} {st : State} (h : run? f (init n) tr = some st)
    {c : Nat} {s : Sess} (hs : st[c]? = some s) (j : JobId) : (s.completed.map (·.1)).count j ≤ 1 :=
  (inv_of_run h hs).compJ_le_one j

/-- A completed Job carries the result the addressed client computed for THAT job from THAT job's
    payload: `(j, k, p)` is the one and only Task call that issued number `j` in this session. -/
theorem complete_own_result {n : Nat} {tr : List Ev} {st : State} (h : run? f (init n) tr = some st)
    {c : Nat} {s : Sess} (hs : st[c]? = some s) {j : JobId} {r : Res} (hc : (j, r) ∈ s.completed) :
    ∃ k p, (j, k, p) ∈ s.pay ∧ r = f k c j p ∧ ∀ k' p', (j, k', p') ∈ s.pay → k' = k ∧ p' = p :=
  (inv_of_run h hs).own_result hc

/-- No Job completes unless the client dispatched it. -/
theorem no_complete_without_exec {n : Nat} {tr : List Ev} {st : State} (h : run? f (init n) tr = some st)
    {c : Nat} {s : Sess} (hs : st[c]? = some s) {j : JobId} {r : Res} (hc : (j, r) ∈ s.completed) :
    j ∈ s.execd :=
  (inv_of_run h hs).mem_execd hc

/-- Every result that reaches Session.handle finds its Job in the table: nothing is "un-tracked",
    so a result is never thrown away on the server. -/
theorem results_always_tracked {n : Nat} {tr : List Ev} {st : State} (h : run? f (init n) tr = some st)
    {c : Nat} {s : Sess} (hs : st[c]? = some s) : s.untracked = 0 :=
  (inv_of_run h hs).untr

/-- Each issued number has exactly one token: a packet somewhere in the pipeline (possibly one that
    a full queue discarded) or its completion record — never two, never none. -/
theorem one_token_per_job {n : Nat} {tr : List Ev} {st : State} (h : run? f (init n) tr = some st)
    {c : Nat} {s : Sess} (hs : st[c]? = some s) {j : JobId} (hj : j ∈ s.used) :
    cntJ j s.all + (s.completed.map (·.1)).count j = 1 :=
  ((inv_of_run h hs).token j).trans (if_pos hj)

/-- An event of one client changes nothing in the session of another client (no cross-client
    delivery in the machine; in the real code this is property C15). -/
theorem other_sessions_untouched {st st' : State} {ev : Ev} (hs : step? f st ev = some st')
    {c' : Nat} (hc : c' ≠ ev.c) : st'[c']? = st[c']? := by
  obtain ⟨s, s', -, -, rfl⟩ := step?_eq_some hs
  exact List.getElem?_set_ne hc.symm

/-- Progress, as a function statement (no fairness axiom: the schedule is an explicit list).  In any
    reachable state, for any issued job that is not yet completed and whose token no full queue has
    discarded, there is an explicit list of at most 7 events of that session — server `next`, client
    receive, dispatch, result, client `next`, server receive, `handle` — that the machine accepts and
    after which the Job is completed with its own result.  (Hypothesis `hd` is the capacity clause:
    `queue` discards only when 128 packets are queued, see `drop_only_when_full`.) -/
theorem issued_task_completes_partial {n : Nat} {tr : List Ev} {st : State}
    (h : run? f (init n) tr = some st) {c : Nat} {s : Sess} (hs : st[c]? = some s) {j : JobId}
    (hj : j ∈ s.used) (hn : (s.completed.map (·.1)).count j = 0) (hd : cntJ j s.dropped = 0) :
    ∃ evs s', evs.length ≤ 7 ∧ runS? f c s evs = some s' ∧
      ∃ r k p, (j, r) ∈ s'.completed ∧ (j, k, p) ∈ s'.pay ∧ r = f k c j p :=
  (inv_of_run h hs).completes hj hn hd

-- OPEN: issued_task_completes (without `hd`): every task issued while fewer than 128 jobs are
-- outstanding completes.  False as stated for the code and for the machine: control packets share
-- the client's 128-slot queue with the results, `queue` discards when it is full (witness on the
-- real code: known finding stuck:dropped, 127 outstanding results + two SetChannel toggles), and
-- a discarded token never moves again (`result_discarded_is_final`).

/-- A result that `queue` discarded is lost for good: whatever happens afterwards, its Job never
    completes (this is what makes the capacity clause necessary). -/
theorem result_discarded_is_final {n : Nat} {tr : List Ev} {st : State}
    (h : run? f (init n) tr = some st) {c : Nat} {s s' : Sess} (hs : st[c]? = some s) {j : JobId}
    (hd : 0 < cntJ j s.dropped) {evs : List SEv} (hrun : runS? f c s evs = some s') :
    ∀ r, (j, r) ∉ s'.completed :=
  discarded_never_completes (inv_of_run h hs) hd hrun

/-- Witness (machine side of the known finding stuck:dropped): with the client's queue filled by
    control packets the only outstanding job's result is discarded — an accepted trace after which
    the Job is still pending and its token sits in `dropped`. -/
theorem full_queue_discards_result :
    ((run? echoF (init 1) (List.replicate queueCap ⟨0, .cctrl false⟩ ++
        [⟨0, .task 0 5 77⟩, ⟨0, .snext [.task 0 5 77]⟩, ⟨0, .crecv (.task 0 5 77)⟩, ⟨0, .exec 0 5 77⟩,
         ⟨0, .result 5 (echoF 0 0 5 77) true⟩])).bind (·[0]?)).map
      (fun s => (s.jobs, cntJ 5 s.dropped, s.completed.length)) = some ([5], 1, 0) := by
  -- 133 events: evaluated by the kernel, the elaborator's evaluator would need a deeper recursion limit
  decide +kernel

/-- `queue` discards a result only when the client's send queue holds `queueCap` packets. -/
theorem drop_only_when_full {c : Nat} {s s' : Sess} {j : JobId} {r : Res}
    (hs : stepS? f c s (.result j r true) = some s') : s.cq.length ≥ queueCap :=
  Decidable.by_contra fun hq => by
    simp only [stepS?, hq, reduceIte, ite_self] at hs
    split at hs <;> cases hs

/-- The server refuses a Task exactly when the send queue is full (`len+1 >= cap`), and then
    nothing changes. -/
theorem task_refused_iff_full {c : Nat} {s : Sess} :
    stepS? f c s .taskFull = some s ↔ s.sq.length + fullSlack ≥ queueCap := by
  simp [stepS?]

/-! ### non-vacuity: a concrete history with two clients, batching, a re-key and a control packet is
    accepted, completes all three jobs with their own results -/

def demo : List Ev :=
  [⟨0, .sctrl false⟩, ⟨0, .snext [.ctrl]⟩,
   ⟨0, .task 0 5 77⟩, ⟨0, .task 0 9 78⟩, ⟨1, .task 1 5 5000000⟩,
   ⟨0, .cnext [.rekey]⟩, ⟨0, .regen⟩, ⟨0, .srecv .rekey⟩,
   ⟨0, .snext [.task 0 5 77, .task 0 9 78]⟩, ⟨0, .sync⟩,
   ⟨0, .crecv (.task 0 9 78)⟩, ⟨0, .crecv (.task 0 5 77)⟩, ⟨1, .snext [.task 1 5 5000000]⟩,
   ⟨0, .exec 0 5 77⟩, ⟨0, .exec 0 9 78⟩, ⟨1, .crecv (.task 1 5 5000000)⟩, ⟨1, .exec 1 5 5000000⟩,
   ⟨0, .result 9 (echoF 0 0 9 78) false⟩, ⟨0, .result 5 (echoF 0 0 5 77) false⟩,
   ⟨1, .result 5 5000000 false⟩,
   ⟨0, .cnext [.result 5 (echoF 0 0 5 77), .result 9 (echoF 0 0 9 78)]⟩, ⟨1, .cnext [.result 5 5000000]⟩,
   ⟨0, .srecv (.result 9 (echoF 0 0 9 78))⟩, ⟨0, .srecv (.result 5 (echoF 0 0 5 77))⟩,
   ⟨1, .srecv (.result 5 5000000)⟩,
   ⟨0, .handle 9 (echoF 0 0 9 78) true⟩, ⟨1, .handle 5 5000000 true⟩, ⟨0, .handle 5 (echoF 0 0 5 77) true⟩]

example : ((run? echoF (init 2) demo).map fun st => st.map fun s => (s.completed.length, s.jobs.length, s.execd.length)) =
    some [(2, 0, 2), (1, 0, 1)] := by decide

/-- rejected: the same result handled twice, a result for a job of the other client, a result whose
    value is not the own result, a re-key packet inside a batch -/
example : run? echoF (init 2) (demo ++ [⟨0, .handle 5 (echoF 0 0 5 77) true⟩]) = none := by decide
example : run? echoF (init 2) [⟨0, .task 0 5 77⟩, ⟨1, .snext [.task 0 5 77]⟩] = none := by decide
example : run? echoF (init 1) [⟨0, .task 0 5 77⟩, ⟨0, .snext [.task 0 5 77]⟩, ⟨0, .crecv (.task 0 5 77)⟩,
    ⟨0, .exec 0 5 77⟩, ⟨0, .result 5 (echoF 0 0 5 78) false⟩] = none := by decide
example : run? echoF (init 1) [⟨0, .task 0 5 77⟩, ⟨0, .snext [.task 0 5 77]⟩, ⟨0, .crecv (.task 0 5 77)⟩,
    ⟨0, .exec 0 5 77⟩, ⟨0, .result 5 (echoF 0 0 5 77) false⟩, ⟨0, .cnext [.rekey, .result 5 (echoF 0 0 5 77)]⟩] = none := by
  decide

end XMT.Props.C05
