/-
  C09 — Arbitrary profile bytes never crash the parser and validate iff they build.
  Property theorems only; the lemmas live in XMT/CfgTotal.lean, CfgEquiv.lean, CfgGroups.lean,
  CfgJsonTotal.lean.

  `Safe x` says: `x` is a value or an error of the package — not a panic (out-of-range index or
  slice) and not running out of loop fuel (non-termination).  The model (XMT/Cfg.lean,
  XMT/CfgJson.lean) mirrors convert.go / config.go / z_json.go with every index and slice checked.
-/
import XMT.CfgTotal
import XMT.CfgJsonTotal
import XMT.CfgEquiv
import XMT.CfgGroups
import XMT.TieXlateCfg
namespace XMT.Props.C09
open XMT.Cfg

/-- The case-label sets the theorems rely on, regenerated from the source on every run: `build`
handles exactly the tags `validate` handles, and `next` knows all of them except `invalid`. -/
theorem tie_case_labels :
    Facts.cfg_cases_build = Facts.cfg_cases_validate ∧
    Facts.cfg_cases_next = Facts.cfg_cases_validate.filter (· ≠ Facts.cfg_invalid) := by decide

/-- The stride expressions of `next` as parsed from the source (fully parenthesised): the 16-bit
lengths are grouped before being added to the offset. -/
theorem tie_next_strides :
    Facts.cfg_next_ret_valXOR_valHost = "((i + 3) + (int(c[(i + 2)]) | (int(c[(i + 1)]) << 8)))" ∧
    Facts.cfg_next_ret_valTLSxCA = "((i + 4) + (int(c[(i + 3)]) | (int(c[(i + 2)]) << 8)))" ∧
    Facts.cfg_next_ret_valAES = "(((i + 3) + int(c[(i + 1)])) + int(c[(i + 2)]))" := ⟨rfl, rfl, rfl⟩

/-- `next` (the stride function every entry point uses) returns normally at every offset inside
the config, for every byte string. -/
theorem next_total (c : Bytes) (i : Nat) (hi : i < c.length) : ∃ r, next c i = .ok r :=
  next_ok c i (by omega)

/-- and when it returns an offset, the offset is strictly larger (every loop over `next` makes
progress, so none of them can spin). -/
theorem next_progress (c : Bytes) (i r : Nat) (hi : i < c.length) (h : next c i = .ok (some r)) :
    i < r := by
  rw [next_eq c i hi] at h
  exact nextV_gt (Except.ok.inj h)

/-- `Validate` returns normally — nil or an error — for every byte string. -/
theorem validate_total (c : Bytes) : Safe (validate c) := by
  unfold validate
  exact safe_ite (fun _ => trivial) fun _ => (outer_agree_entry c).safe_left

/-- `Build` returns normally for every byte string, whatever the certificate parser says. -/
theorem build_total (tls : Bytes → Bytes → Bytes → Bool) (c : Bytes) : Safe (build tls c) := by
  rcases build_tls tls c with h | ⟨l, h⟩
  · rw [h]; unfold build
    refine safe_ite (fun _ => trivial) fun _ => ?_
    refine safe_bind (outer_agree_entry c).safe_right fun ⟨e, g⟩ => ?_
    exact safe_ite (fun _ => trivial) fun _ => trivial
  · rw [h]; trivial

/-- `Groups` returns normally for every byte string. -/
theorem groups_total (c : Bytes) : Safe (groups c) := by
  by_cases h : c.length = 0
  · unfold groups; rw [if_pos h]; trivial
  · rw [groups_eq c h]; trivial

/-- `Group(p)` returns normally for every byte string and every position (negative included). -/
theorem group_total (c : Bytes) (p : Int) : Safe (group c p) := by
  by_cases hc : c.length = 0
  · unfold group; rw [if_pos hc]; trivial
  by_cases hp : p = -1
  · unfold group; rw [if_neg hc, if_pos hp]; trivial
  rw [group_eq c p hc hp]
  have hs := pick_le c p _ 0 0 (seps_chain c (c.length + 1) 0 0 (Nat.le_refl _)) (Nat.zero_le _)
  generalize pick c p _ 0 0 = r at hs
  obtain ⟨g, l, s⟩ := r
  cases g with
  | some g => trivial
  | none =>
    exact safe_ite (fun _ => safe_bind_pure.2 (slice_safe hs (Nat.le_refl _))) fun _ =>
      safe_ite (fun _ => trivial) fun _ => trivial

/-- `MarshalJSON` returns normally for every byte string. -/
theorem json_total (c : Bytes) : Safe (jsonOutcome c) := by
  unfold jsonOutcome
  apply jloop_safe <;> omega

/-- `String` returns normally for every byte string. -/
theorem string_total (c : Bytes) : Safe (stringOutcome c) := by
  rw [stringOutcome_ok]; trivial

/-- Anything that builds validates. -/
theorem build_ok_validates (tls : Bytes → Bytes → Bytes → Bool) (c : Bytes) (b : Option Built)
    (h : build tls c = .ok b) : validate c = .ok () := validate_of_build h

/-- Anything that validates builds — except where building alone rejects the contents of an
embedded certificate or key (an error of the external constructor, class `ext`). -/
theorem validate_ok_builds (tls : Bytes → Bytes → Bytes → Bool) (c : Bytes) (h : validate c = .ok ()) :
    (∃ b, build tls c = .ok b) ∨ (∃ l, build tls c = .error (.err l .ext)) := build_of_validate tls h

/-- With certificate and key contents accepted the two agree exactly. -/
theorem validate_iff_build (c : Bytes) :
    validate c = .ok () ↔ ∃ b, build (fun _ _ _ => true) c = .ok b :=
  validate_iff_build_allTrue c

/-! Non-vacuity: the model really rejects / accepts, and the repaired inputs of the four defects
behave as the theorems say (on the unrepaired parser the first and third panicked and the second
validated without building). -/
example : validate [0xB1, 0, 0, 0, 0, 0, 0, 1, 5] = .error (.err "wc2" .invalid) := rfl
example : validate [0xA8, 50] = .ok () ∧ (build (fun _ _ _ => true) [0xA8, 50]).isOk = true := ⟨rfl, rfl⟩
example : build (fun _ _ _ => false) [0xA0, 0, 3, 3] = .error (.err "host" .invalid) := rfl
example : validate [0xC0, 0xA0, 0, 1, 0x41] = .ok () := rfl
example : build (fun _ _ _ => false) [0xB4, 0, 0, 1, 0x41] = .error (.err "tls-ca" .ext) ∧
    validate [0xB4, 0, 0, 1, 0x41] = .ok () := ⟨rfl, rfl⟩
example : next [0xA0, 1, 0xF4] 0 = .ok none ∧ next [0xA0, 0, 1, 7, 0xC0] 0 = .ok (some 4) := ⟨rfl, rfl⟩

/-! ### `next` of the current source

`Facts.x_cfg_Config_next` is regenerated from c2/cfg/convert.go on every run (whole body of `next`,
`none` = index out of range, the value is Go's result with `-1`); `XMT.TieXlateCfg.x_next_eq_partial`
proves it equal to the hand model for the tags of `provedTags` (fixed strides, valXOR/valHost). -/
section Src
open XMT.TieXlateCfg

-- OPEN: src_next_total / src_next_progress without the hypothesis `hT` (needs x_next_eq for the arms
-- valAES, valMuTLS, valTLSxCA, valTLSCert, valWC2, valDNS and the no-label case; these arms are compared
-- with the real function by the differential group `xnext`).

/-- `next_total` for the regenerated function: at every offset inside the config it returns a value,
never an index panic (tags of `provedTags`). -/
theorem src_next_total_partial (c : Bytes) (i : Nat) (hlen : c.length < 2^62) (hi : i < c.length)
    (hT : ∀ b, c[i]? = some b → b.toNat ∈ provedTags) :
    ∃ r, Facts.x_cfg_Config_next c (i : Int) = some r := by
  obtain ⟨r, h⟩ := next_total c i hi
  rw [x_next_eq_partial c i hlen hT, h]
  cases r <;> exact ⟨_, rfl⟩

/-- `next_progress` for the regenerated function: a result other than `-1` is strictly larger than the
offset (tags of `provedTags`). -/
theorem src_next_progress_partial (c : Bytes) (i : Nat) (r : Int) (hlen : c.length < 2^62) (hi : i < c.length)
    (hT : ∀ b, c[i]? = some b → b.toNat ∈ provedTags)
    (h : Facts.x_cfg_Config_next c (i : Int) = some r) (hr : r ≠ -1) : (i : Int) < r := by
  rw [x_next_eq_partial c i hlen hT] at h
  obtain ⟨m, hm⟩ := next_total c i hi
  rw [hm] at h
  cases m with
  | none => simp only [conv, Option.some.injEq] at h; omega
  | some n =>
    have := next_progress c i n hi hm
    simp only [conv, Option.some.injEq] at h
    omega

/-- A negative offset: `-1` (all byte strings, all tags). -/
theorem src_next_negative (c : Bytes) (i : Int) (h : i < 0) : Facts.x_cfg_Config_next c i = some (-1) :=
  next_neg c i h

-- non-vacuity: the hypotheses hold of real settings and the regenerated function computes
-- (host "\x07" of length 1 then a separator; a truncated host; the tag read at i = len(c) panics)
example : (∀ b, ([0xA0, 0, 1, 7, 0xC0] : Bytes)[0]? = some b → b.toNat ∈ provedTags) ∧
    Facts.x_cfg_Config_next [0xA0, 0, 1, 7, 0xC0] 0 = some 4 ∧
    Facts.x_cfg_Config_next [0xA0, 1, 0xF4] 0 = some (-1) ∧ Facts.x_cfg_Config_next [0xA0, 1, 0xF4] 3 = none ∧
    Facts.x_cfg_Config_next [0xE1, 2, 1, 65, 2, 66, 67, 0xC0] 0 = some 7 := by decide
end Src

end XMT.Props.C09
