/-
  C15 — Packets are only ever processed in the session of the device they name.

  The theorems of the property; the model is XMT/Route.lean + XMT/RouteProxy.lean + XMT/RouteChan.lean
  (the code AFTER the five `fix:` commits listed in known/C15.json).  The walks through
  `Listener.talk` that the theorems share are in XMT/RouteLemmas.lean (events) and
  XMT/RouteOutbound.lean (table, reply), the proxy's in XMT/RouteProxyLemmas.lean, the channel's next
  to its model; witnesses in XMT/RouteWitness.lean.

  EVERY theorem below about the Listener, the Server's table and the look-ups of the Proxy takes the
  hash function as a parameter `hash : ID → Nat` — nothing is assumed about injectivity, so all sets of
  registered IDs are covered, colliding ones included — and holds for an arbitrary table `t` (any
  registration history) and arbitrary packets / batches / tag lists.  (The witnesses are at the real
  `idHash`; the channel model keys its table by the tag values themselves.)
  The history theorems quantify over all lists of operations (registration, traffic, removal, in
  any order).

  Two parts of the property do NOT hold on the code as it is and are recorded as known findings
  (known/C15.json); each has its negation proved here on a concrete witness built from a REAL
  colliding pair of IDs, next to the `_partial` theorem that holds on the excluded domain:
    * tag-collision:*      a proxy tag is only the 32-bit hash; the Session stored under that hash
                           is touched and its queue is handed to the proxy's connection even when
                           it belongs to another device            (`tag_collision_violates`)
    * mdflag-bypass:*      receive() skips its device test for a packet flagged MultiDevice, so an
                           element of a same-device batch can name another device
                                                                   (`mdflag_bypass_violates`)
-/
import XMT.RouteLemmas
import XMT.RouteOutbound
import XMT.RouteProxyLemmas
import XMT.RouteWitness
import XMT.RouteChan
namespace XMT.Props.C15
open XMT.Route

/-! ### the hash really collides -/

/-- The model of `device.ID.Hash` (FNV-1, constants regenerated from device/id.go) maps the two
distinct IDs that the harness' birthday search found on the real function to the same value. -/
theorem hash_collision_exists :
    idHash Witness.idA = idHash Witness.idB ∧ Witness.idA ≠ Witness.idB := by decide

/-! ### looking a session up by device ID returns that device's session or nothing -/

/-- `Server.Session(i)` never returns the Session of another device — for every hash function. -/
theorem lookup_exact (hash : ID → Nat) (t : Tbl) (i : ID) (s : Sess)
    (h : lookup hash t i = some s) : s.id = i :=
  (lookup_eq_some_iff.1 h).1

/-- … and it does return the Session of every registered device (table invariant `Inv`: keys are
the hashes of the stored, non-empty IDs — see `table_invariant`). -/
theorem lookup_registered (hash : ID → Nat) (t : Tbl) (k : Nat) (s : Sess) (hi : Inv hash t)
    (h : t.get k = some s) : lookup hash t s.id = some s := by
  obtain ⟨hk, he⟩ := hi k s h
  exact lookup_eq_some_iff.mpr ⟨rfl, hk.symm ▸ h, he⟩

/-- The table invariant holds after every history of registrations, traffic, removals, queueing
and look-ups, in any order, starting from the empty table. -/
theorem table_invariant (hash : ID → Nat) (ops : List Op) : Inv hash (run hash [] ops).1 :=
  run_preserves (fun _ op _ => step_inv op) ops [] (fun _ _ => trivial) nofun

/-- `Server.Remove(i)` removes the Session of `i` … -/
theorem remove_removes_own (hash : ID → Nat) (t : Tbl) (i : ID) :
    lookup hash (remove hash t i) i = none := by
  fun_cases remove hash t i
  case case1 => simp [lookup, Tbl.get_del]
  case case2 hx hne => simp [lookup, hx, hne]
  case case3 hx => simp [lookup, hx]

/-- … and never the Session of another device `a`, even when `hash i = hash a`. -/
theorem remove_keeps_others (hash : ID → Nat) (t : Tbl) (i a : ID) (s : Sess)
    (hs : t.get (hash a) = some s) (hid : s.id = a) (hne : i ≠ a) :
    (remove hash t i).get (hash a) = some s :=
  remove_keeps_other hs hid hne

/-! ### effects only on the own session -/

-- OPEN (false as stated, see `mdflag_bypass_violates`): the statement without `InnerOK`:
--   ∀ hash closing t n, AllOwn (talk hash closing t n).2.1

/-- **Listener.talk**: every effect on a Session — host/last-seen update, key replacement,
delivery to the handler, registration — caused by a packet (alone or as an element of a
multi-device batch) happens on the Session whose device ID EQUALS the device ID that packet names.
For every hash function, table, packet, batch composition and tag list.  `InnerOK n`: no element of
a *same-device* batch carries `FlagMultiDevice` (the excluded case is the known finding). -/
theorem effects_only_own_partial (hash : ID → Nat) (closing : Bool) (t : Tbl) (n : Pkt)
    (hin : InnerOK n = true) : AllOwn (talk hash closing t n).2.1 :=
  talk_good rfl hin (tagsOK_true _ _ _)

/-- **Listener.talkSub** (an element of a multi-device batch, or called directly): same, with no
side condition at all. -/
theorem effects_only_own_talkSub (hash : ID → Nat) (closing : Bool) (t : Tbl) (n : Sub) (o : Bool) :
    AllOwn (talkSub hash closing t n o).2.1 :=
  talkSub_good rfl

/-- Over whole histories: all orders of registration, traffic, removal. -/
theorem history_effects_only_own_partial (hash : ID → Nat) (t : Tbl) (ops : List Op)
    (h : ∀ op ∈ ops, op.ok = true) : AllOwn (run hash t ops).2 :=
  run_allGood (fun _ op => step_own op) ops t h

/-- Negation of the full statement on a concrete witness (known finding `mdflag-bypass:receive`):
A is registered; A sends a same-device batch whose element names B and is flagged MultiDevice;
the handler of A's Session fires for the packet that names B. -/
theorem mdflag_bypass_violates :
    ¬ AllOwn (talk idHash false Witness.tblA Witness.pktInnerMD).2.1 := by
  intro h
  have hm : Ev.recv Witness.idA Witness.idB 20 5 ∈ (talk idHash false Witness.tblA Witness.pktInnerMD).2.1 := by
    decide
  have : Witness.idA = Witness.idB := h _ hm
  exact absurd this (by decide)

/-! ### a packet naming an unknown device triggers a re-registration request, nothing else -/

/-- If no registered Session has the packet's device ID (Sessions with the same HASH may exist)
and the packet is not a hello, `talk` changes nothing, has no effect on any Session and answers
with `SvRegister` naming the sender. -/
theorem unknown_gets_register (hash : ID → Nat) (t : Tbl) (n : Pkt)
    (hun : ∀ k s, t.get k = some s → s.id ≠ n.hd.dev) (he : idEmpty n.hd.dev = false)
    (hh : (n.hd.pid == svHello) = false) :
    talk hash false t n =
      (t, [], .ok { ok := false, host := none, next := [registerReply n.hd], subs := [] }) := by
  unfold talk
  simp only [he, Bool.or_self, Bool.false_eq_true, ↓reduceIte]
  split
  · simp [hh]; exact talkNew_nonhello hh
  · exact talkNew_nonhello hh
  · rename_i s hf
    exact absurd hf (find_ne_own hun s)

/-- …and the same for an element of a multi-device batch (`Listener.talkSub`): an element naming a
device nobody registered is answered with `SvRegister` naming that device; no Session is touched,
whatever shares its hash. -/
theorem unknown_batch_element_gets_register (hash : ID → Nat) (t : Tbl) (n : Sub) (o : Bool)
    (hun : ∀ k s, t.get k = some s → s.id ≠ n.dev) (he : idEmpty n.dev = false)
    (hh : (n.pid == svHello) = false) :
    talkSub hash false t n o = (t, [], .ok { host := none, key := 0, reply := [registerReply n] }) := by
  unfold talkSub
  simp only [he, Bool.or_self, Bool.false_eq_true, ↓reduceIte]
  split
  · simp [hh]
  · simp [bne, hh]
  · rename_i s hf
    exact absurd hf (find_ne_own hun s)

/-- A hello from a device whose hash slot is held by another device is refused without any
effect: the registered Session is neither replaced nor touched. -/
theorem colliding_hello_refused (hash : ID → Nat) (t : Tbl) (n : Pkt) (s : Sess)
    (hs : t.get (hash n.hd.dev) = some s) (hne : s.id ≠ n.hd.dev) (he : idEmpty n.hd.dev = false)
    (hh : (n.hd.pid == svHello) = true) :
    talk hash false t n = (t, [], .error .malformed) := by
  have hf : find hash t n.hd.dev = .collide := find_eq_collide hs hne
  simp [talk, he, hf, hh]

/-- A registered device keeps its slot, with a Session of its own ID, through every history that
does not remove that very device: no traffic, registration attempt or removal that names another
device — colliding or not — can displace it ("never delivery to some other session"). -/
theorem registered_stays (hash : ID → Nat) (t : Tbl) (a : ID) (s : Sess) (ops : List Op)
    (hops : ∀ op ∈ ops, op.notRemove a) (hs : t.get (hash a) = some s) (hid : s.id = a) :
    ∃ s', (run hash t ops).1.get (hash a) = some s' ∧ s'.id = a :=
  run_preserves (Q := fun t => ∃ s', t.get (hash a) = some s' ∧ s'.id = a) (fun _ op => step_stays op) ops t hops
    ⟨s, hs, hid⟩

/-! ### tags -/

-- OPEN (false as stated, see `tag_collision_violates`): the statement without `TagsOK`:
--   ∀ hash t n allowed, n.tags = allowed.map hash → every tagTouch/tagOut event names a device in `allowed`

/-- **conn.resolve**: if every Session that a tag of the packet can reach is the sender's own or
belongs to a device the sender really serves (`allowed`) — i.e. no *foreign* Session shares the
32-bit value of an announced tag — then tag resolution touches and drains only Sessions of devices
in `allowed` (and every packet-driven effect is on the own Session, as above). -/
theorem tags_only_served_partial (hash : ID → Nat) (closing : Bool) (t : Tbl) (n : Pkt) (allowed : List ID)
    (hin : InnerOK n = true) (htag : TagsOK (· ∈ allowed) t n.tags n.hd.dev) :
    AllGood (· ∈ allowed) (talk hash closing t n).2.1 :=
  talk_good rfl hin htag

/-- Negation on a concrete witness (known finding `tag-collision-*:conn.resolve`): A and P are
registered, A has a task queued; P announces the tag `hash B` because it proxies B (which is not
registered and whose hash equals A's); the server updates A's host/last-seen and hands A's queued
task to P's connection. -/
theorem tag_collision_violates :
    Witness.pktTagB.tags = [Witness.idB].map idHash ∧
    ¬ AllGood (· ∈ [Witness.idB]) (talk idHash false Witness.tblAP Witness.pktTagB).2.1 := by
  refine ⟨rfl, fun h => ?_⟩
  have hm : Ev.tagOut Witness.idP Witness.idA (idHash Witness.idB) ∈
      (talk idHash false Witness.tblAP Witness.pktTagB).2.1 := by decide
  have : Witness.idA ∈ [Witness.idB] := h _ hm
  exact absurd this (by decide)

/-! ### outbound packets are only handed to the connection that serves their device -/

/-- Every packet placed into the reply of `talk` names the sender, a device named by an element
of the batch, or — through tag resolution — a device in `allowed` (under the same `TagsOK`
hypothesis as above; `QOK`: what is queued on a Session names that Session, which `Session.queue`
/ `verifyPacket` guarantee and `queue_invariant` shows to be preserved). -/
theorem outbound_own_conn_partial (hash : ID → Nat) (closing : Bool) (t : Tbl) (n : Pkt) (allowed : List ID)
    (hq : QOK t) (htag : TagsOK (· ∈ allowed) t n.tags n.hd.dev) (r : Reply)
    (h : (talk hash closing t n).2.2 = .ok r) :
    ∀ l ∈ r.next, l.dev = n.hd.dev ∨ l.dev ∈ n.subs.map (·.dev) ∨ l.dev ∈ allowed :=
  talk_out (P := fun d => d = n.hd.dev ∨ d ∈ n.subs.map (·.dev) ∨ d ∈ allowed) (by rw [← h]) hq htag (.inl rfl)
    (fun v hv => .inr (.inl (List.mem_map.2 ⟨v, hv, rfl⟩))) (fun _ hd => .inr (.inr hd))

/-- `QOK` holds after every history from the empty table. -/
theorem queue_invariant (hash : ID → Nat) (ops : List Op) (hops : ∀ op ∈ ops, op.queuesOwn = true) :
    QOK (run hash [] ops).1 :=
  run_preserves (fun _ op => step_qok op) ops [] hops nofun

/-! ### the proxy -/

/-- **Proxy.accept**: a packet coming down from the server is queued only for the client entry
whose ID equals the packet's device ID. -/
theorem proxy_accept_own (hash : ID → Nat) (t : Proxy.PTbl) (n : Sub) :
    Proxy.AllOwn (Proxy.accept hash t n).2.1 := by
  fun_cases Proxy.accept hash t n
  case case5 => exact Proxy.allOwn_cons.2 ⟨(Proxy.pfind_own ‹_›).1, Proxy.allOwn_nil⟩
  all_goals exact Proxy.allOwn_nil

/-- … and for a device the proxy has no entry for (entries with the same hash may exist) nothing is
queued anywhere; `receive` then reports the mismatch. -/
theorem proxy_accept_unknown (hash : ID → Nat) (t : Proxy.PTbl) (n : Sub)
    (hun : ∀ k c, t.get k = some c → c.id ≠ n.dev) : Proxy.accept hash t n = (t, [], false) := by
  fun_cases Proxy.accept hash t n
  case case4 | case5 => exact absurd ‹_› (Proxy.pfind_ne_own hun _)
  all_goals rfl

/-- `receive` on the proxy's parent Session: handled by the parent itself only when it names the
parent, otherwise by `accept` (side condition: the packet is not flagged MultiDevice — the
client-side face of the known finding `mdflag-bypass:receive`). -/
theorem proxy_receive_own_partial (hash : ID → Nat) (parent : ID) (t : Proxy.PTbl) (n : Sub)
    (hmd : hasFlag n.flags flagMultiDevice = false) :
    Proxy.AllOwn (Proxy.receiveDown hash parent t n).2.1 := by
  fun_cases Proxy.receiveDown hash parent t n
  case case2 h | case3 h => have := proxy_accept_own hash t n; rwa [h] at this
  case case7 hne _ _ _ =>
    have hp : parent = n.dev := by simpa [hmd] using hne
    exact Proxy.allOwn_cons.2 ⟨hp, Proxy.allOwn_nil⟩
  all_goals exact Proxy.allOwn_nil

/-- **Proxy.subsRegister** (the server asked the client that runs the proxy to register again): every
proxied client's queue receives exactly one re-registration request and that request names the
client whose queue it is — for every table and whatever Job numbers are drawn. -/
theorem proxy_reregistration_own (t : Proxy.PTbl) (job : Nat → Nat) :
    Proxy.AllOwn (Proxy.subsRegister t job).2 ∧
    (Proxy.subsRegister t job).1.map (fun e => (e.1, e.2.id)) = t.map (fun e => (e.1, e.2.id)) ∧
    ∀ e ∈ (Proxy.subsRegister t job).1, ∃ e0 ∈ t, e.1 = e0.1 ∧ e.2.id = e0.2.id ∧
      e.2.q = e0.2.q ++ [{ dev := e.2.id, pid := svRegister, job := job e.1 }] := by
  refine ⟨fun e he => ?_, ?_, fun e he => ?_⟩
  · obtain ⟨x, _, rfl⟩ := List.mem_map.1 he; rfl
  · simp [Proxy.subsRegister, List.map_map, Function.comp_def]
  · obtain ⟨e0, h0, rfl⟩ := List.mem_map.1 he; exact ⟨e0, h0, rfl, rfl, rfl⟩

/-- **Proxy.talk / Proxy.talkSub**: seen-marking, registration and removal requests only ever
concern the client entry of the device the packet names. -/
theorem proxy_talk_own (hash : ID → Nat) (closing : Bool) (t : Proxy.PTbl) (n : Pkt) :
    Proxy.AllOwn (Proxy.talk hash closing t n).2.1 := by
  fun_cases Proxy.talk hash closing t n
  case case6 =>  -- a hello from a device without entry: registered
    exact Proxy.talkCont_own rfl (Proxy.allOwn_cons.2 ⟨rfl, Proxy.allOwn_cons.2 ⟨trivial, Proxy.allOwn_nil⟩⟩)
  case case7 => exact Proxy.talkCont_own (Proxy.pfind_own ‹_›).1 Proxy.allOwn_nil  -- the sender's own entry
  all_goals exact Proxy.allOwn_nil

theorem proxy_talkSub_own (hash : ID → Nat) (closing : Bool) (t : Proxy.PTbl) (n : Sub) (o : Bool) :
    Proxy.AllOwn (Proxy.talkSub hash closing t n o).2.1 := by
  fun_cases Proxy.talkSub hash closing t n o
  case case5 => exact Proxy.talkSubCont_own rfl (Proxy.allOwn_cons.2 ⟨rfl, Proxy.allOwn_nil⟩)
  case case6 => exact Proxy.talkSubCont_own (Proxy.pfind_own ‹_›).1 Proxy.allOwn_nil
  all_goals exact Proxy.allOwn_nil

/-- A packet (not a hello) from a device the proxy has no entry for — entries with the same hash
may exist — is answered with SvRegister naming the sender and has no effect. -/
theorem proxy_unknown_gets_register (hash : ID → Nat) (t : Proxy.PTbl) (n : Pkt)
    (hun : ∀ k c, t.get k = some c → c.id ≠ n.hd.dev) (he : idEmpty n.hd.dev = false)
    (hh : (n.hd.pid == svHello) = false) (htags : n.tags = [])
    (hmd : hasFlag n.hd.flags flagMultiDevice = false) :
    Proxy.talk hash false t n =
      (t, [], .ok { ok := false, host := none,
                    next := [registerReply { n.hd with flags := n.hd.flags ||| flagProxy }], subs := [] }) := by
  unfold Proxy.talk
  simp only [he, htags, hmd, Bool.or_self, Bool.false_eq_true, ↓reduceIte, List.isEmpty_nil, Bool.not_true]
  have hne : n.hd.pid ≠ svHello := by simpa using hh
  split
  · simp [hh]
  · simp [hne]
  · rename_i c hf
    exact absurd hf (Proxy.pfind_ne_own hun c)

/-! ### channel mode: the outbound queue of a Session follows the CURRENT tag list of a connection -/

/-- Whatever packets were read from a channel connection before: after the connection handled a
packet with tag list `tags`, a Session whose queue is redirected to this connection is named by
`tags`, is stored in the table under that tag and is not the connection's own host. (`Tracked` is the
book-keeping invariant "redirected to c ⇒ recorded in c.subs"; it holds for a fresh connection and is
kept by every packet, `chan_history_tracked`.) -/
theorem chan_redirects_only_current_tags (c : RouteChan.Conn) (tags : List Nat) (t t' : RouteChan.CTbl)
    (c' : RouteChan.Conn) (htr : RouteChan.Tracked c t) (h : RouteChan.resolve c tags t = some (t', c'))
    (k : Nat) (hk : RouteChan.chnOf t' k = some c.cid) :
    k ∈ tags ∧ ∃ v, t.get k = some v ∧ (v.id == c.host) = false :=
  (RouteChan.resolve_redirects_only_tagged htr h k hk).2

/-- A Session recorded by an earlier packet of the connection and not named by the current one is
released (its queue is its own again): no stale redirect survives a packet. -/
theorem chan_releases_stale (c : RouteChan.Conn) (tags : List Nat) (t t' : RouteChan.CTbl) (c' : RouteChan.Conn)
    (h : RouteChan.resolve c tags t = some (t', c')) (k : Nat)
    (hk : k ∈ RouteChan.keys c.subs) (hn : k ∉ RouteChan.keys c'.subs) : RouteChan.chnOf t' k = none := by
  obtain ⟨subs, hl, _, hv⟩ := RouteChan.resolve_spec h
  rw [hv k hn, if_pos ((RouteChan.tagLoop_spec hl).1 k ((RouteChan.keys_false_map c.subs).symm ▸ hk))]

/-- the invariant over a whole channel (any number of packets, any tag lists) -/
theorem chan_history_tracked (ps : List (List Nat)) (c : RouteChan.Conn) (t t' : RouteChan.CTbl) (c' : RouteChan.Conn)
    (htr : RouteChan.Tracked c t) (h : RouteChan.runConn c t ps = some (t', c')) : RouteChan.Tracked c' t' :=
  (RouteChan.runConn_tracked htr h).1

/-- in particular a packet WITHOUT tags leaves nothing redirected to the connection -/
theorem chan_empty_tags_release_all (c : RouteChan.Conn) (t t' : RouteChan.CTbl) (c' : RouteChan.Conn)
    (htr : RouteChan.Tracked c t) (h : RouteChan.resolve c [] t = some (t', c')) (k : Nat) :
    RouteChan.chnOf t' k ≠ some c.cid :=
  fun hk => nomatch (chan_redirects_only_current_tags c [] t t' c' htr h k hk).1

/-! ### non-vacuity: the hypotheses are met by non-trivial instances, the model really computes -/

-- a table with a registered device and a colliding unregistered one satisfies `unknown_gets_register`
example : (∀ k s, Witness.tblA.get k = some s → s.id ≠ (Witness.pktFromB 20).hd.dev) ∧
    Witness.tblA.get (idHash (Witness.pktFromB 20).hd.dev) ≠ none := by
  refine ⟨?_, by decide⟩
  intro k s h
  simp only [Witness.tblA, Tbl.get] at h
  split at h
  · cases h; decide
  · cases h
-- … and the answer is SvRegister for B, A's Session (and its queued task) untouched
example : talk idHash false Witness.tblA (Witness.pktFromB 20) =
    (Witness.tblA, [],
      .ok { ok := false, host := none, next := [{ dev := Witness.idB, pid := Facts.c15SvRegister, job := 0 }], subs := [] }) := by
  rfl
-- the colliding hello is refused
example : talk idHash false Witness.tblA (Witness.pktFromB Facts.c15SvHello) =
    (Witness.tblA, [], .error .malformed) := by rfl
-- Server.Session(B) = nil, Server.Session(A) = A's session
example : lookup idHash Witness.tblA Witness.idB = none ∧
    (lookup idHash Witness.tblA Witness.idA).map (·.id) = some Witness.idA := by decide
-- `InnerOK`, `Inv`, `QOK`, `TagsOK` on concrete data
example : InnerOK Witness.pktTagB = true ∧ InnerOK Witness.pktInnerMD = false := by decide
example : TagsOK (· ∈ [Witness.idA]) Witness.tblAP Witness.pktTagB.tags Witness.idP := by
  intro tag ht v hv
  simp only [Witness.pktTagB, List.mem_singleton] at ht
  subst ht
  have : Witness.tblAP.get (idHash Witness.idB) = some { id := Witness.idA, q := [{ dev := Witness.idA, pid := 200, job := 70 }] } := by
    decide
  rw [this] at hv; cases hv
  exact Or.inr (by simp)
-- a legitimate own packet is delivered to the own handler and answered with the queued task
example : (talk idHash false Witness.tblA
    { hd := { dev := Witness.idA, pid := 20, job := 5, flags := 0, empty := false, info := false }, tags := [], subs := [] }).2 =
    ([.touch Witness.idA Witness.idA, .recv Witness.idA Witness.idA 20 5],
     .ok { ok := true, host := some Witness.idA, next := [{ dev := Witness.idA, pid := 200, job := 70 }], subs := [] }) := by
  rfl

-- channel mode, concrete: host 9, Sessions under keys 5 and 6; tags [5] then []
example : (RouteChan.runConn { cid := 1, host := [9], subs := [] }
    [(5, { id := [5], chn := none }), (6, { id := [6], chn := none })] [[5]]).map (fun r => RouteChan.chnOf r.1 5) = some (some 1) := by decide
example : (RouteChan.runConn { cid := 1, host := [9], subs := [] }
    [(5, { id := [5], chn := none }), (6, { id := [6], chn := none })] [[5], []]).map (fun r => RouteChan.chnOf r.1 5) = some none := by decide

end XMT.Props.C15
