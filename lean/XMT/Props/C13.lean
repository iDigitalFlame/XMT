/-
  C13 — Session state flags are never lost or corrupted, and 'closed' dominates (c2/state.go).
  Property theorems only; the lemmas are in XMT/StateLemmas.lean (bits of the word), StateLin.lean (what a legal
  sequential history of primitives implies; shared by both machines), StateConcLemmas.lean (the compare-and-swap
  machine), StateRT.lean (ghost clocks), StateAccLemmas.lean / StateAccInv.lean / StateAccShape.lean (the access
  programs of all methods) and TieXlateState.lean (regenerated predicates).

  Sequential part, for ALL words (symbolic, no enumeration): closed dominates, flags and the 16-bit
  last group are independent, a channel request changes the word iff it differs from the standing
  request, the 'updated' notice is consumed exactly once.
  Concurrent part: the mutators are compare-and-swap loops; for ALL programs and ALL schedules the
  execution is linearizable (it equals a sequential execution of the calls that took effect, in an
  order that keeps every thread's program order and real-time order, with the same results);
  corollaries: no lost flag update, flag/last independence under concurrency, exactly one winner
  among concurrent test-and-clear (the 'updated' notice) / test-and-set callers.  The code before
  the repair (`Store(Load() | v)`) provably loses an update on a 4-step schedule.
  All methods as access programs (XMT.StateAcc) under all schedules: the word is always the result of
  a legal sequential history of whole read-modify-write primitives (`acc_*`).

  Scope (DESIGN.md Appendix B.5):
  * `linearizable`, `linearizable_realtime` and their corollaries cover Set / Unset / SetLast / trySet /
    tryUnset as single calls, and `Tag`, which is `tryUnset(stateSeen)` (`tag_is_test_and_clear`); the
    read-only predicates are one load each (`predicates_are_single_loads`).
  * `SetChannel` is NOT linearizable as one operation: two concurrent `SetChannel(true)` can both report
    "changed", and `SetChannel(false)` can straddle a channel start (`setChannel_not_linearizable`,
    `setChannel_off_no_linearization_point`: open known findings, replayed on the real code).  Its
    sequential theorems are about ONE caller at a time.  `orig_tag_not_linearizable` and
    `orig_ready_not_linearizable` are witnesses about the access programs `Call.origTag`, `Call.origReady`
    of the source before its repair.
  * `standing` is the early-return guard of `SetChannel` by design ("changes state only when it
    differs from the standing request" is what that guard implements); `closed_dominates` unfolds the
    predicates, whose shapes (`Closed()` first, then the flag) are those c2/state.go had before each became one
    load; they equal the current source's for every word (`src_state_predicates`) and are compared with the real
    methods on all 2^16 flag words by the differential run.
-/
import XMT.StateOwners
import XMT.TieXlateState
import XMT.StateLemmas
import XMT.StateConcLemmas
import XMT.StateAccLemmas
import XMT.StateRT
import XMT.StateAccLin
import XMT.StateAccShape
import XMT.StateAccInv
namespace XMT.Props.C13
open XMT.State XMT.StateConc

/-- Access shapes (1=Load 3=CompareAndSwap 4=`for {` 5=`}`; 2 would be a plain Store): every mutator
is one `for { Load; CompareAndSwap }` loop, and `ChannelCanStop` takes the notice through
`tryUnset`.  (`trySet` is an optional primitive: absent or a CAS loop.) -/
theorem mutators_are_cas_loops :
    Facts.c13AccSet = [4, 1, 3, 5] ∧ Facts.c13AccUnset = [4, 1, 3, 5] ∧ Facts.c13AccSetLast = [4, 1, 3, 5] ∧
    Facts.c13AccTryUnset = [4, 1, 3, 5] ∧ (Facts.c13AccTrySet = [4, 1, 3, 5] ∨ Facts.c13AccTrySet = []) ∧
    Facts.c13CanStopTestAndClear = 1 := by decide

/-- No statement of package c2 writes a state word except through those mutators: no assignment,
operator assignment or increment / decrement of a `state` field (or to `*s` inside c2/state.go), no atomic store /
swap / add anywhere on one (count regenerated from all files of the package by go/parser). The
interleaving theorems below speak about histories of `Set` / `Unset` / `SetLast` / `trySet` /
`tryUnset` operations; this obligation is what makes them cover the package. -/
theorem all_writes_through_mutators : Facts.c13DirectStateWrites = 0 := by decide

/-- …and every call of a flag mutator (`Set` / `Unset` / `trySet` / `tryUnset` on a `state` field) in
package c2 passes a flag constant (`state…`, alone or or-ed), never a computed mask: together with
`flags_are_distinct_low_bits` no flag operation can reach into the group half of the word, which is
what "updating one part never alters the other" needs at the call sites (the theorems below prove it
for flag arguments). Count regenerated from all files of the package by go/parser. -/
theorem flag_ops_take_flag_constants : Facts.c13NonConstantFlagMasks = 0 := by decide

/-- The 16 flags are 16 distinct single bits of the low half (so the high half is free for `last`). -/
theorem flags_are_distinct_low_bits :
    allFlags = allK.map (2 ^ ·) ∧ (∀ k ∈ allK, k < 16) ∧ allK.Nodup := ⟨by decide, allK_lt, allK_nodup⟩

/-- 'closed' dominates every predicate, for every word. -/
theorem closed_dominates (s : Nat) (h : closed s = true) :
    ready s = false ∧ canRecv s = false ∧ closing s = true ∧ shutdown s = true ∧
    sendClosed s = true ∧ wakeClosed s = true ∧ recvClosed s = true ∧
    channelCanStart s = false ∧ channelCanStop s = (s, true) := by
  simp only [ready, canRecv, closing, shutdown, sendClosed, wakeClosed, recvClosed, channelCanStart,
    channelCanStop, h, ↓reduceIte, Bool.true_or, and_self]

/-- no mutator that is not asked to clear the closed flag can re-open a closed word -/
theorem closed_stable (s v : Nat) (e : Bool) (hs : s < 2 ^ 32) (h : closed s = true) :
    closed (set s v) = true ∧ (v.testBit kClosed = false → closed (unset s v) = true) ∧
    closed (setLast s v) = true ∧ closed (setChannel s e).1 = true ∧
    closed (channelCanStop s).1 = true ∧ closed (tag s).1 = true := by
  refine ⟨?_, fun hv => ?_, ?_, ?_, ?_, ?_⟩
  · rw [closed, has_stClosed, testBit_set, ← has_stClosed, ← closed, h]; rfl
  · rw [closed, has_stClosed, testBit_unset_wf _ _ hs, hv, ← has_stClosed, ← closed, h]; rfl
  · rw [closed, has_setLast s v (by decide)]; exact h
  · -- the word is left alone, or the value and notice flags change, which are not the closed flag
    rw [setChannel_eq]
    split
    · exact h
    · cases e <;> simp (disch := decide) only [cond, closed, has_set_disjoint, has_unset_disjoint hs] <;> exact h
  · rw [(closed_dominates s h).2.2.2.2.2.2.2.2]; exact h
  · rw [tag_eq_tryUnset, tryUnset_fst _ hs, closed, has_unset_disjoint hs (by decide)]; exact h

/-- Setting or clearing one flag changes exactly that bit of the word. -/
theorem flag_set_clear_exact (s k i : Nat) (hs : s < 2 ^ 32) :
    (set s (2 ^ k)).testBit i = (s.testBit i || decide (k = i)) ∧
    (unset s (2 ^ k)).testBit i = (s.testBit i && !decide (k = i)) :=
  ⟨testBit_set_pow s k i, testBit_unset_pow k i hs⟩

/-- Flags and the 16-bit last-group value are independent: flag updates (any mask below 2^16)
leave `last` alone, `SetLast` leaves every flag alone and installs exactly its argument, and all
results stay 32-bit words. -/
theorem flags_last_independent (s v : Nat) (hs : s < 2 ^ 32) (hv : v < 2 ^ 16) :
    last (set s v) = last s ∧ last (unset s v) = last s ∧
    flags (setLast s v) = flags s ∧ last (setLast s v) = v ∧
    predicates (setLast s v) = predicates s ∧
    set s v < 2 ^ 32 ∧ unset s v < 2 ^ 32 ∧ setLast s v < 2 ^ 32 :=
  ⟨last_set s hv, last_unset s hv, flags_setLast s v, last_setLast s hv, predicates_setLast s v,
    set_lt hs (Nat.lt_of_lt_of_le hv (by decide)), unset_lt v hs, setLast_lt s v⟩

/-- A channel request that equals the standing request changes nothing and reports `false`. -/
theorem setChannel_same (s : Nat) (e : Bool) (h : standing s e = true) : setChannel s e = (s, false) := by
  rw [setChannel_eq, h]; rfl

/-- A request that differs is recorded: it reports `true`, the value becomes the request, the
'updated' notice is raised, and no other bit of the word moves. -/
theorem setChannel_differs (s : Nat) (e : Bool) (hs : s < 2 ^ 32) (h : standing s e = false) :
    ∃ s', setChannel s e = (s', true) ∧ s' < 2 ^ 32 ∧ channelValue s' = e ∧ channelUpdated s' = true ∧
      ∀ i, i ≠ kValue → i ≠ kUpdated → s'.testBit i = s.testBit i := by
  have huv : kUpdated ≠ kValue := by decide
  refine ⟨set (cond e (set s stChannelValue) (unset s stChannelValue)) stChannelUpdated, ?_, ?_, ?_⟩
  · rw [setChannel_eq, h]; rfl
  · refine set_lt ?_ (by decide)
    cases e
    · exact unset_lt _ hs
    · exact set_lt hs (by decide)
  · have hb : ∀ i, (set (cond e (set s stChannelValue) (unset s stChannelValue)) stChannelUpdated).testBit i =
        (cond e (s.testBit i || decide (kValue = i)) (s.testBit i && !decide (kValue = i)) || decide (kUpdated = i)) := by
      intro i
      cases e <;> simp only [flag_eqs, cond, testBit_set_pow, testBit_unset_pow _ _ hs]
    rw [channelValue, has_stChannelValue, channelUpdated, has_stChannelUpdated, hb, hb]
    refine ⟨by cases e <;> simp [huv], by simp, fun i h1 h2 => ?_⟩
    rw [hb]
    cases e <;> simp [Ne.symm h1, Ne.symm h2]

/-- Repeating a request never changes the word a second time. -/
theorem setChannel_idempotent (s : Nat) (e : Bool) (hs : s < 2 ^ 32) :
    (setChannel (setChannel s e).1 e).1 = (setChannel s e).1 := by
  cases h : standing s e
  · obtain ⟨s', h1, hs', hv, hu, _⟩ := setChannel_differs s e hs h
    rw [h1]
    cases h2 : standing s' e
    · obtain ⟨s'', h3, _, hv2, hu2, hb⟩ := setChannel_differs s' e hs' h2
      rw [h3]
      -- the second change writes the value and the notice the first one wrote
      apply Nat.eq_of_testBit_eq; intro i
      by_cases hi1 : i = kValue
      · rw [hi1, ← has_stChannelValue, ← has_stChannelValue]; exact hv2.trans hv.symm
      · by_cases hi2 : i = kUpdated
        · rw [hi2, ← has_stChannelUpdated, ← has_stChannelUpdated]; exact hu2.trans hu.symm
        · exact hb i hi1 hi2
    · rw [setChannel_same s' e h2]
  · rw [setChannel_same s e h, setChannel_same s e h]

/-- The 'updated' notice is consumed exactly once: with the channel running and the session not
closing, the first `ChannelCanStop` clears the notice (and nothing else) and answers with the
recorded value; the next one finds no notice, leaves the word alone and answers "keep going". -/
theorem notice_consumed_once (s : Nat) (hs : s < 2 ^ 32) (hu : channelUpdated s = true)
    (hch : channel s = true) (hcl : closing s = false) :
    channelCanStop s = (unset s stChannelUpdated, !channelValue s) ∧
    channelCanStop (unset s stChannelUpdated) = (unset s stChannelUpdated, false) ∧
    ∀ i, (unset s stChannelUpdated).testBit i = (s.testBit i && !decide (kUpdated = i)) := by
  -- the word after the clear: the notice is gone, every other flag is as before
  have hf : ∀ {m}, stChannelUpdated &&& m = 0 → has (unset s stChannelUpdated) m = has s m := has_unset_disjoint hs
  have hb : ∀ i, (unset s stChannelUpdated).testBit i = (s.testBit i && !decide (kUpdated = i)) := fun i => by
    simp only [flag_eqs, testBit_unset_pow _ _ hs]
  have hn : has (unset s stChannelUpdated) stChannelUpdated = false := by rw [has_stChannelUpdated, hb]; simp
  have e1 : channelValue (unset s stChannelUpdated) = channelValue s := hf (by decide)
  have e2 : channel (unset s stChannelUpdated) = true := hch ▸ hf (by decide)
  have e3 : closing (unset s stChannelUpdated) = false := by
    rw [← hcl]; simp (disch := decide) only [closing, closed, hf]; rfl
  refine ⟨?_, ?_, hb⟩
  · rw [channelCanStop_eq, hcl, hch, hu, e1]; rfl
  · rw [channelCanStop_eq, e3, e2, show channelUpdated (unset s stChannelUpdated) = false from hn]; rfl

/-- Without a pending notice `ChannelCanStop` is read-only. -/
theorem canStop_without_notice (s : Nat) (hu : channelUpdated s = false) : (channelCanStop s).1 = s := by
  rw [channelCanStop_eq, hu]
  split <;> rfl

/-- `Tag` reports the seen flag and clears exactly that flag. -/
theorem tag_spec (s : Nat) (hs : s < 2 ^ 32) :
    (tag s).2 = seen s ∧ ∀ i, (tag s).1.testBit i = (s.testBit i && !decide (kSeen = i)) := by
  rw [tag_eq_tryUnset]
  refine ⟨?_, fun i => ?_⟩
  · exact tryUnset_snd s stSeen
  · rw [tryUnset_fst _ hs]; simp only [flag_eqs, testBit_unset_pow _ _ hs]

/-- Every method of state.go, written as its sequence of atomic loads / compare-and-swap loops
(XMT.StateAcc, the model the schedule replay runs against the real code), computes — when no other
thread interferes — exactly the sequential function the theorems above are about, within 8
accesses. -/
theorem access_model_refines_sequential (c : StateAcc.Call) (w : Nat) :
    StateAcc.solo 8 c.meth w = some (c.seq w) := StateAcc.solo_eq_seq c w

/-- **Linearizability.** For every initial word, every family of thread programs over
Set / Unset / SetLast / tryUnset / trySet and EVERY schedule, there is a sequential history `lin`
(the calls that took effect) which is legal from the initial word, ends in the current word, keeps
each thread's program order (`proj t lin` followed by the thread's remaining calls is its program)
and reproduces exactly the results each thread got. -/
theorem linearizable (w : Nat) (progs : List (List Op)) (sched : List Nat) :
    let s := run (Sys.init w progs) sched
    ∃ lin, Lin w lin s.mem ∧ s.thr.length = progs.length ∧ (∀ e ∈ lin, e.tid < progs.length) ∧
      ∀ t th, s.thr[t]? = some th →
        ∃ p, progs[t]? = some p ∧ (proj t lin).map (·.op) ++ th.ops = p ∧ th.rets = (proj t lin).map (·.ret) := by
  intro s
  have hi := inv_reach w progs sched
  exact ⟨s.hist, hi.lin, hi.len, hi.tid, hi.thr⟩

/-- **No lost update** (flags). Once all calls have returned: a flag that some call set (or that
was set initially) and that no call of any thread clears is set in the final word; dually for
clears.  Holds for every schedule. -/
theorem no_lost_flag_update (w : Nat) (progs : List (List Op)) (sched : List Nat) (k : Nat) (hk : k < 16)
    (hdone : (run (Sys.init w progs) sched).completed = true) :
    ((∀ p ∈ progs, ∀ op ∈ p, op.clears k = false) →
      (w.testBit k = true ∨ ∃ p ∈ progs, ∃ op ∈ p, op.sets k = true) →
      (run (Sys.init w progs) sched).mem.testBit k = true) ∧
    ((∀ p ∈ progs, ∀ op ∈ p, op.sets k = false) →
      (w.testBit k = false ∨ ∃ p ∈ progs, ∃ op ∈ p, op.clears k = true) →
      (run (Sys.init w progs) sched).mem.testBit k = false) := by
  have hi := inv_reach w progs sched
  exact ⟨no_lost_update true hi hdone hk, no_lost_update false hi hdone hk⟩

/-- **Updating one part never alters the other, under any interleaving** (also mid-execution):
threads that only touch flags (masks below 2^16) never change `last`; threads that only call
`SetLast` never change a flag. -/
theorem parts_independent_concurrently (w : Nat) (progs : List (List Op)) (sched : List Nat) :
    ((∀ p ∈ progs, ∀ op ∈ p, op.flagOnly = true) →
      last (run (Sys.init w progs) sched).mem = last w) ∧
    ((∀ p ∈ progs, ∀ op ∈ p, op.isSetLast = true) →
      flags (run (Sys.init w progs) sched).mem = flags w) := by
  have hi := inv_reach w progs sched
  exact ⟨fun h => lin_last_of_flagOnly hi.lin (inv_forall_hist hi h),
    fun h => lin_flags_of_isSetLast hi.lin (inv_forall_hist hi h)⟩

/-- **The last group with a single writer.** If one thread `p` issues all `SetLast` calls (the
others, and `p`'s other calls, are flag calls with masks below 2^16), then once all calls have
returned the last-group value is the argument of `p`'s final `SetLast` (or the initial value if it
made none) — under every schedule, whatever the flag traffic around it. -/
theorem single_writer_last (w : Nat) (progs : List (List Op)) (sched : List Nat) (p : Nat) (prog : List Op)
    (hp : progs[p]? = some prog)
    (hothers : ∀ t q, progs[t]? = some q → t ≠ p → ∀ op ∈ q, op.flagOnly = true)
    (hprog : ∀ op ∈ prog, op.flagOnly = true ∨ (op.isSetLast = true ∧ op.lastOk = true))
    (hdone : (run (Sys.init w progs) sched).completed = true) :
    last (run (Sys.init w progs) sched).mem = (lastWritten prog).getD (last w) := by
  have hi := inv_reach w progs sched
  rw [← inv_proj_done hi hdone hp]
  refine lin_last_writer hi.lin fun e he => ?_
  obtain ⟨q, hq, hop⟩ := inv_ops hi he
  by_cases htp : e.tid = p
  · cases (htp ▸ hq).symm.trans hp
    exact (hprog _ hop).imp_right fun h => ⟨htp, h⟩
  · exact Or.inl (hothers e.tid q hq htp _ hop)

/-- **Progress** (the `completed` hypothesis above is always attainable): from every state of the
machine some continuation of the schedule lets every call return — a thread that runs alone
finishes each call within three accesses, a failed compare-and-swap only ever sends it back to the
load. -/
theorem completion_always_possible (w : Nat) (progs : List (List Op)) (sched : List Nat) :
    ∃ more, (run (Sys.init w progs) (sched ++ more)).completed = true := by
  obtain ⟨more, h⟩ := exists_completion (run (Sys.init w progs) sched)
  exact ⟨more, by rw [run_append]; exact h⟩

/-- **The notice is consumed exactly once, whoever polls.** Any number of threads call
`tryUnset(2^k)` (what `ChannelCanStop` does with the 'updated' flag) next to calls that leave bit
`k` alone; the flag is initially set.  For every schedule, once all have returned, exactly one of
the `tryUnset` calls in the linearization (whose per-thread projections are the results the threads
really got, by `linearizable`) reported success. -/
theorem test_and_clear_single_winner (w : Nat) (progs : List (List Op)) (sched : List Nat) (k : Nat) (hk : k < 16)
    (hops : ∀ p ∈ progs, ∀ op ∈ p, op = .tryUnset (2 ^ k) ∨ (op.sets k = false ∧ op.clears k = false))
    (hw : w.testBit k = true) (hcall : ∃ p ∈ progs, Op.tryUnset (2 ^ k) ∈ p)
    (hdone : (run (Sys.init w progs) sched).completed = true) :
    let s := run (Sys.init w progs) sched
    ∃ lin, Lin w lin s.mem ∧
      (∀ t th, s.thr[t]? = some th →
        ∃ p, progs[t]? = some p ∧ (proj t lin).map (·.op) = p ∧ th.rets = (proj t lin).map (·.ret)) ∧
      (lin.filter fun e => e.op == .tryUnset (2 ^ k) && e.ret).length = 1 ∧ s.mem.testBit k = false :=
  single_winner false (inv_reach w progs sched) hdone hk hops hw hcall

/-- The same for `trySet` ("set closing unless already closing"): of any number of concurrent
callers on a clear flag exactly one is told that it made the change. -/
theorem test_and_set_single_winner (w : Nat) (progs : List (List Op)) (sched : List Nat) (k : Nat) (hk : k < 16)
    (hops : ∀ p ∈ progs, ∀ op ∈ p, op = .trySet (2 ^ k) ∨ (op.sets k = false ∧ op.clears k = false))
    (hw : w.testBit k = false) (hcall : ∃ p ∈ progs, Op.trySet (2 ^ k) ∈ p)
    (hdone : (run (Sys.init w progs) sched).completed = true) :
    let s := run (Sys.init w progs) sched
    ∃ lin, Lin w lin s.mem ∧
      (∀ t th, s.thr[t]? = some th →
        ∃ p, progs[t]? = some p ∧ (proj t lin).map (·.op) = p ∧ th.rets = (proj t lin).map (·.ret)) ∧
      (lin.filter fun e => e.op == .trySet (2 ^ k) && e.ret).length = 1 ∧ s.mem.testBit k = true :=
  single_winner true (inv_reach w progs sched) hdone hk hops hw hcall

/-- `Store(Load() | v)`: thread 0 calls `Set(stateClosing)`, thread 1 calls `Set(stateReady)`; under
the 4-step schedule load₀ load₁ store₀ store₁ both calls return, nobody clears the closing flag,
and yet it is not set — the conclusion of `no_lost_flag_update` fails for the load/store machine. -/
theorem unrepaired_loses_update :
    ∃ sched, (runLS (Sys.init 0 [[.set stClosing], [.set stReady]]) sched).completed = true ∧
      (runLS (Sys.init 0 [[.set stClosing], [.set stReady]]) sched).mem.testBit kClosing = false ∧
      (∀ p ∈ [[Op.set stClosing], [Op.set stReady]], ∀ op ∈ p, op.clears kClosing = false) ∧
      (∃ p ∈ [[Op.set stClosing], [Op.set stReady]], ∃ op ∈ p, op.sets kClosing = true) :=
  ⟨[0, 1, 0, 1], by decide⟩

/-- …while the repaired machine, on the same schedule (plus the retry), keeps both flags. -/
theorem repaired_same_schedule :
    (run (Sys.init 0 [[.set stClosing], [.set stReady]]) [0, 1, 0, 1, 1, 1]).completed = true ∧
    (run (Sys.init 0 [[.set stClosing], [.set stReady]]) [0, 1, 0, 1, 1, 1]).mem = stClosing ||| stReady ∧
    (run (Sys.init 0 [[.set stClosing], [.set stReady]]) [0, 1, 0, 1, 1, 1]).casFail = 1 := by decide

example : closed (stClosed ||| stReady ||| stCanRecv) = true ∧ ready (stReady ||| stCanRecv) = true := by decide
example : standing (stChannel ||| stChannelProxy) false = false ∧ standing stChannel false = true ∧
    setChannel stChannel true = (stChannel ||| stChannelValue ||| stChannelUpdated, true) := by decide
example : channelUpdated (stChannel ||| stChannelUpdated) = true ∧ channel (stChannel ||| stChannelUpdated) = true ∧
    closing (stChannel ||| stChannelUpdated) = false ∧
    channelCanStop (stChannel ||| stChannelUpdated) = (stChannel, true) ∧ channelCanStop stChannel = (stChannel, false) := by
  decide
example : setLast 0xFFFF 0xBEEF = 0xBEEFFFFF ∧ last 0xBEEFFFFF = 0xBEEF ∧ unset 0xBEEFFFFF stClosed = 0xBEEFFFFB := by decide
/-- three consumers, one notice, an interleaving with failed compare-and-swaps: completed, one winner -/
example :
    let s := run (Sys.init stChannelUpdated [[.tryUnset stChannelUpdated], [.tryUnset stChannelUpdated], [.set stReady, .tryUnset stChannelUpdated]])
      [0, 1, 2, 2, 0, 1, 0, 1, 2, 0, 1, 1, 2, 2]
    s.completed = true ∧ s.casFail = 4 ∧ s.mem = stReady ∧ s.thr.map (·.rets) = [[true], [false], [true, false]] := by
  decide

/-- **Linearizability with real-time order.** `runT` is the machine `run` with ghost clocks
(`StateRT.runT_sys`: erasing them gives `run` on the same schedule): every call that took effect is
logged with the schedule position `inv` of its FIRST shared-memory access and `fin` of its LAST one
(`inv ≤ fin < |sched|`), so "A returned before B was invoked" implies `A.fin < B.inv`.  For every
initial word, all programs and EVERY schedule the log, with the clocks erased, is the linearization
`lin` of `linearizable` (legal from `w`, ends in the current word, per-thread program order and
results), and it respects real time: whenever `lin[i].fin < lin[j].inv`, call `i` precedes call `j`
in the linearization.  (Calls of one thread never overlap: the earlier one's `fin` is below the later
one's `inv`, so program order is the special case.) -/
theorem linearizable_realtime (w : Nat) (progs : List (List Op)) (sched : List Nat) :
    let ts := StateRT.runT (StateRT.TSys.init w progs) sched
    let s := run (Sys.init w progs) sched
    ts.sys = s ∧ ts.thist.map (·.ev) = s.hist ∧
    Lin w (ts.thist.map (·.ev)) s.mem ∧
    (∀ t th, s.thr[t]? = some th → ∃ p, progs[t]? = some p ∧
      (proj t (ts.thist.map (·.ev))).map (·.op) ++ th.ops = p ∧ th.rets = (proj t (ts.thist.map (·.ev))).map (·.ret)) ∧
    (∀ te ∈ ts.thist, te.inv ≤ te.fin ∧ te.fin < sched.length) ∧
    (∀ i j (hi : i < ts.thist.length) (hj : j < ts.thist.length), ts.thist[i].fin < ts.thist[j].inv → i < j) ∧
    (∀ i j (hi : i < ts.thist.length) (hj : j < ts.thist.length), i < j →
      ts.thist[i].ev.tid = ts.thist[j].ev.tid → ts.thist[i].fin < ts.thist[j].inv) := by
  intro ts s
  obtain ⟨hsys, hT, hnow⟩ : ts.sys = s ∧ _ := StateRT.tinv_reach w progs sched
  have hI := inv_reach w progs sched
  have he : ts.thist.map (·.ev) = s.hist := hsys ▸ hT.erase
  exact ⟨hsys, he, he ▸ hI.lin, he ▸ hI.thr, fun te hte => hnow ▸ hT.bound te hte,
    StateRT.realtime_of_sorted hT.sorted fun te hte => (hT.bound te hte).1,
    fun i j hi hj => List.pairwise_iff_getElem.mp hT.prog i j hi hj⟩

/-- non-vacuity of `linearizable_realtime`: two threads, thread 1's first call overlaps thread 0's
(failed compare-and-swap, retry), thread 0's second call starts after thread 1 returned: the log
is (thread, inv, fin) = (1,1,2), (0,0,5), (0,6,7). -/
example :
    let ts := StateRT.runT (StateRT.TSys.init 0 [[.set stClosing, .set stSeen], [.set stReady]]) [0, 1, 1, 0, 0, 0, 0, 0]
    ts.thist.map (fun te => (te.ev.tid, te.inv, te.fin)) = [(1, 1, 2), (0, 0, 5), (0, 6, 7)] ∧
    ts.sys.completed = true ∧ ts.sys.casFail = 1 := by decide

/-- **`SetChannel` is not linearizable as one operation** (proved negation; finding
`not-linearizable:SetChannel:both-report-changed`).  Two threads call `SetChannel(true)` on word 0;
both perform their `ChannelValue()` load before either performs its `Set`: both return `true`
("changed"), whereas in each of the two sequential orders the second call meets the standing request
and returns `false`.  The final word is the sequential one — only the report is duplicated (in c2 the
one caller, `Session.SetChannel`, then queues the channel packet twice). -/
theorem setChannel_not_linearizable :
    let progs : List (List StateAcc.Call) := [[.setChannel true], [.setChannel true]]
    let s := StateAcc.runA (StateAcc.ASys.init 0 progs) [0, 1, 0, 0, 0, 0, 1, 1, 1, 1]
    s.completed = true ∧ s.thr.map (·.rets) = [[1], [1]] ∧ s.mem = stChannelValue ||| stChannelUpdated ∧
    StateAccLin.seqOutcomes 0 progs = [(stChannelValue ||| stChannelUpdated, [[1], [0]]), (stChannelValue ||| stChannelUpdated, [[0], [1]])] ∧
    StateAccLin.linearizableA 0 progs [0, 1, 0, 0, 0, 0, 1, 1, 1, 1] = false := by decide

/-- **`SetChannel(false)` has no linearization point** (proved negation; finding
`not-linearizable:SetChannel:off-straddles`): its guard `(!Channel() || !ChannelProxy()) &&
!ChannelValue()` is three loads.  Word = `ChannelValue`; thread 0 loads `Channel` (clear), thread 1
runs `Set(Channel|ChannelProxy)` and `Unset(ChannelValue)`, thread 0 loads `ChannelValue` (clear now)
and returns `false` ("nothing to cancel") without raising the notice — yet at every moment of the
execution the request differed from the standing one (`standing _ false = false` on all three words
the memory ever held), and every sequential order returns `true` and raises the notice. -/
theorem setChannel_off_no_linearization_point :
    let progs : List (List StateAcc.Call) :=
      [[.setChannel false], [.prim (.set (stChannel ||| stChannelProxy)), .prim (.unset stChannelValue)]]
    let s := StateAcc.runA (StateAcc.ASys.init stChannelValue progs) [0, 1, 1, 1, 1, 0]
    s.completed = true ∧ s.thr.map (·.rets) = [[0], [1, 1]] ∧ s.mem = stChannel ||| stChannelProxy ∧
    standing stChannelValue false = false ∧ standing (stChannelValue ||| stChannel ||| stChannelProxy) false = false ∧
    standing (stChannel ||| stChannelProxy) false = false ∧
    (∀ o ∈ StateAccLin.seqOutcomes stChannelValue progs, o = (stChannel ||| stChannelProxy ||| stChannelUpdated, [[1], [1, 1]])) ∧
    StateAccLin.linearizableA stChannelValue progs [0, 1, 1, 1, 1, 0] = false := by decide

/-- **`Tag` BEFORE the repair was not linearizable with two concurrent taggers** (witness about the
original access program `Call.origTag`: `Seen()` load, then `Unset(stateSeen)`; repaired finding
`not-linearizable:Tag:both-report-seen`): both callers load before either clears, both return
`true`; sequentially exactly one does. -/
theorem orig_tag_not_linearizable :
    let progs : List (List StateAcc.Call) := [[.origTag], [.origTag]]
    let s := StateAcc.runA (StateAcc.ASys.init stSeen progs) [0, 1, 0, 0, 1, 1]
    s.completed = true ∧ s.thr.map (·.rets) = [[1], [1]] ∧ s.mem = 0 ∧
    StateAccLin.seqOutcomes stSeen progs = [(0, [[1], [0]]), (0, [[0], [1]])] ∧
    StateAccLin.linearizableA stSeen progs [0, 1, 0, 0, 1, 1] = false := by decide

/-- …the repaired `Tag` (`return s.tryUnset(stateSeen)`: one compare-and-swap loop) on the same
schedule: thread 1's compare-and-swap fails, it reloads, finds the mark gone and reports `false`;
exactly one tagger wins and the outcome is a sequential one. -/
theorem repaired_tag_same_schedule :
    let progs : List (List StateAcc.Call) := [[.tag], [.tag]]
    let s := StateAcc.runA (StateAcc.ASys.init stSeen progs) [0, 1, 0, 0, 1, 1]
    s.completed = true ∧ s.thr.map (·.rets) = [[1], [0]] ∧ s.mem = 0 ∧ s.casFail = 1 ∧
    StateAccLin.linearizableA stSeen progs [0, 1, 0, 0, 1, 1] = true := by decide

/-- **The repaired `Tag` is the test-and-clear primitive**: its access program and its sequential
meaning are those of the direct call `tryUnset(stateSeen)`, so every all-schedule theorem about the
primitives (`linearizable`, `linearizable_realtime`, `test_and_clear_single_winner` with `k = kSeen`:
of any number of concurrent taggers exactly one reports the mark) is a theorem about `Tag`. -/
theorem tag_is_test_and_clear :
    StateAcc.Call.tag.meth = (StateAcc.Call.prim (.tryUnset stSeen)).meth ∧ stSeen = 2 ^ kSeen ∧ kSeen < 16 ∧
    ∀ w, StateAcc.Call.tag.seq w = (StateAcc.Call.prim (.tryUnset stSeen)).seq w := by
  refine ⟨rfl, by decide, by decide, fun w => ?_⟩
  simp only [StateAcc.Call.seq, tag_eq_tryUnset, Op.apply, Op.ret]

/-- **A two-load predicate could report a combination that never existed** (witness about the
original access program `Call.origReady`: `Closed()` load, then a second load; repaired finding
`not-linearizable:Ready:straddles-close`): `Ready()` loads `Closed` (clear), another thread runs
`Set(stateClosed)` and then `Set(stateReady)`, `Ready()` loads `Ready` (set) and returns `true` — the
word was never "ready and not closed" (it was 0, closed, closed|ready), every sequential order
returns `false`, and the call returned `true` after the session was closed. -/
theorem orig_ready_not_linearizable :
    let progs : List (List StateAcc.Call) := [[.origReady], [.prim (.set stClosed), .prim (.set stReady)]]
    let s := StateAcc.runA (StateAcc.ASys.init 0 progs) [0, 1, 1, 1, 1, 0]
    s.completed = true ∧ s.thr.map (·.rets) = [[1], [1, 1]] ∧ s.mem = stClosed ||| stReady ∧
    ready 0 = false ∧ ready stClosed = false ∧ ready (stClosed ||| stReady) = false ∧
    (∀ o ∈ StateAccLin.seqOutcomes 0 progs, o = (stClosed ||| stReady, [[0], [1, 1]])) ∧
    StateAccLin.linearizableA 0 progs [0, 1, 1, 1, 1, 0] = false := by decide

/-- …the repaired `Ready` (one load) on the same schedule answers `false` and the outcome is the
sequential one. -/
theorem repaired_ready_same_schedule :
    let progs : List (List StateAcc.Call) := [[.ready], [.prim (.set stClosed), .prim (.set stReady)]]
    let s := StateAcc.runA (StateAcc.ASys.init 0 progs) [0, 1, 1, 1, 1, 0]
    s.completed = true ∧ s.thr.map (·.rets) = [[0], [1, 1]] ∧ s.mem = stClosed ||| stReady ∧
    StateAccLin.linearizableA 0 progs [0, 1, 1, 1, 1, 0] = true := by decide

/-- **The repaired predicates are single atomic reads of the sequential predicate.**  `Ready`,
`CanRecv`, `ChannelCanStart`, `Closing` / `Shutdown` / `RecvClosed` / `SendClosed` / `WakeClosed`
(and the plain flag reads and `Last`) perform exactly ONE shared-memory access, and what they return
is the sequential predicate (`Call.seq`, the functions `closed_dominates` is about) of the word that
access read, the word being left alone.  The load is the linearization point: under every schedule
the answer is the truth about a word the session really held, so a word with the closed flag never
yields ready / receivable / startable / non-closing. -/
theorem predicates_are_single_loads (c : StateAcc.Call)
    (hc : c = .ready ∨ c = .canRecv ∨ c = .canStart ∨ c = .last ∨ (∃ m, c = .dom m) ∨ (∃ m, c = .simple m)) :
    ∃ k, c.meth = .load k ∧ ∀ w, k w = .ret (c.seq w).2 ∧ (c.seq w).1 = w := by
  have key : ∀ k, c.meth = .load k → ∀ w r, k w = .ret r → k w = .ret (c.seq w).2 ∧ (c.seq w).1 = w :=
    fun k hk w r hr => by rw [StateAcc.seq_of_load_ret hk hr]; exact ⟨hr, rfl⟩
  rcases hc with rfl | rfl | rfl | rfl | ⟨m, rfl⟩ | ⟨m, rfl⟩
  all_goals exact ⟨_, rfl, fun w => key _ rfl w _ rfl⟩

/-- **Tie of the access lists.** For every method of `*state` in c2/state.go the flattened sequence
of `atomic.LoadUint32` (1) / `CompareAndSwapUint32` (3) calls and retry loops (4 … 5), callee
methods inlined, regenerated from the current source by go/parser, IS the model's table
`StateAccShape.accessLists` (26 methods).  One more or one fewer access, a reordered one, a
`Store` (2), another atomic primitive (6), a new or renamed method: this no longer checks. -/
theorem access_lists_match_source : Facts.c13AccessLists = StateAccShape.accessLists := by decide

/-- …and the access programs of the interleaving model follow that table: for EVERY call and
EVERY word, the accesses the program `c.meth` performs when it runs alone (`trace`: 1 per load; 4 1 3 5
per pass of a read-modify-write loop, 4 1 5 when it returns early) are a sublist of the row of each
source method the call stands for — the program takes one path through the source, never an access
the source does not have, never in another order. -/
theorem model_accesses_follow_source (c : StateAcc.Call) (w : Nat) :
    (StateAccShape.Call.fns c).all (StateAccShape.within (StateAccShape.trace 8 c.meth w)) = true :=
  StateAccShape.trace_sublist c w

/-- coverage: one row of each shape is reached in full (one word per row; the two rows with exclusive
branches — `ChannelCanStop`, `SetChannel` — by the words of their branches), except the three loads of the
`SetChannel` row that are arguments of its bugtrack message, which no access program performs -/
example :
    StateAccShape.trace 8 (StateAcc.Call.canRecv).meth stCanRecv = [1] ∧
    StateAccShape.trace 8 (StateAcc.Call.canStart).meth 0 = [1] ∧
    StateAccShape.trace 8 (StateAcc.Call.tag).meth stSeen = [4, 1, 3, 5] ∧
    StateAccShape.trace 8 (StateAcc.Call.canStop).meth (stChannel ||| stChannelUpdated) = [1, 1, 4, 1, 3, 5, 1] ∧
    StateAccShape.trace 8 (StateAcc.Call.canStop).meth stChannel = [1, 1, 4, 1, 5, 1] ∧
    StateAccShape.trace 8 (StateAcc.Call.setChannel true).meth 0 = [1, 4, 1, 3, 5, 4, 1, 3, 5] ∧
    StateAccShape.trace 8 (StateAcc.Call.setChannel false).meth (stChannel ||| stChannelValue) = [1, 1, 1, 4, 1, 3, 5, 4, 1, 3, 5] ∧
    StateAccShape.trace 8 (StateAcc.Call.ready).meth 0 = [1] ∧
    StateAccShape.trace 8 (StateAcc.Call.dom stClosing).meth 0 = [1] ∧
    StateAccShape.trace 8 (StateAcc.Call.prim (.trySet stClosing)).meth 0 = [4, 1, 3, 5] := by decide

/-- **Every interleaving of ALL methods is a sequential history of read-modify-write primitives.**
Threads run arbitrary programs over every method of c2/state.go, each method being the sequence of
atomic loads and compare-and-swap loops the source performs (`StateAcc.Call.meth`; `SetChannel` =
1–3 loads + two loops, `Tag` = one loop, `ChannelCanStop` = 2 loads + loop + load, …).  For EVERY
schedule there is a history `lin` of primitives (`Set` / `Unset` / `SetLast` / `tryUnset` / `trySet`,
called directly or from inside a compound method) that is a legal sequential execution from the
initial word ending in the current word, in which every primitive belongs to a call of the issuing
thread's program (`Call.prims`), and which contains every directly called primitive that has
returned.  Consequently no compound method can lose or corrupt what another thread's primitive did:
the word is always the result of applying whole primitives one after the other. -/
theorem acc_linearizable_prims (w : Nat) (progs : List (List StateAcc.Call)) (sched : List Nat) :
    let s := StateAcc.runA (StateAcc.ASys.init w progs) sched
    ∃ lin, Lin w lin s.mem ∧ s.thr.length = progs.length ∧
      (∀ e ∈ lin, ∃ p, progs[e.tid]? = some p ∧ ∃ c ∈ p, e.op ∈ StateAccInv.Call.prims c) ∧
      ∀ t th, s.thr[t]? = some th → ∃ done, progs[t]? = some (done ++ th.calls) ∧
        ∀ op, StateAcc.Call.prim op ∈ done → ∃ e ∈ lin, e.op = op ∧ e.tid = t := by
  obtain ⟨lin, hi⟩ := StateAccInv.ginv_reach w progs sched
  exact ⟨lin, hi.lin, hi.len, hi.ops, fun t th ht => (hi.thr t th ht).imp fun _ h => ⟨h.1, h.2.1⟩⟩

/-- **No update of another flag is lost, whatever compound methods run next to it.**  Flag bit
`k < 16`; no call of any thread can clear it (`Call.prims`: `SetChannel(false)` clears only
ChannelValue, `Tag` only Seen, `ChannelCanStop` only ChannelUpdated).  Then under EVERY schedule:
if the bit was set initially it is set in every intermediate word, and once a thread has returned
from a direct `Set` / `trySet` of it (`done`), it is set — `SetChannel`, `Tag`, `ChannelCanStop` and
the predicates in flight in other threads notwithstanding.  Dually for clears. -/
theorem acc_no_lost_flag_update (w : Nat) (progs : List (List StateAcc.Call)) (sched : List Nat) (k : Nat) (hk : k < 16) :
    let s := StateAcc.runA (StateAcc.ASys.init w progs) sched
    ((∀ p ∈ progs, ∀ c ∈ p, ∀ op ∈ StateAccInv.Call.prims c, op.clears k = false) →
      (w.testBit k = true → s.mem.testBit k = true) ∧
      (∀ (t : Nat) (th : StateAcc.AThread) (done : List StateAcc.Call) (op : Op), s.thr[t]? = some th → progs[t]? = some (done ++ th.calls) → StateAcc.Call.prim op ∈ done →
        op.sets k = true → s.mem.testBit k = true)) ∧
    ((∀ p ∈ progs, ∀ c ∈ p, ∀ op ∈ StateAccInv.Call.prims c, op.sets k = false) →
      (w.testBit k = false → s.mem.testBit k = false) ∧
      (∀ (t : Nat) (th : StateAcc.AThread) (done : List StateAcc.Call) (op : Op), s.thr[t]? = some th → progs[t]? = some (done ++ th.calls) → StateAcc.Call.prim op ∈ done →
        op.clears k = true → s.mem.testBit k = false)) := by
  obtain ⟨_, hi⟩ := StateAccInv.ginv_reach w progs sched
  exact ⟨StateAccInv.ginv_no_lost true hi hk, StateAccInv.ginv_no_lost false hi hk⟩

/-- **'closed' stays, at every intermediate state, under all methods**: if no call of any program
clears the closed flag (no call site in c2 does), a closed word is closed after every prefix of every
schedule — `SetChannel`, `Tag`, `ChannelCanStop`, `SetLast` and all flag traffic included. -/
theorem acc_closed_stays (w : Nat) (progs : List (List StateAcc.Call)) (sched : List Nat)
    (hc : ∀ p ∈ progs, ∀ c ∈ p, ∀ op ∈ StateAccInv.Call.prims c, op.clears kClosed = false)
    (hw : closed w = true) : closed (StateAcc.runA (StateAcc.ASys.init w progs) sched).mem = true := by
  have h := ((acc_no_lost_flag_update w progs sched kClosed (by decide)).1 hc).1
  rw [closed, has_stClosed] at hw ⊢
  exact h hw

/-- **'closed' dominates, access by access** (partial): every dominated method starts with a load
whose value it tests for the closed flag, and if that load sees a closed word the method returns the
dominated answer at once, without a further access.  With `acc_closed_stays` (every load of a run that started closed
sees a closed word) this is why a call on a closed session answers as closed under every schedule. -/
theorem acc_closed_dominates_partial (c : StateAcc.Call) (v : Nat) (hv : StateAccInv.closedAnswer c = some v) :
    ∃ k, c.meth = .load k ∧ ∀ w, closed w = true → k w = .ret v := by
  cases c <;> simp only [StateAccInv.closedAnswer] at hv <;> cases hv <;> refine ⟨_, rfl, ?_⟩ <;> intro w hw <;>
    simp only [closed] at hw <;> simp [hw, StateAcc.b2n]
-- OPEN: the composed statement — for all programs without a call that clears the closed flag, all
-- schedules and a closed initial word, every result of a call `c` with `StateAccInv.closedAnswer c = some v`
-- recorded in `rets` equals `v` — needs the results aligned with the calls in the invariant; it is
-- checked on the real code by the oracles `closed-dominates-concurrent:*` (groups acc, s3lin).

/-- non-vacuity: SetChannel(true) in flight (its load done, both loops pending) while thread 1 sets
Ready and thread 2 runs Tag; every prefix keeps Ready once set, and the final word has all updates -/
example :
    let progs : List (List StateAcc.Call) := [[.setChannel true], [.prim (.set stReady)], [.tag]]
    let s := StateAcc.runA (StateAcc.ASys.init stSeen progs) [0, 2, 1, 0, 1, 0, 2, 2, 2, 0, 0, 0, 0]
    s.completed = true ∧ s.mem = stReady ||| stChannelValue ||| stChannelUpdated ∧ s.casFail = 2 ∧
    (∀ p ∈ progs, ∀ c ∈ p, ∀ op ∈ StateAccInv.Call.prims c, op.clears kReady = false) := by decide

/-- The hand-written predicates of the model (XMT/State.lean, the list the differential run compares
with the real code) are, for every word, exactly the regenerated translations of the source's own
predicate functions (go/cmd/xmth/xlate.go → `Facts.x_c2_state_*`, on every run): a change of any mask
or connective in c2/state.go changes the right-hand side and this theorem no longer checks. -/
theorem src_state_predicates (s : Nat) : State.predicates s =
    [Facts.x_c2_state_Seen s, Facts.x_c2_state_Ready s, Facts.x_c2_state_Moving s, Facts.x_c2_state_Closed s,
     Facts.x_c2_state_CanRecv s, Facts.x_c2_state_Closing s, Facts.x_c2_state_Channel s,
     Facts.x_c2_state_Shutdown s, Facts.x_c2_state_Replacing s, Facts.x_c2_state_RecvClosed s,
     Facts.x_c2_state_SendClosed s, Facts.x_c2_state_WakeClosed s, Facts.x_c2_state_ShutdownWait s,
     Facts.x_c2_state_ChannelValue s, Facts.x_c2_state_ChannelProxy s, Facts.x_c2_state_ChannelUpdated s,
     Facts.x_c2_state_ChannelCanStart s] :=
  XMT.TieXlateState.predicates_eq s

/-- … and the 16-bit `Last` field accessor likewise. -/
theorem src_state_last (s : Nat) : Facts.x_c2_state_Last s = State.last s :=
  XMT.TieXlateState.x_c2_state_Last_eq s

/-- For every function of package c2 outside state.go, the union of the flag bits it may set and the
union of the bits it may clear (regenerated from the current source on every run) are the reviewed
ones. A function that starts clearing or setting a flag it did not touch before - e.g. a close path
that also drops the channel-proxy flag, which only clientSet / clientClear own - changes its row;
folding several calls into one with the same bits, or reordering them, does not. -/
theorem flag_masks_as_reviewed : Facts.c13FuncMasks = StateOwners.reviewed := by decide

/-- Consequence read off the regenerated table: the channel-proxy flag (the mirror of `s.chn != nil`)
is set only by the two clientSet functions and cleared only by the two clientClear functions; the
closed flag is set only by the shutdown / listen teardown paths and never cleared by anyone. -/
theorem flag_owners :
    StateOwners.setters Facts.c13FuncMasks 2048 = ["Listener.clientSet", "Proxy.clientSet"] ∧
    StateOwners.clearers Facts.c13FuncMasks 2048 = ["Listener.clientClear", "Proxy.clientClear"] ∧
    StateOwners.setters Facts.c13FuncMasks 4 = ["Listener.listen", "Proxy.listen", "Session.shutdown", "proxyClient.Close"] ∧
    StateOwners.clearers Facts.c13FuncMasks 4 = [] := by decide

/-- No method of package c2 with a VALUE receiver changes flags through that receiver (it would
change a copy and the update would be lost for every other holder of the Session / proxyClient):
the regenerated list of such methods is empty. -/
theorem no_value_receiver_mutators : Facts.c13ValueReceiverMutators = [] := by decide

end XMT.Props.C13
