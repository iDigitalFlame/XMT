/-
  C03 — Batching queued packets loses, duplicates or reorders nothing.
  Property theorems only. Model: XMT/Batch.lean (Session.next / nextPacket / writeUnpack /
  verifyPacket / isPacketNoP on the send side, the FlagMulti arm of receive on the receive side;
  nested codec from XMT/Packet.lean); lemmas: XMT/BatchLemmas.lean, BatchTags.lean, BatchNext.lean,
  BatchDrain.lean, BatchTagsWitness.lean, BatchDrawSim.lean, BatchDrawDrain.lean, BatchBlockLemmas.lean.
  The budgets `P` (limits.Packets) and `F` (limits.Frag) are parameters.

  Domain (`QWF`): queued packets are well-formed packets (C01) that are not themselves batches
  (no Multi / MultiDevice flag) and carry a non-empty device ID — what `Session.queue` enqueues for a
  session that is not relaying pre-batched proxy traffic. Tag lists are compared modulo `core`
  (tags are re-stamped / merged per transmission and are not among the fields the property names).

  Scope notes (see DESIGN.md Appendix B.5):
  * a queued packet with Job 0 and an ID above 1 gets a random Job in `verifyPacket`; `next` keeps
    Job 0 for it (the drawn number is not an input of `nextPacket`), so for such packets the theorems
    about `next` speak modulo the Job field. `nextD` (XMT/BatchDraw.lean) takes the drawn words as an
    input: `session_next_draws`, `drain_lossless_draws`.
  * the losslessness theorems hand the batch straight to the receiver's unpack loop. That the batch
    itself is marshalable is proved only under a tag budget (`transmission_marshals`,
    `drain_marshals`: the tag lists of everything the session holds fit `PacketMaxTags` together);
    without it two packets with long tag lists produce a batch that `Marshal` refuses after the
    packets were dequeued (`tags_overflow_witness`).
-/
import XMT.BatchTagsWitness
import XMT.BatchDrawDrain
import XMT.BatchBlockLemmas
namespace XMT.Props.C03
open XMT.Packet XMT.Batch

/-- **What a batch carries is what the receiver's handlers observe**: a batch built by packing any
list of queued packets (`Carries`) is unpacked by the receive side into exactly that list — each
packet once, in order, field for field (nested stream form of C01). -/
theorem unpack_what_was_packed (fuel : Nat) (o : Pkt) (acc : List Pkt) (hc : Carries o acc)
    (hne : acc ≠ []) (hacc : ∀ a ∈ acc, QWF a) : unpack (fuel + 2) o = .ok acc :=
  unpack_carries fuel hc hne hacc

/-- **The batching loop loses nothing and carries over what does not fit**: see `loop_spec`. -/
theorem loop_lossless (P F : Nat) (i : Bytes) (hP : P < Facts.fragMax) (fuel x s : Nat) (m : Bool)
    (o : Pkt) (n : Option Pkt) (q acc : List Pkt) (hc : Carries o acc) (hx : acc.length ≤ x)
    (hq : ∀ a ∈ n.toList ++ q, QWF a) (hn : n = none ∨ q ≠ []) :
    ∃ taken, Carries (loop P F i fuel x s m o n q).1 (acc ++ taken) ∧
      keepF (taken ++ (loop P F i fuel x s m o n q).2.1.toList ++ (loop P F i fuel x s m o n q).2.2)
        = keepF (n.toList ++ q) :=
  let ⟨_, taken, h, _⟩ := loop_spec P F i hP fuel x s m o n q acc _ rfl hc hx hq
  ⟨taken, h.carries, by rw [h.split, List.append_assoc, keepF_append, h.keep, ← keepF_append]⟩

/-- **One transmission**: for every budget `2 ≤ … P < 65535`, `F`, every queue content and packet
in hand, every tag list: what the peer unpacks from the transmission, followed by the carry-over
(`peek`) and the remaining queue, is — keep-alives and tag lists aside — exactly the packet in hand
followed by the queue: nothing lost, nothing duplicated, nothing reordered; what did not fit the
budget is carried over, not dropped. -/
theorem transmission_lossless (P F : Nat) (hP : P < Facts.fragMax) (i : Bytes) (t : List Nat)
    (n : Option Pkt) (q : List Pkt) (hq : ∀ a ∈ n.toList ++ q, QWF a) (hne : n.toList ++ q ≠ [])
    (X : List Nat) :
    ∃ o, (nextPacket P F q n i t).1 = some o ∧
      ∃ obs, unpack 3 { o with tags := X } = .ok obs ∧
        (keepF (obs ++ (nextPacket P F q n i t).2.1.toList ++ (nextPacket P F q n i t).2.2)).map core
          = (keepF (n.toList ++ q)).map core :=
  let ⟨o, _, _, h⟩ := nextPacket_spec P F hP i t n q hq hne
  let ⟨obs, hu, hk⟩ := h.obs X
  ⟨o, h.out, obs, hu, by
    rw [h.split, List.append_assoc]; exact keepF_core_append (hk.trans (congrArg _ h.keep)) rfl⟩

/-- **`Session.next`, one call**, including the carried-over packet (`peek`) and the
"sent on its own" shortcuts: see `next_spec`. -/
theorem session_next_lossless (P F : Nat) (hP : P < Facts.fragMax) (hP2 : 2 ≤ P) (i : Bytes) (st : St)
    (hlast : st.last = 0) (hq : ∀ a ∈ content st, QWF a) (o : Pkt) (ho : (next P F st i).1 = some o) :
    ∃ obs, unpack 3 o = .ok obs ∧
      (keepF (obs ++ content (next P F st i).2)).map core = (keepF (content st)).map core ∧
      (content (next P F st i).2).length < (content st).length :=
  match next_spec P F hP i st hlast hq with
  | .inl ⟨_, hn⟩ => nomatch (congrArg Prod.fst hn).symm.trans ho
  | .inr ⟨o', pre, obs, ho', hs, hne, _, hu, hk⟩ => by
    obtain rfl : o' = o := Option.some.inj (ho'.symm.trans ho)
    refine ⟨obs, hu, ?_, ?_⟩
    · rw [hs]; exact keepF_core_append hk rfl
    · rw [hs, List.length_append]; exact Nat.lt_add_of_pos_left (List.length_pos_iff.mpr hne)

/-- **All successive transmissions until the queue drains**: for every queue content (any number
of packets, any sizes, own or foreign devices, keep-alives in any position, with or without tags,
with or without a carried-over packet) and every budget, the sequence of packets the peer's
handlers observe is — keep-alives and tag lists aside — exactly the queued sequence, each once, in
order, with ID, job, device, flags and payload intact; the number of transmissions needed is at
most the number of queued packets. -/
theorem drain_lossless (P F : Nat) (hP : P < Facts.fragMax) (hP2 : 2 ≤ P) (i : Bytes) (st : St)
    (hlast : st.last = 0) (hq : ∀ a ∈ content st, QWF a) :
    ∃ obs, observe (drain P F i ((content st).length + 1) st) = .ok obs ∧
      (keepF obs).map core = (keepF (content st)).map core := by
  obtain ⟨dr, rest, h1, h2, obs, ho, hk⟩ := drain_spec mergeTags P F hP i _ st (Nat.lt_succ_self _) hq
  obtain rfl := dropped_nil hlast h2
  rw [drainM_mergeTags] at ho
  exact ⟨obs, ho, hk.trans (by rw [h1]; rfl)⟩

/-- **… and with a fragment group the peer asked to abandon** (`Last > 0`, the exception the
property names): the observed sequence is the queued sequence minus a *prefix* of packets that all
belong to the abandoned group — nothing else is ever missing, duplicated or reordered. -/
theorem drain_lossless_abandoned_group (P F : Nat) (hP : P < Facts.fragMax) (hP2 : 2 ≤ P) (i : Bytes)
    (st : St) (hq : ∀ a ∈ content st, QWF a) :
    ∃ dropped rest, content st = dropped ++ rest ∧
      (∀ d ∈ dropped, 0 < st.last ∧ Flag.group d.flags = st.last) ∧
      ∃ obs, observe (drain P F i ((content st).length + 1) st) = .ok obs ∧
        (keepF obs).map core = (keepF rest).map core :=
  drainM_mergeTags P F i _ st ▸ drain_spec mergeTags P F hP i _ st (Nat.lt_succ_self _) hq

/-! Non-vacuity: two keep-alives only (the repaired case) and a mixed queue. -/
def dev : Bytes := 3 :: List.replicate 31 0
def nop : Pkt := { id := 0, job := 0, flags := 0, tags := [], dev := dev, payload := [] }
def dat (j : Nat) : Pkt := { id := 0x20, job := j, flags := 0, tags := [], dev := dev, payload := [1, 2, 3] }
example : QWF (dat 5) := by
  refine ⟨⟨by decide, by decide, by decide, by intro t ht; simp [dat] at ht, by decide, by decide, by decide⟩,
    by decide, by decide⟩
example : (nextPacket 256 1000 [nop] (some nop) dev []).1 = some nop := by decide
example : ((nextPacket 256 1000 [nop, dat 6] (some (dat 5)) dev []).1.map (unpack 3)) =
    some (.ok [dat 5, dat 6]) := by rfl

/-! ## Is the batch handed out marshalable? (the merged tag list)

`writeUnpack` appends the tag list of every packed packet to the batch, `Session.next` stamps
`mergeTags(batch tags, tags of the packet picked first)` on what goes out, `Marshal` refuses more
than `PacketMaxTags` tags. `mergeTags` ranges over a Go map, so the theorems hold for EVERY merge
function `mg` with `IsMerge` (short-cuts literally, else duplicate-free union in any order);
`nextM mergeTags = next` and `nextM mg` differs from `next` in the tag list of the output only. -/

/-- **The tag list of one transmission**: what `nextPacket` hands out carries the tag lists of the
packets it packed, in order (followed by `t` on the single-packet path); packed packets, carry-over
and remaining queue are a sublist of the packet in hand followed by the queue. -/
theorem transmission_tags (P F : Nat) (hP : P < Facts.fragMax) (i : Bytes) (t : List Nat)
    (n : Option Pkt) (q : List Pkt) (hq : ∀ a ∈ n.toList ++ q, QWF a) (hne : n.toList ++ q ≠ []) :
    ∃ o taken, (nextPacket P F q n i t).1 = some o ∧
      (o.tags = tagsOf taken ∨ o.tags = tagsOf taken ++ t) ∧
      (taken ++ (nextPacket P F q n i t).2.1.toList ++ (nextPacket P F q n i t).2.2).Sublist (n.toList ++ q) :=
  let ⟨o, _, taken, h⟩ := nextPacket_spec P F hP i t n q hq hne
  ⟨o, taken, h.out, h.tags, by rw [h.split, List.append_assoc]; exact h.sub.append (.refl _)⟩

/-- **One `Session.next` call marshals when the queued tag lists fit together**: for every merge
function, every budget, every abandoned-group state and every content (queue and carried-over
packet) of queueable packets, what is handed out has at most as many tags as all held packets
together and no zero tag; so with `tagSum (content st) ≤ PacketMaxTags` the real `Marshal`
(`marshalWrites`) accepts it. The session afterwards holds a sublist of what it held. -/
theorem transmission_marshals (mg : List Nat → List Nat → List Nat) (hmg : ∀ a b, IsMerge a b (mg a b))
    (P F : Nat) (hP : P < Facts.fragMax) (i : Bytes) (st : St) (hq : ∀ a ∈ content st, QWF a)
    (hb : tagSum (content st) ≤ Facts.packetMaxTags) (o : Pkt) (ho : (nextM mg P F st i).1 = some o) :
    (∃ w, marshalWrites o = .ok w) ∧ (content (nextM mg P F st i).2).Sublist (content st) := by
  rcases nextM_spec mg P F hP i st hq with ⟨_, hn⟩ | ⟨n, q, hc, o', _, _, _, h⟩
  · exact nomatch (congrArg Prod.fst hn).symm.trans ho
  · rw [hc] at hq hb ⊢
    obtain rfl : o' = o := Option.some.inj (h.out.symm.trans ho)
    obtain ⟨h1, h2⟩ := h.marshals hmg hq
    exact ⟨(marshalWrites_ok_iff o').mpr ⟨Nat.le_trans h1 hb, h2⟩, h.rest.1.sublist⟩

/-- **Every transmission until the queue drains marshals** under the same hypothesis, for every
number of transmissions. -/
theorem drain_marshals (mg : List Nat → List Nat → List Nat) (hmg : ∀ a b, IsMerge a b (mg a b))
    (P F : Nat) (hP : P < Facts.fragMax) (i : Bytes) (fuel : Nat) (st : St) (hq : ∀ a ∈ content st, QWF a)
    (hb : tagSum (content st) ≤ Facts.packetMaxTags) :
    ∀ o ∈ drainM mg P F i fuel st, ∃ w, marshalWrites o = .ok w := by
  intro o ho
  obtain ⟨h1, h2⟩ := drainM_marshals mg P F hmg hP i fuel st hq o ho
  exact (marshalWrites_ok_iff o).mpr ⟨Nat.le_trans h1 hb, h2⟩

/-- the model's `next` is `nextM` with the model's (sorting) merge function, and the state after a
call does not depend on the merge function: the losslessness theorems above speak about `nextM` too -/
theorem nextM_is_next (P F : Nat) (st : St) (i : Bytes) :
    nextM mergeTags P F st i = next P F st i ∧
    ∀ mg, (nextM mg P F st i).2 = (next P F st i).2 :=
  ⟨rfl, fun mg => nextM_state mg P F st i⟩

-- OPEN (batch_wire_roundtrip): for the transmission `o` of `transmission_marshals`,
--   `Packet.unmarshal cf (marshalWrites o) = o` (C01's wire round trip). Needs `Packet.WF o` for a
--   batch: flags < 2^64 after SetLen / or, payload ≤ MaxSlice (a bound on limits.Frag); not proved.

/-- **The hypothesis is needed - a batch `Marshal` refuses** (negation on a witness): three
well-formed queueable packets, the first without tags, the other two with 16385 tags each (each
within `PacketMaxTags` = 32768 on its own), budget 256 packets / 32 MiB: the one transmission
`Session.next` builds dequeues all three, carries 32770 tags, and `Marshal` answers "tags list is
too large" - the three packets are lost. (`t = []` here, so `mergeTags` returns the batch's list
unchanged whatever the map order.) -/
theorem tags_overflow_witness :
    (∀ a ∈ content witnessSt, QWF a) ∧
    ∃ o, (next 256 33554432 witnessSt witnessDev).1 = some o ∧
      o.tags.length = 32770 ∧ marshalWrites o = .error .tooManyTags ∧
      content (next 256 33554432 witnessSt witnessDev).2 = [] :=
  ⟨witness_qwf, witness_overflow⟩

/-! Non-vacuity: a merge function exists (on the instance the model's own), the tag budget
hypothesis holds for a queue with tags. -/
example : ∃ mg : List Nat → List Nat → List Nat, ∀ a b, IsMerge a b (mg a b) := ⟨mergeRef, mergeRef_isMerge⟩
example : IsMerge [3, 1] [1, 2] [1, 2, 3] := by decide
example : ¬ IsMerge [3, 1] [1, 2] [1, 2, 3, 3] := by decide
example : IsMerge [] [1, 2] (mergeTags [] [1, 2]) := by decide
def tagged (j : Nat) (ts : List Nat) : Pkt := { dat j with tags := ts }
example : QWF (tagged 5 [1, 2]) := by
  refine ⟨⟨by decide, by decide, by decide, by decide, by decide, by decide, by decide⟩, by decide, by decide⟩
example : tagSum (content { q := [tagged 5 [1, 2], tagged 6 [2, 9]], peek := none, last := 0 }) ≤ Facts.packetMaxTags := by decide
example : ((nextM mergeRef 256 1000 { q := [tagged 5 [1, 2], tagged 6 [2, 9]], peek := none, last := 0 } dev).1.map (·.tags)) =
    some [9, 1, 2] := by decide

/-! ## The Job number `verifyPacket` draws

`XMT/BatchDraw.lean` is `Session.next` with the PRNG words as an input (`w : Nat → Nat`, `k` words
consumed so far): `verifyPacket` gives a packet queued with Job 0, ID above 1 and no Proxy flag the
Job `uint16(word)`. The differential run scripts the words (op `drainJ`), so model and code are
compared exactly, Job included. -/

/-- **The drawn Job is what the peer observes; nothing else changes**: `verifyPacket` with the next
word `w k` gives a packet that needs a Job the Job `w k mod 2^16` and consumes exactly that word;
every other packet keeps its Job and consumes nothing; ID, flags, tags and payload are untouched,
device and result are those of the draw-free `verify`. -/
theorem verify_draw (w : Nat → Nat) (n : Pkt) (i : Bytes) (k : Nat) :
    ((verifyD w n i k).1.job = if needsJob n then w k % 2^16 else n.job) ∧
    ((verifyD w n i k).2.2 = if needsJob n then k + 1 else k) ∧
    (verifyD w n i k).1.id = n.id ∧ (verifyD w n i k).1.flags = n.flags ∧
    (verifyD w n i k).1.tags = n.tags ∧ (verifyD w n i k).1.payload = n.payload ∧
    (verifyD w n i k).1.dev = (verify n i).1.dev ∧ (verifyD w n i k).2.1 = (verify n i).2 := by
  unfold verifyD stamp verify
  by_cases h : needsJob n = true
  · simp only [h, if_true]
    by_cases hd : devEmpty n.dev = true <;> simp [hd]
  · simp only [h]
    by_cases hd : devEmpty n.dev = true <;> simp [hd]

/-- **Where nothing needs a Job the model with draws is the model without**: for every word stream,
budget and state whose packets all carry a Job (or have ID ≤ 1 or the Proxy flag), `nextD` hands out
what `next` hands out, leaves the same state and consumes no word - every theorem above is a theorem
about `nextD` on that domain. -/
theorem next_with_draws_agrees (w : Nat → Nat) (P F : Nat) (st : St) (i : Bytes) (k : Nat)
    (hq : ∀ a ∈ content st, needsJob a = false) :
    nextD w P F st i k = ((next P F st i).1, (next P F st i).2, k) := by
  cases hc : content st with
  | nil => rw [nextD_nil w P F i k hc, ← nextM_mergeTags, nextM_nil mergeTags P F i hc]
  | cons n q =>
    rw [nextD_cons w P F i k hc, ← nextM_mergeTags, nextM_cons mergeTags P F i hc]
    exact nextFromD_no_draw w P F st.last i n q k (hc ▸ hq)

/-- **One `Session.next` call with Job draws is the draw-free call on the pre-stamped session**: for
every word stream, budget and session (no abandoned group pending) there is a session `st₁` whose
content is the content of `st`, packet for packet, where only packets that needed a Job may differ
and only in carrying the low 16 bits of a drawn word as Job (`LR`), such that `nextD` hands out
exactly what `next` hands out on `st₁` and leaves exactly the same state: the batching code never
looks at the Job field, so `session_next_lossless` applies to `st₁`. -/
theorem session_next_draws (w : Nat → Nat) (P F : Nat) (st : St) (i : Bytes) (k : Nat) (hl : st.last = 0) :
    ∃ st₁ : St, LR w (content st) (content st₁) ∧ st₁.last = 0 ∧
      (nextD w P F st i k).1 = (next P F st₁ i).1 ∧ (nextD w P F st i k).2.1 = (next P F st₁ i).2 :=
  let ⟨st₁, _, h, hl₁, he⟩ := nextD_stamped w P F st i k
  ⟨st₁, h.lr, hl₁.trans hl, by rw [he], by rw [he]⟩

/-- **All successive transmissions with Job draws**: for every word stream, every budget and every
content of queueable packets (packets queued without a Job included), what the peer's handlers
observe until the queue drains is - keep-alives and tag lists aside - a sequence `L` that is the
queued sequence packet for packet (`LR`): a packet that did not need a Job is intact, a packet that
needed one is intact except that its Job is `w j mod 2^16` for a word index `j`. -/
theorem drain_lossless_draws (w : Nat → Nat) (P F : Nat) (hP : P < Facts.fragMax) (hP2 : 2 ≤ P)
    (i : Bytes) (st : St) (k : Nat) (hlast : st.last = 0) (hq : ∀ a ∈ content st, QWF a) :
    ∃ obs L, observe (drainD P F w i ((content st).length + 1) st k) = .ok obs ∧
      LR w (content st) L ∧ (keepF obs).map core = (keepF L).map core := by
  obtain ⟨dr, L, h1, h2, obs, ho, hk⟩ := drainD_spec P F w hP i _ st k (Nat.lt_succ_self _) hq
  obtain rfl := dropped_nil hlast h2
  exact ⟨obs, L, ho, h1, hk⟩

-- OPEN (drain_lossless_draws_abandoned_group): the same with a fragment group the peer asked to
--   abandon pending (`st.last > 0`) is not stated here as a property theorem; the lemmas the two
--   theorems above instantiate (`nextD_stamped`, `drainD_spec`) are proved for every `last`.
-- OPEN (draw_order): WHICH word a packet gets (`j` = number of words consumed before it, in the order
--   the packets are packed) is fixed by the model and compared exactly by the differential group
--   `jobdraw`, but `LR` only says "some word".

example : LR (fun k => 70000 + k) [dat 0, dat 7] [dat 4464, dat 7] :=
  .cons (Or.inr ⟨by decide, 0, rfl⟩) (.cons (Or.inl rfl) .nil)
example : needsJob (dat 0) = true := by decide
example : needsJob (dat 5) = false := by decide
example : (verifyD (fun k => 70000 + k) (dat 0) dev 3).1.job = 4467 := by decide
example : ((nextD (fun k => 70000 + k) 256 1000 { q := [dat 0, dat 0], peek := none, last := 0 } dev 0).1.map (unpack 3)) =
    some (.ok [dat 4464, dat 4465]) := by rfl

/-- **With something to send `next(i)` is the proven `next` in every mode**, and with nothing to
send it blocks (state untouched), returns nothing, or sends the idle packet and leaves an empty
session: no arm of `pick` touches a queued packet other than by handing it to the batching code. -/
theorem next_all_arms (P F : Nat) (md : Mode) (ib : Bool) (ks : Option Bytes) (st : St) (i : Bytes) :
    (content st ≠ [] → nextB P F md ib ks st i = (Tx.ofOption (next P F st i).1, (next P F st i).2)) ∧
    (content st = [] →
      (nextB P F md ib ks st i = (.blocked, st)) ∨
      (nextB P F md ib ks st i = (.nothing, { st with peek := none })) ∨
      (nextB P F md ib ks st i = (.sent (idlePkt i ks), { q := [], peek := none, last := 0 }))) :=
  ⟨nextB_nonempty P F md ib ks st i, nextB_empty P F md ib ks st i⟩

/-- **Histories mixing `next(true)`, `next(false)` and `queue` lose nothing**: for every budget,
every session mode per call (client / server side, channel mode on or off), every `keyNextSync`
outcome per call and every interleaving of calls with `queue` events, starting from any content of
queueable packets: what the peer unpacks from the transmissions that were made with something to
send, followed by what the session still holds at the end, is - keep-alives and tag lists aside -
exactly what it held at the start followed by what was queued since, each once, in order. A call
with nothing to send blocks (state untouched), returns nothing, or sends the idle packet (a bare
keep-alive or the re-key announcement) and never touches a queued packet. -/
theorem mixed_calls_lossless (P F : Nat) (hP : P < Facts.fragMax) (hP2 : 2 ≤ P) (i : Bytes)
    (es : List Ev) (st : St) (hl : st.last = 0) (hq : ∀ a ∈ content st, QWF a)
    (hqe : ∀ a ∈ queuedOf es, QWF a) :
    ∃ obs, observe (carrying (runB P F i es st).1) = .ok obs ∧
      (keepF (obs ++ content (runB P F i es st).2)).map core
        = (keepF (content st ++ queuedOf es)).map core ∧
      (∀ x ∈ (runB P F i es st).1, x.2 = true → ∃ ks, x.1 = idlePkt i ks) := by
  induction es generalizing st with
  | nil => exact ⟨[], rfl, congrArg (fun l => (keepF l).map core) (List.append_nil _).symm, nofun⟩
  | cons e es ih =>
    cases e with
    | queue p =>
      have hc : content { st with q := st.q ++ [p] } = content st ++ [p] := (List.append_assoc _ _ _).symm
      obtain ⟨obs, h1, h2, h3⟩ := ih { st with q := st.q ++ [p] } hl
        (fun a ha => by
          rcases List.mem_append.mp (hc ▸ ha) with ha | ha
          · exact hq a ha
          · rw [List.mem_singleton.mp ha]; exact hqe p List.mem_cons_self)
        (fun a ha => hqe a (List.mem_cons_of_mem _ ha))
      rw [runB_queue]
      exact ⟨obs, h1, by rw [h2, hc, List.append_assoc]; rfl, h3⟩
    | call md ib ks =>
      by_cases hc : content st = []
      · -- nothing to send
        obtain ⟨x, st', hstep, hc', hl', hx⟩ := stepB_empty P F md ib ks st i hc hl
        obtain ⟨obs, h1, h2, h3⟩ := ih st' hl' (by rw [hc']; exact nofun) hqe
        rw [runB_call P F i md ib ks es hstep]
        refine ⟨obs, ?_, by rw [h2, hc', hc]; rfl, fun y hy => ?_⟩
        · rcases hx with rfl | rfl <;> exact h1
        · rcases List.mem_append.mp hy with hy | hy
          · rcases hx with rfl | rfl
            · cases hy
            · rw [List.mem_singleton.mp hy]; exact fun _ => ⟨ks, rfl⟩
          · exact h3 y hy
      · -- something to send: the model `next`
        rcases next_spec P F hP i st hl hq with ⟨h0, _⟩ | ⟨o, pre, obs1, ho, hs, _, hl', hu, hk⟩
        · exact absurd h0 hc
        · obtain ⟨obs2, h1, h2, h3⟩ := ih (next P F st i).2 hl'
            (fun a ha => hq a (by rw [hs]; exact List.mem_append_right _ ha)) hqe
          rw [runB_call P F i md ib ks es (stepB_nonempty P F md ib ks i hc ho)]
          refine ⟨obs1 ++ obs2, observe_cons_ok hu h1, ?_, fun x hx => ?_⟩
          · show (keepF (obs1 ++ obs2 ++ _)).map core = (keepF (content st ++ queuedOf es)).map core
            rw [List.append_assoc, hs, List.append_assoc]; exact keepF_core_append hk h2
          · rcases List.mem_cons.mp hx with rfl | hx
            · exact nofun
            · exact h3 x hx

/-- a call blocked in the server-side channel arm completes, when a packet is queued, as a call on
that packet -/
theorem blocked_call_resumes (P F : Nat) (st : St) (i : Bytes) (p : Pkt) (hp : st.peek = none) :
    resume P F st i p =
      (Tx.ofOption (next P F { st with q := p :: st.q } i).1, (next P F { st with q := p :: st.q } i).2) := by
  rw [← nextM_mergeTags, nextM_cons mergeTags P F i (n := p) (q := st.q) (by rw [content, hp]; rfl)]
  rfl

def srvChan : Mode := { client := false, parentNil := false, channel := true }
def cliPoll : Mode := { client := true, parentNil := true, channel := false }
example : (nextB 256 1000 srvChan false none { q := [], peek := none, last := 0 } dev).1 matches .blocked := by decide
example : (nextB 256 1000 cliPoll true none { q := [], peek := none, last := 0 } dev).1 matches .nothing := by decide
example : (nextB 256 1000 cliPoll false none { q := [], peek := none, last := 0 } dev).1 matches .sent _ := by decide
example : carrying (runB 256 1000 dev [.call cliPoll false none, .queue (dat 5), .call srvChan false none, .queue (dat 6),
    .call cliPoll true none] { q := [], peek := none, last := 0 }).1 = [dat 5, dat 6] := by rfl

end XMT.Props.C03
