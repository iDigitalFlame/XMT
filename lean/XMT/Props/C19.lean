/-
  C19 — Sleep, jitter, work hours and kill date gate activity exactly as configured.
  Property theorems only; models in XMT/{Work,Jitter,ClientLoop}.lean, lemmas in
  XMT/{Work,Jitter,ClientLoop}Lemmas.lean, the tie to the regenerated delay computation in XMT/TieXlateWait.lean.

  The literals the Go code compares against (`> 126`, `< 127`, `> 23`, `> 60`, `< 101`, `== 100`,
  `w <= 0`, where the kill date is tested) are read from the current source into `XMT.Facts`;
  what a proof needs from them is the decidable proposition `…FactsOK`, closed by `decide` inside
  each proof, so a change of one of those literals re-runs the proofs against the new value.
-/
import XMT.ClientLoopLemmas
import XMT.TieXlateWait
namespace XMT.Props.C19
open XMT.Work XMT.Jitter XMT.Client

/-- For every rule whose end is not before its start and every instant of a (DST-free) day:
`Work()` says "wait" (> 0) exactly when the local time is outside the configured days /
start–end window and "go" (= 0) otherwise; the wait is never longer than a day. -/
theorem work_spec (r : Rule) (t : Inst) (ht : t.WF) (hr : EndNotBeforeStart r) :
    (0 < work r t ↔ Outside r t) ∧ (work r t = 0 ↔ ¬ Outside r t) ∧
    0 ≤ work r t ∧ work r t ≤ nsDay := by
  have hf : Work.FactsOK := by decide
  have hrange := Client.work_range hf r t ht
  have key : 0 < work r t ↔ Outside r t := by
    rw [work_eq_workSpec hf r t ht]
    exact workSpec_pos_iff hf r t ht hr
  exact ⟨key, by rw [← key]; omega, hrange⟩

/-- `Work()` never returns a negative duration or more than a day, for every rule whatsoever
(out-of-range fields, end before start). -/
theorem work_range (r : Rule) (t : Inst) (ht : t.WF) : 0 ≤ work r t ∧ work r t ≤ nsDay :=
  Client.work_range (by decide) r t ht

/-- What is waited for: the next local midnight when the day is not selected, today's start when it
is still ahead, tomorrow's start once the end has passed. -/
theorem work_value (r : Rule) (t : Inst) (ht : t.WF) (hr : EndNotBeforeStart r) :
    (¬ dayIn r t.wd → work r t = nsDay - t.ns) ∧
    (dayIn r t.wd → t.ns < startOf r → work r t = startOf r - t.ns) ∧
    (dayIn r t.wd → ∀ e, endOf r = some e → e < t.ns → work r t = startOf r + nsDay - t.ns) := by
  rw [work_eq_workSpec (by decide) r t ht]
  exact ⟨workSpec_dayOut, workSpec_before, fun hd _ he hlt => workSpec_after hr hd he hlt⟩

/-- An `Empty()` rule never makes the client wait. -/
theorem empty_never_waits (r : Rule) (t : Inst) (h : empty r = true) : work r t = 0 := by
  have hA : Facts.c19EmptyDaysAbove = Facts.c19WorkDaysAbove := by decide
  have : restAll r = true := by
    unfold empty at h; unfold restAll
    rw [hA] at h
    simp only [Bool.and_eq_true] at h ⊢
    obtain ⟨⟨⟨⟨h1, h2⟩, h3⟩, h4⟩, h5⟩ := h
    exact ⟨⟨⟨⟨h5, h1⟩, h2⟩, h3⟩, h4⟩
  rw [work, if_pos this]

/-- `Verify()` accepts exactly the rules whose hours are ≤ 23 and minutes ≤ 59. -/
theorem verify_ok_iff (r : Rule) :
    verify r = none ↔ (r.sh ≤ 23 ∧ r.sm ≤ 59 ∧ r.eh ≤ 23 ∧ r.em ≤ 59) := by
  unfold verify
  rw [show Facts.c19VerifyEndMinMax = 59 by decide, show Facts.c19VerifyEndHourMax = 23 by decide,
    show Facts.c19VerifyStartMinMax = 59 by decide, show Facts.c19VerifyStartHourMax = 23 by decide]
  -- a failing test gives `some _` and refutes its conjunct
  iterate 4 (split; (· exact ⟨nofun, fun _ => by omega⟩))
  exact ⟨fun _ => by omega, fun _ => rfl⟩

/-- For every sleep a `time.Duration` can hold (1 ns … 2^63−1 ns, so in particular from 1 ms up),
every jitter value and every PRNG stream: `wait` arms its ticker (no panic, no skipped sleep) with a
delay that is positive and at most one sleep away from the configured sleep. -/
theorem delay_positive_within_one_sleep (S : Int) (jitter : Nat) (q : Nat → Nat)
    (hS : 0 < S) (hS2 : S < 2^63) :
    ∃ w k, delay S jitter q = (.sleep w, k) ∧ 0 < w ∧ w - S ≤ S ∧ S - w ≤ S := by
  obtain ⟨w, k, h, h0, h1⟩ := delay_sleep (by decide) S jitter q hS hS2
  exact ⟨w, k, h, h0, by omega, by omega⟩

/-- Jitter 0 (and the values above 100, which the code treats as "off"): exactly the sleep, and
the PRNG is not consulted. -/
theorem delay_no_jitter (S : Int) (jitter : Nat) (q : Nat → Nat) (hS : 0 < S)
    (hj : jitter = 0 ∨ jitter > 100) : delay S jitter q = (.sleep S, 0) :=
  delay_off (by decide) S jitter q hS hj

/-- Sleeps of at most one millisecond are never jittered. -/
theorem delay_small_sleep (S : Int) (jitter : Nat) (q : Nat → Nat) (hS : 0 < S) (hS2 : S ≤ 1000000) :
    ∃ k, delay S jitter q = (.sleep S, k) := by
  obtain ⟨k, h | ⟨d0, neg, _, _, hms, _⟩⟩ := delay_shape (by decide) S jitter q hS (by omega)
  · exact ⟨k, h⟩
  · omega

/-- Below 2^62 ns (146 years) nothing wraps: the delay is the sleep, or the sleep plus or minus a
whole number `d` of milliseconds with `d < sleep / 1ms` — hence strictly within one sleep. -/
theorem delay_exact_below_2_62 (S : Int) (jitter : Nat) (q : Nat → Nat) (hS : 0 < S) (hS2 : S ≤ 2^62) :
    ∃ w k, delay S jitter q = (.sleep w, k) ∧
      (w = S ∨ ∃ d : Int, 0 ≤ d ∧ d < S / 1000000 ∧ (w = S + d * 1000000 ∨ w = S - d * 1000000)) ∧
      0 < w ∧ w < 2 * S := by
  have hf : Jitter.FactsOK := by decide
  obtain ⟨k, h | ⟨d0, neg, h1, h2, _, h⟩⟩ := delay_shape hf S jitter q hS (by omega)
  · exact ⟨S, k, h, Or.inl rfl, hS, by omega⟩
  · have hw : applyJitter S d0 neg = S + d0 * 1000000 ∨ applyJitter S d0 neg = S - d0 * 1000000 := by
      rw [applyJitter_exact hf S d0 neg hS hS2 h1 h2]
      cases neg
      · exact .inl rfl
      · exact .inr rfl
    exact ⟨_, k, h, .inr ⟨d0, h1, h2, hw⟩, by omega, by omega⟩

/-- The `w <= 0` fallback (the repair) is live: for this sleep and draw the sum is exactly 2^63,
wraps to MinInt64, whose negation is MinInt64 again; the repaired code sleeps the plain sleep
(the unrepaired `w == 0` let MinInt64 reach the ticker, which panics). -/
theorem delay_overflow_arm_live :
    i64 (4611686018428775808 + 4611686018426 * 1000000) = -2^63 ∧ i64 (-2^63 * -1) = -2^63 ∧
    applyJitter 4611686018428775808 4611686018426 false = 4611686018428775808 := by
  decide

-- OPEN: no_connect_after_kill — the literal clause "a client never opens a connection after its kill date":
--
--   theorem no_connect_after_kill (c : Cfg) (hc : c.WF) (q : Nat → Nat) (script : Nat → Res) (fuel : Nat)
--       (now t : Int) (sd : Bool) (r : Res)
--       (h : Ev.connect t sd r ∈ (run c q script fuel { now := now }).trace) : NotAfterKill c t
--
-- does NOT hold for the code (known finding kill:connect-after-kill:shutdown-notify; negation proved on
-- a witness below, `no_connect_after_kill_fails`): when wait() notices the kill date, listen() opens one
-- more connection to deliver the SvShutdown notification.

/-- Proved part of the kill-date clause: every connection that is not that single, final shutdown
notification is opened at or before the kill date — for every configuration, PRNG stream,
Connector behaviour and number of loop turns. -/
theorem no_connect_after_kill_partial (c : Cfg) (hc : c.WF) (q : Nat → Nat) (script : Nat → Res)
    (fuel : Nat) (now : Int) (t : Int) (r : Res)
    (h : Ev.connect t false r ∈ (run c q script fuel { now := now }).trace) : NotAfterKill c t :=
  (run_spec_init (by decide) c hc q script fuel now).1 _ h rfl

/-- The shutdown notification is sent at most once and nothing is opened after it. -/
theorem shutdown_connect_once_and_last (c : Cfg) (hc : c.WF) (q : Nat → Nat) (script : Nat → Res)
    (fuel : Nat) (now : Int) (t : Int) (r : Res)
    (h : Ev.connect t true r ∈ (run c q script fuel { now := now }).trace) :
    ∃ pre, (run c q script fuel { now := now }).trace = pre ++ [Ev.connect t true r] ∧
      ∀ t' r', Ev.connect t' true r' ∉ pre :=
  (run_spec_init (by decide) c hc q script fuel now).2 t r h

/-- Negation of the literal statement on a concrete run (sleep 60 s, no jitter, kill date 150 s
after the start, Connector always succeeds): connections at 60 s and 120 s, then the shutdown
notification at 180 s — after the kill date. -/
theorem no_connect_after_kill_fails :
    let c : Cfg := { sleep := 60000000000, jitter := 0, kill := some 150000000000, work := none, off := 0 }
    c.WF ∧ Ev.connect 180000000000 true .ok ∈ (run c (fun _ => 0) (fun _ => .ok) 8 { now := 0 }).trace ∧
    ¬ NotAfterKill c 180000000000 := by
  refine ⟨by decide, by decide, ?_⟩
  intro h
  have := h 150000000000 rfl
  omega

/-- In the loop every sleep is positive and within one sleep of the configured sleep, every
work-hours wait is positive and at most a day, and the loop never panics. -/
theorem loop_delays_in_range (c : Cfg) (hc : c.WF) (q : Nat → Nat) (script : Nat → Res)
    (fuel : Nat) (now : Int) :
    (∀ d, Ev.sleep d ∈ (run c q script fuel { now := now }).trace → 0 < d ∧ d ≤ 2 * c.sleep) ∧
    (∀ d, Ev.workWait d ∈ (run c q script fuel { now := now }).trace → 0 < d ∧ d ≤ nsDay) ∧
    (∀ s, Ev.panic s ∉ (run c q script fuel { now := now }).trace) := by
  have hall := (run_spec_init (by decide) c hc q script fuel now).1
  exact ⟨fun d h => hall _ h, fun d h => hall _ h, fun s h => hall _ h⟩

/-- `wait` is the gate: when it returns normally without the closing flag, the kill date has not
passed at that instant (this is what the re-check after the sleep provides). -/
theorem wait_gate (c : Cfg) (hc : c.WF) (q : Nat → Nat) (st : St)
    (h1 : (wait c q st).halted = false) (h2 : (wait c q st).closing = false) :
    NotAfterKill c (wait c q st).now :=
  (wait_spec (by decide) c hc q st).2 h1 h2

/-- First contact (`connectContextInner`): `p.Connect` is only reached while the kill date has not
passed (after the optional work-hours sleep). -/
theorem first_connect_not_after_kill (c : Cfg) (now t : Int) (h : firstConnect c now = some t) :
    NotAfterKill c t := by
  unfold firstConnect at h
  split at h
  · cases h
  · next hk => cases h; exact (killed_false_iff c _).mp (Bool.eq_false_iff.2 hk)

/-! Non-vacuity: the hypotheses are met by non-trivial instances and the models compute. -/

-- Monday–Friday 09:00–17:30, Tuesday 08:59:59.999999999 → wait 1 ns; 17:30:00 → go; +1 ns → wait
example :
    let r : Rule := ⟨62, 9, 0, 17, 30⟩
    r.WF ∧ EndNotBeforeStart r ∧ (⟨2, 32399999999999⟩ : Inst).WF ∧
    work r ⟨2, 32399999999999⟩ = 1 ∧ work r ⟨2, 63000000000000⟩ = 0 ∧
    work r ⟨2, 63000000000001⟩ = 55799999999999 ∧ work r ⟨6, 0⟩ = 86400000000000 ∧
    Outside r ⟨6, 0⟩ ∧ ¬ Outside r ⟨2, 63000000000000⟩ := by decide
-- start == end is a one-instant window; Saturday → Sunday; minute 60 carries
example : work ⟨0, 9, 0, 9, 0⟩ ⟨1, 32400000000000⟩ = 0 ∧ work ⟨0, 9, 0, 9, 0⟩ ⟨1, 32400000000001⟩ = 86399999999999 ∧
    work ⟨64, 0, 0, 0, 0⟩ ⟨0, 0⟩ = 86400000000000 ∧ work ⟨0, 9, 60, 0, 0⟩ ⟨3, 35999999999999⟩ = 1 ∧
    verify ⟨0, 9, 60, 0, 0⟩ = some .startMin ∧ ¬ EndNotBeforeStart ⟨0, 17, 0, 9, 0⟩ := by decide
-- jitter: 60 s, jitter 100, draw 5 ms, plus / minus; a 146-year sleep is a legal hypothesis instance
example : delay 60000000000 100 (fun i => [0, 5, 0].getD i 0) = (.sleep 60005000000, 3) ∧
    delay 60000000000 100 (fun i => [0, 5, 2147483648].getD i 0) = (.sleep 59995000000, 3) ∧
    delay 60000000000 0 (fun _ => 7) = (.sleep 60000000000, 0) ∧
    (0 : Int) < 4611686018428775808 ∧ (4611686018428775808 : Int) < 2^63 := by decide
-- kill date inside the sleep: the repaired wait() closes, the loop makes no regular connection after it
example :
    let c : Cfg := { sleep := 60000000000, jitter := 0, kill := some 150000000000, work := none, off := 0 }
    c.WF ∧ (run c (fun _ => 0) (fun _ => .ok) 8 { now := 0 }).trace =
      [.sleep 60000000000, .connect 60000000000 false .ok, .sleep 60000000000, .connect 120000000000 false .ok,
       .sleep 60000000000, .connect 180000000000 true .ok] := by decide

/-! The delay computation of the CURRENT source.

`XMT.TieXlateWait.srcDelay` is the guard `s.sleep < 1`, the statements of `(*Session).wait` from
`w := s.sleep` to the arming of the ticker as REGENERATED from c2/session.go on every run
(`Facts.x_c2_Session_wait_delay`: Go's int64 arithmetic spelled out, PRNG call sites and field reads as
parameters) and the ticker. `x_wait_delay_eq` proves the hand model equal to it for every int64 sleep,
so the delay theorems hold of the regenerated function. -/
section Src
open XMT.TieXlateWait

/-- `delay_positive_within_one_sleep` for the regenerated delay computation. -/
theorem src_delay_positive_within_one_sleep (S : Int) (jitter : Nat) (q : Nat → Nat)
    (hS : 0 < S) (hS2 : S < 2^63) :
    ∃ w, srcDelay S jitter q = .sleep w ∧ 0 < w ∧ w - S ≤ S ∧ S - w ≤ S := by
  obtain ⟨w, k, h, h0, h1, h2⟩ := delay_positive_within_one_sleep S jitter q hS hS2
  exact ⟨w, by rw [← x_wait_delay_eq S jitter q (by omega) hS2, h], h0, h1, h2⟩

/-- `delay_no_jitter` for the regenerated delay computation. -/
theorem src_delay_no_jitter (S : Int) (jitter : Nat) (q : Nat → Nat) (hS : 0 < S) (hS2 : S < 2^63)
    (hj : jitter = 0 ∨ jitter > 100) : srcDelay S jitter q = .sleep S := by
  rw [← x_wait_delay_eq S jitter q (by omega) hS2, delay_no_jitter S jitter q hS hj]

/-- `delay_exact_below_2_62` for the regenerated delay computation. -/
theorem src_delay_exact_below_2_62 (S : Int) (jitter : Nat) (q : Nat → Nat) (hS : 0 < S) (hS2 : S ≤ 2^62) :
    ∃ w, srcDelay S jitter q = .sleep w ∧
      (w = S ∨ ∃ d : Int, 0 ≤ d ∧ d < S / 1000000 ∧ (w = S + d * 1000000 ∨ w = S - d * 1000000)) ∧
      0 < w ∧ w < 2 * S := by
  obtain ⟨w, k, h, h1, h2, h3⟩ := delay_exact_below_2_62 S jitter q hS hS2
  exact ⟨w, by rw [← x_wait_delay_eq S jitter q (by omega) (by omega), h], h1, h2, h3⟩

/-- A non-positive sleep: the regenerated computation does not sleep either (the guard). -/
theorem src_delay_none (S : Int) (jitter : Nat) (q : Nat → Nat) (hS : S < 1) : srcDelay S jitter q = .none := by
  unfold srcDelay; simp [hS]

/-- The PRNG helpers of package util as regenerated from util/rand.go and util/rand_fast.go are the
functions the delay model draws with. -/
theorem src_prng_helpers (n : Int) (r hi lo v : Nat) (hn : 0 ≤ n) :
    Facts.x_util_FastRandN n r = fastRandN r n.toNat ∧ Facts.x_util_random_Uint64 hi lo = uint64Of hi lo ∧
    Facts.x_util_abs64 v = abs64 v :=
  ⟨x_util_FastRandN_eq n r hn, x_util_random_Uint64_eq hi lo, x_util_abs64_eq v⟩

-- non-vacuity: the regenerated function computes (60 s, jitter 100, draw 5 ms, plus / minus; jitter 50
-- with a percentage draw that hits; the overflow witness of fix c7eed5b falls back to the plain sleep)
example : srcDelay 60000000000 100 (fun i => [0, 5, 0].getD i 0) = .sleep 60005000000 ∧
    srcDelay 60000000000 100 (fun i => [0, 5, 2147483648].getD i 0) = .sleep 59995000000 ∧
    srcDelay 60000000000 50 (fun i => [0, 0, 7, 0].getD i 0) = .sleep 60007000000 ∧
    srcDelay 60000000000 0 (fun _ => 7) = .sleep 60000000000 ∧ srcDelay 0 100 (fun _ => 7) = .none ∧
    Facts.x_c2_Session_wait_delay 4611686018428775808 100 (fun _ => 0) (fun _ => 4611686018426) (fun _ => 0) =
      4611686018428775808 := by decide
end Src

end XMT.Props.C19
