/-
  C20 — UTF-16 and name-hash helpers under the Windows wrappers match the reference.
  Property theorems only; the models are XMT/Utf16.lean, XMT/RegDisplay.lean, XMT/RegKey.lean, the
  lemmas live in XMT/Utf16{Lemmas,Decode,Roundtrip,Reg,Utf8}.lean and XMT/RegDisplayLemmas.lean.

  Reading guide.  `utf16FromString`, `utf16Encode`, `utf16EncodeStd`, `utf16Decode`, `fnvHash`,
  `entryToString/ToStringList/ToInteger` are the literal models of the Go functions (output buffer
  sized by the sizing loop, every `b[n] = …` / `b[:n]` / `v[n:i]` / byte read bounds-checked: an
  out-of-range access is `Outcome.panic`, so `= .ok …` also says "no panic, no read outside").
  `refEncode` / `refDecode` are the Unicode UTF-16 encoding form (D91) with U+FFFD substitution,
  `fnv1Ref` is 32-bit FNV-1; the differential run also compares these three reference definitions
  themselves with Go's unicode/utf16 and hash/fnv.
  A Go string is its byte list; `utf8Decode` models the Go runtime's `[]rune(s)` conversion
  (`utf16FromStringB` is `UTF16FromString` on the bytes, `utf16FromString` the same on `[]rune(s)`).
-/
import XMT.Utf16Reg
import XMT.Utf16Utf8
import XMT.RegDisplayLemmas
import XMT.ViewSites
namespace XMT.Props.C20
open XMT.Utf16

/-- `UTF16EncodeStd` returns exactly the standard encoding, for every `[]rune` (any integers:
negative, surrogates, beyond U+10FFFF are replaced by U+FFFD as the standard library does),
supplementary-plane runes at any position; in particular no rune after one is dropped and no buffer
index is out of range. -/
theorem encodeStd_is_reference (s : List Int) : utf16EncodeStd s = .ok (refEncode s) :=
  utf16EncodeStd_eq s

/-- `utf16Encode` (the encoder under `UTF16FromString`): `EINVAL` iff a 0 rune occurs before the
last position, otherwise exactly the standard encoding. -/
theorem encode_is_reference (s : List Int) :
    utf16Encode s = if innerNul s then .err .einval else .ok (refEncode s) :=
  utf16Encode_eq s

/-- `UTF16FromString` on a NUL-free string: the standard encoding followed by one terminator. -/
theorem fromString_is_reference (rs : List Int) (hn : (0 : Int) ∉ rs) :
    utf16FromString rs = .ok (refEncode rs ++ [0]) := by
  rw [utf16FromString_eq, if_neg hn]

/-- `UTF16FromString` on a string that contains NUL (at any position): `EINVAL`. -/
theorem fromString_nul_is_error (rs : List Int) (hn : (0 : Int) ∈ rs) :
    utf16FromString rs = .err .einval := by
  rw [utf16FromString_eq, if_pos hn]

/-- Exactly one terminator: the buffer ends in a NUL word and contains no other NUL word (so a
callee scanning for the terminator stops at the end of the buffer and not before). -/
theorem fromString_single_terminator (rs : List Int) (hn : (0 : Int) ∉ rs) :
    ∃ u, utf16FromString rs = .ok (u ++ [0]) ∧ (0 : UInt16) ∉ u :=
  ⟨refEncode rs, fromString_is_reference rs hn, fun h => hn ((zero_mem_refEncode rs).mp h)⟩

/-- **Every Go string** (an arbitrary byte string: valid text over the whole Unicode range,
supplementary-plane characters at any position, UTF-8-encoded lone surrogates and any other
ill-formed bytes, embedded NUL, empty): a NUL byte anywhere gives `EINVAL`; otherwise the result is
exactly the standard UTF-16 encoding of the string's code points `[]rune(s)` followed by one
terminator. -/
theorem fromStringBytes_is_reference (s : Bytes) :
    utf16FromStringB s =
      if (0 : UInt8) ∈ s then .err .einval else .ok (refEncode (utf8Decode s) ++ [0]) :=
  utf16FromStringB_eq s

/-- For every NUL-free Go string the buffer has exactly one NUL word, the last one, and decoding
the buffer gives back the string's code points (`UTF16ToString(UTF16FromString(s)) =
string([]rune(s))`, which is `s` itself when `s` is valid UTF-8). -/
theorem toString_fromStringBytes (s : Bytes) (hn : (0 : UInt8) ∉ s) :
    ∃ u, utf16FromStringB s = .ok (u ++ [0]) ∧ (0 : UInt16) ∉ u ∧
      utf16Decode (u ++ [0]) = .ok (utf8Decode s) := by
  have h0 : (0 : Int) ∉ utf8Decode s := fun e => hn ((zero_mem_utf8Decode s).mp e)
  have hz : (0 : UInt16) ∉ refEncode (utf8Decode s) := fun h => h0 ((zero_mem_refEncode _).mp h)
  refine ⟨refEncode (utf8Decode s), ?_, hz, ?_⟩
  · rw [utf16FromStringB_eq, if_neg hn]
  · rw [utf16Decode_eq, untilNul_append_zero _ hz, refDecode_refEncode _ (utf8Decode_scalar s)]

/-- `UTF16Decode` of any `uint16` buffer is the standard decoding of the part before the first NUL
(unpaired surrogates, including a high surrogate directly before the NUL or the end, become U+FFFD). -/
theorem decode_is_reference (u : U16s) : utf16Decode u = .ok (refDecode (untilNul u)) :=
  utf16Decode_eq u

/-- Every rune `UTF16Decode` returns is a Unicode scalar value, so the `string(...)` conversion in
`UTF16ToString` substitutes nothing. -/
theorem decode_yields_scalars (u : U16s) :
    ∃ rs, utf16Decode u = .ok rs ∧ ∀ r ∈ rs, isScalar r = true :=
  ⟨_, utf16Decode_eq u, refDecode_scalar _⟩

/-- Valid text (Unicode scalar values, no NUL) survives `UTF16FromString` then `UTF16Decode`. -/
theorem decode_fromString (rs : List Int) (hs : ∀ r ∈ rs, isScalar r = true) (hn : (0 : Int) ∉ rs) :
    ∃ u, utf16FromString rs = .ok u ∧ utf16Decode u = .ok rs := by
  refine ⟨refEncode rs ++ [0], fromString_is_reference rs hn, ?_⟩
  rw [utf16Decode_eq, untilNul_append_zero _ (fun h => hn ((zero_mem_refEncode rs).mp h)),
    refDecode_refEncode rs hs]

/-- The same for `UTF16EncodeStd` (no terminator added). -/
theorem decode_encodeStd (rs : List Int) (hs : ∀ r ∈ rs, isScalar r = true) (hn : (0 : Int) ∉ rs) :
    ∃ u, utf16EncodeStd rs = .ok u ∧ utf16Decode u = .ok rs := by
  refine ⟨refEncode rs, utf16EncodeStd_eq rs, ?_⟩
  rw [utf16Decode_eq, untilNul_of_not_mem _ (fun h => hn ((zero_mem_refEncode rs).mp h)),
    refDecode_refEncode rs hs]

/-- Well-formed NUL-free UTF-16 (every surrogate paired) survives `UTF16Decode` then
`UTF16FromString`, which gives the buffer back with its terminator. -/
theorem fromString_decode (u : U16s) (hw : wellFormed16 u = true) (hn : (0 : UInt16) ∉ u) :
    ∃ rs, utf16Decode u = .ok rs ∧ utf16FromString rs = .ok (u ++ [0]) := by
  refine ⟨refDecode u, ?_, ?_⟩
  · rw [utf16Decode_eq, untilNul_of_not_mem u hn]
  · have hr := refEncode_refDecode u hw
    have h0 : (0 : Int) ∉ refDecode u := fun h => hn (hr ▸ (zero_mem_refEncode (refDecode u)).mpr h)
    rw [fromString_is_reference _ h0, hr]

/-- No registry decoder ever reads a byte outside the value, for every type code and every byte
string (no hypothesis). -/
theorem registry_never_reads_outside (ty : Nat) (d : Bytes) :
    entryToString ty d ≠ .panic "read-oob" ∧ entryToStringList ty d ≠ .panic "read-oob" ∧
    entryToInteger ty d ≠ .panic "read-oob" ∧ entryToBinary ty d ≠ .panic "read-oob" := by
  refine ⟨?_, ?_, ?_, ite_ne nofun nofun⟩
  · rw [entryToString_eq]; exact ite_ne nofun (ite_ne nofun (ite_ne panic_ne_oob nofun))
  · rw [entryToStringList_eq]; exact ite_ne nofun (ite_ne nofun (ite_ne panic_ne_oob nofun))
  · rw [entryToInteger_eq]; exact ite_ne (ite_ne nofun nofun) (ite_ne (ite_ne nofun nofun) nofun)

/-- `Entry.ToString`: type / size errors exactly as coded, otherwise the standard decoding of the
little-endian words of the value up to the first NUL — no panic for any value whose word count
fits the `[1 << 29]uint16` view. -/
theorem registry_toString (ty : Nat) (d : Bytes) (hc : d.length / 2 ≤ Facts.regArrayCap) :
    entryToString ty d =
      if ty ≠ Facts.regTypeString ∧ ty ≠ Facts.regTypeExpandString then .err .unexpectedType
      else if d.length < 3 then .err .unexpectedSize
      else .ok (refDecode (untilNul (leWords d))) := by
  rw [entryToString_eq, if_neg (Nat.not_lt.mpr hc)]

/-- `Entry.ToStringList`: the NUL-terminated segments of the word list (one final terminator
dropped), each decoded by the standard decoder; the slice `v[n:i]` is always in range. -/
theorem registry_toStringList (ty : Nat) (d : Bytes) (hc : d.length / 2 ≤ Facts.regArrayCap) :
    entryToStringList ty d =
      if ty ≠ Facts.regTypeStringList then .err .unexpectedType
      else if d.length < 3 then .err .unexpectedSize
      else .ok ((segs (stripLastNul (leWords d))).map refDecode) := by
  rw [entryToStringList_eq, if_neg (Nat.not_lt.mpr hc)]

/-- `Entry.ToInteger`: the little-endian value of exactly 4 (DWORD) or 8 (QWORD) bytes, which fits
32 resp. 64 bits; every other length or type is an error; never a panic. -/
theorem registry_toInteger (ty : Nat) (d : Bytes) :
    entryToInteger ty d =
      (if ty = Facts.regTypeDword then (if d.length ≠ 4 then .err .unexpectedSize else .ok (leNat d))
       else if ty = Facts.regTypeQword then (if d.length ≠ 8 then .err .unexpectedSize else .ok (leNat d))
       else .err .unexpectedType) ∧
    leNat d < 256 ^ d.length :=
  ⟨entryToInteger_eq ty d, leNat_lt d⟩

/-- `FnvHash` (uint32 arithmetic with wrap-around, constants read from the source) is 32-bit FNV-1
(offset basis 0x811C9DC5, prime 0x01000193, multiply then xor) of all bytes of the name. -/
theorem fnv_is_fnv1 (name : Bytes) : (fnvHash name).toNat = fnv1Ref name :=
  fnv_fold name _

/-! ### non-vacuity: the hypotheses are satisfiable by non-trivial inputs and the model computes
the expected concrete results (the first two are the inputs on which the unrepaired code failed) -/

example : utf16FromString [0x1F600] = .ok [0xD83D, 0xDE00, 0] := by decide
example : utf16FromString [0x61, 0x1F600, 0x62] = .ok [0x61, 0xD83D, 0xDE00, 0x62, 0] := by decide
example : utf16FromString [0x61, 0, 0x62] = .err .einval := by decide
example : utf16FromString [] = .ok [0] := by decide
example : utf8Decode [0x61, 0xF0, 0x9F, 0x98, 0x80, 0xED, 0xA0, 0x80, 0xC3] = [0x61, 0x1F600, 0xFFFD, 0xFFFD, 0xFFFD, 0xFFFD] := by
  decide
example : utf16FromStringB [0x61, 0xF0, 0x9F, 0x98, 0x80, 0x62] = .ok [0x61, 0xD83D, 0xDE00, 0x62, 0] := by decide
example : utf16FromStringB [0x61, 0, 0x62] = .err .einval ∧ (0 : UInt8) ∉ [0x61, 0xF0, 0x9F, 0x98, 0x80, 0x62] := by decide
example : utf16EncodeStd [-1, 0xD800, 0x110000, 0x10FFFF, 0x42, 0] = .ok [0xFFFD, 0xFFFD, 0xFFFD, 0xDBFF, 0xDFFF, 0x42, 0] := by
  decide
example : utf16Decode [0x61, 0xD83D, 0xDE00, 0xD83D, 0, 0x62] = .ok [0x61, 0x1F600, 0xFFFD] := by decide
example : (∀ r ∈ [0x61, 0x1F600, 0xFFFF, 0x10FFFF], isScalar r = true) ∧ (0 : Int) ∉ [0x61, 0x1F600, 0xFFFF, 0x10FFFF] := by
  decide
example : wellFormed16 [0x61, 0xD83D, 0xDE00, 0xFFFF] = true ∧ (0 : UInt16) ∉ [0x61, 0xD83D, 0xDE00, 0xFFFF] := by decide
example : wellFormed16 [0xDE00, 0xD83D] = false := by decide
example : entryToString 1 [0x41, 0, 0x42] = .ok [0x41] := by decide
example : entryToString 1 [0x41, 0] = .err .unexpectedSize ∧ entryToString 3 [0x41, 0, 0, 0] = .err .unexpectedType := by
  decide
example : entryToStringList 7 [0x41, 0, 0, 0, 0x42, 0, 0x43] = .ok [[0x41]] := by decide
example : entryToStringList 7 [0x41, 0, 0, 0, 0x42, 0, 0, 0, 0, 0] = .ok [[0x41], [0x42]] := by decide
example : entryToInteger 4 [0xFF, 0, 0x10, 0x20] = .ok 0x201000FF := by decide
example : (fnvHash [0x4E, 0x74]).toNat = 1131865847 ∧ fnv1Ref [0xC3, 0xA9] = 3463954941 := by decide

/-! ### the display form of a registry value (`Entry.String`, device/regedit/v_no_implant.go)

`entryString ty nameLen d` is the literal model of `Entry.String()` (XMT/RegDisplay.lean): the type
switch in source order, the length guards, both `[]uint16` views `[: len(e.Data)/2 : len(e.Data)/2]`
read through bounds-checked accesses (`Outcome.panic "read-oob"` outside the value), the MULTI_SZ
splitting loop with its `", "` separator, the little-endian DWORD/QWORD assembly, `util.Uitoa`
(modelled loop-for-loop over its `[20]byte` buffer) and `hex.EncodeToString`. The result is the rune
list of the returned string. `entryStringV vl` is the same function with the view length `vl len`. -/

/-- `Entry.String` never reads a byte outside the value: for every type code, every name and every
byte string no access of the `[]uint16` view has an index ≥ `len(Data)` (no hypothesis). -/
theorem string_never_reads_outside (ty nameLen : Nat) (d : Bytes) :
    entryString ty nameLen d ≠ .panic "read-oob" :=
  (entryString_shows ty nameLen d).ne_oob

/-- `Entry.String` equals the reference display form and never panics (for every value whose word
count fits the `[1 << 29]uint16` view): `"<invalid>"`/`""` for keys, the decimal digits of the
little-endian value for DWORD/QWORD of exactly 4/8 bytes, lower-case hex for BINARY, the standard
UTF-16 decoding up to the first NUL for SZ/EXPAND_SZ, the NUL-terminated segments (one final terminator
dropped, an unterminated tail ignored) decoded and joined by `", "` for MULTI_SZ, `""` otherwise. -/
theorem string_is_reference (ty nameLen : Nat) (d : Bytes) (hc : d.length / 2 ≤ Facts.regArrayCap) :
    entryString ty nameLen d = .ok (refDisplay ty nameLen d) :=
  (entryString_shows ty nameLen d).ok hc

/-- Guard needed: the view length must round *down*. With `(len(e.Data)+1)/2` words `Entry.String` of
any SZ / EXPAND_SZ / MULTI_SZ value of odd length ≥ 3 reads the byte after the value. -/
theorem string_view_guard_needed (ty nameLen : Nat) (d : Bytes)
    (hty : ty = Facts.regTypeString ∨ ty = Facts.regTypeExpandString ∨ ty = Facts.regTypeStringList)
    (h3 : 3 ≤ d.length) (hodd : d.length % 2 = 1) (hc : (d.length + 1) / 2 ≤ Facts.regArrayCap) :
    entryStringV (fun l => (l + 1) / 2) ty nameLen d = .panic "read-oob" :=
  entryStringV_oob _ ty nameLen d hty h3 (show d.length < 2 * ((d.length + 1) / 2) by omega) hc

/-- The display form agrees with the typed decoders: for a string value it is `ToString`'s result, for
a list value `ToStringList`'s elements joined by `", "`. -/
theorem string_agrees_with_decoders (ty nameLen : Nat) (d : Bytes) (hc : d.length / 2 ≤ Facts.regArrayCap)
    (h3 : 3 ≤ d.length) :
    ((ty = Facts.regTypeString ∨ ty = Facts.regTypeExpandString) →
        entryToString ty d = entryString ty nameLen d) ∧
    (ty = Facts.regTypeStringList →
        ∃ l, entryToStringList ty d = .ok l ∧ entryString ty nameLen d = .ok (joinSegs l)) := by
  have h3' : ¬ d.length < 3 := Nat.not_lt.mpr h3
  constructor
  · intro hty
    rw [string_is_reference ty nameLen d hc, registry_toString ty d hc, refDisplay_sz hty,
      if_neg (fun h => hty.elim h.1 h.2), if_neg h3', if_neg h3']
  · rintro rfl
    refine ⟨(segs (stripLastNul (leWords d))).map refDecode, ?_, ?_⟩
    · rw [registry_toStringList _ d hc, if_neg (fun h => h rfl), if_neg h3']
    · rw [string_is_reference _ nameLen d hc, refDisplay_multi, if_neg h3']

/-- `util.Uitoa` is the decimal representation for every `uint64`: the wrapping `0x30 + v - n*0xA`
is the digit `v % 10`, at most 20 digits are written and no index of the `[20]byte` buffer is out of
range. -/
theorem uitoa_is_decimal (v : Nat) (h : v < 18446744073709551616) : uitoa v = .ok (decRef v) :=
  uitoa_eq v h

/-- … where "decimal" means: the returned string consists of ASCII digits only, denotes `v` in base
ten, is not empty and has no leading zero (so it is *the* decimal numeral of `v`). -/
theorem uitoa_digits (v : Nat) (h : v < 18446744073709551616) :
    ∃ s, uitoa v = .ok s ∧ decValue s = v ∧ (∀ b ∈ s, 0x30 ≤ b.toNat ∧ b.toNat ≤ 0x39) ∧
      (v ≠ 0 → s.head? ≠ some 0x30) ∧ s ≠ [] :=
  ⟨decRef v, uitoa_eq v h, decRef_spec v⟩

/-! ### every array view over raw memory in the device packages has the expected bound
(regenerated by go/parser from *all* build variants, including the `//go:build windows` files that do
not compile on the test host) -/

/-- Tie obligation: each of the slice expressions over a `(*[N]T)(unsafe.Pointer(..))` view has the
bound `XMT.ViewSites.siteOk` requires — in particular every `[1 << 29]uint16` view over a byte slice
(`Entry.ToString`, `Entry.ToStringList`, `Entry.String` twice, and the Windows-only `Key.String`,
`Key.Strings`) is `[: len/2 : len/2]` over `&X[0]` of the same `X`. -/
theorem tie_view_sites_bounded : Facts.c20ViewSites.all ViewSites.siteOk = true := by decide +kernel

/-- Tie obligation: the `uint16` views are exactly these six (a new consumer of the UTF-16 helpers
over raw memory has to be added to the model or to this list). -/
theorem tie_word_views_pinned :
    (Facts.c20ViewSites.filter ViewSites.isWordView).map ViewSites.siteWhere =
      [["device/regedit/entry.go", "Entry.ToString"], ["device/regedit/entry.go", "Entry.ToStringList"],
       ["device/regedit/v_no_implant.go", "Entry.String"], ["device/regedit/v_no_implant.go", "Entry.String"],
       ["device/winapi/registry/value.go", "Key.String"], ["device/winapi/registry/value.go", "Key.Strings"]] := by
  decide +kernel

/-- Every hash literal of the `crypt` proc tables of device/winapi (`funcX = dllY.proc(0x…)`,
regenerated together with the name its `!crypt` twin `funcX = dllY.proc("Name")` passes) is
`FnvHash` of that name, so both build variants resolve the same export. -/
theorem api_hashes_are_fnv1 :
    ∀ e ∈ Facts.c20ApiHashes, (fnvHash e.2.1).toNat = e.2.2 := by
  -- on the 176 entries plain `decide` exceeds the default recursion depth
  have h : Facts.c20ApiHashes.all (fun e => fnv1Ref e.2.1 == e.2.2) = true := by decide +kernel
  intro e he
  rw [fnv_is_fnv1]
  have := List.all_eq_true.mp h e he
  simpa using this

/-- Tie obligation: every variable of the hash tables was joined with a name (same variable, same DLL,
same resolver kind), there are at least 170 of them, and no two names of the table collide. -/
theorem tie_api_tables_joined :
    Facts.c20ApiUnmatched = [] ∧ 170 ≤ Facts.c20ApiHashes.length ∧
    (Facts.c20ApiHashes.map (·.2.2)).eraseDups.length = (Facts.c20ApiHashes.map (·.2.1)).eraseDups.length := by
  -- the hashes are pairwise distinct (evaluated), hence so are the names they are the hashes of
  have hh : (Facts.c20ApiHashes.map (·.2.2)).Nodup := nodup_of_distinct (by decide +kernel)
  have hn := nodup_map_of_nodup_map (fun n => (fnvHash n).toNat) (fun e he => (api_hashes_are_fnv1 e he).symm) hh
  refine ⟨rfl, by decide +kernel, ?_⟩
  rw [eraseDups_of_nodup hh, eraseDups_of_nodup hn, List.length_map, List.length_map]

/-! ### the Windows-only readers `Key.String` / `Key.Strings` (device/winapi/registry/value.go)

These do not compile on the test host and are not run. `keyString` / `keyStrings` (XMT/RegKey.lean)
model what they do with the bytes `getValue` returned; the tie is syntactic: the regenerated statement
traces of the two functions must equal the pinned texts the model was written from. -/

/-- Tie obligation: the statement traces of `Key.String` and `Key.Strings` (every statement, guard,
slice bound, operand; regenerated by go/parser from the windows-tagged file) are the pinned ones. -/
theorem tie_key_traces :
    Facts.c20_trace_KeyString = Pinned.keyString ∧ Facts.c20_trace_KeyStrings = Pinned.keyStrings :=
  ⟨rfl, rfl⟩

/-- Neither reader reads a byte outside the value `getValue` returned, for every type code and every
byte string (in particular not the stale bytes between `len` and `cap` of the 64-byte buffer). -/
theorem key_readers_never_read_outside (ty : Nat) (d : Bytes) :
    keyString ty d ≠ .panic "read-oob" ∧ keyStrings ty d ≠ .panic "read-oob" :=
  ⟨by rw [keyString_eq]; exact ite_ne (ite_ne panic_ne_oob nofun) nofun,
   by rw [keyStrings_eq]; exact ite_ne nofun (ite_ne panic_ne_oob nofun)⟩

/-- `Key.String`: wrong type → `ErrUnexpectedType`; otherwise the standard decoding of the value's
little-endian words up to the first NUL (any length, including 0, 1 and odd lengths). -/
theorem key_string_is_reference (ty : Nat) (d : Bytes) (hc : d.length / 2 ≤ Facts.regArrayCap) :
    keyString ty d =
      if ty = Facts.regTypeString ∨ ty = Facts.regTypeExpandString
      then .ok (refDecode (untilNul (leWords d))) else .err .unexpectedType := by
  rw [keyString_eq, if_neg (Nat.not_lt.mpr hc)]

/-- `Key.Strings`: wrong type → `ErrUnexpectedType`; otherwise the NUL-terminated segments of the word
list (one final terminator dropped), each decoded by the standard decoder. -/
theorem key_strings_is_reference (ty : Nat) (d : Bytes) (hc : d.length / 2 ≤ Facts.regArrayCap) :
    keyStrings ty d =
      if ty ≠ Facts.regTypeStringList then .err .unexpectedType
      else .ok ((segs (stripLastNul (leWords d))).map refDecode) := by
  rw [keyStrings_eq, if_neg (Nat.not_lt.mpr hc)]

/-- On values of at least 3 bytes the Windows-only readers and the portable decoders of
device/regedit (which the harness runs) return the same results. -/
theorem key_readers_agree_with_entry (ty : Nat) (d : Bytes) (hc : d.length / 2 ≤ Facts.regArrayCap)
    (h3 : 3 ≤ d.length) :
    keyString ty d = entryToString ty d ∧ keyStrings ty d = entryToStringList ty d := by
  rw [key_string_is_reference ty d hc, key_strings_is_reference ty d hc, registry_toString ty d hc,
    registry_toStringList ty d hc]
  constructor
  · by_cases h : ty = Facts.regTypeString ∨ ty = Facts.regTypeExpandString
    · rw [if_pos h, if_neg (fun n => h.elim n.1 n.2), if_neg (Nat.not_lt.mpr h3)]
    · rw [if_neg h, if_pos ⟨fun e => h (.inl e), fun e => h (.inr e)⟩]
  · by_cases h : ty ≠ Facts.regTypeStringList
    · rw [if_pos h, if_pos h]
    · rw [if_neg h, if_neg h, if_neg (Nat.not_lt.mpr h3)]

example : entryString 7 1 [0x41, 0, 0, 0, 0x42, 0, 0x43, 0, 0, 0, 0, 0] = .ok [0x41, 44, 32, 0x42, 0x43] := by decide
example : entryString 7 1 [0, 0, 0x41, 0, 0, 0, 0, 0] = .ok [44, 32, 0x41] ∧ entryString 7 1 [0, 0, 0x41, 0, 0, 0, 0x42] = .ok [] := by decide
example : entryString 1 1 [0x3D, 0xD8, 0x00, 0xDE, 0, 0, 0x42] = .ok [0x1F600] := by decide
example : entryString 4 1 [0xFF, 0, 0x10, 0x20] = .ok [53, 51, 55, 57, 49, 57, 55, 52, 51] := by decide
example : entryString 11 1 [0xFF, 0xFF, 0xFF, 0xFF, 0xFF, 0xFF, 0xFF, 0xFF] =
    .ok [49, 56, 52, 52, 54, 55, 52, 52, 48, 55, 51, 55, 48, 57, 53, 53, 49, 54, 49, 53] := by decide +kernel
example : entryString 3 1 [0xAB, 0x01] = .ok [0x61, 0x62, 0x30, 0x31] ∧ entryString 0 0 [] = .ok invalidRunes ∧
    entryString 4 1 [1, 2, 3] = .ok [] ∧ entryString 9 1 [1, 2, 3, 4] = .ok [] := by decide
example : entryStringV (fun l => (l + 1) / 2) 1 1 [0x41, 0, 0x42] = .panic "read-oob" ∧
    entryString 1 1 [0x41, 0, 0x42] = .ok [0x41] := by decide
example : uitoa 18446744073709551615 = .ok [49, 56, 52, 52, 54, 55, 52, 52, 48, 55, 51, 55, 48, 57, 53, 53, 49, 54, 49, 53] ∧
    uitoa 10 = .ok [49, 48] ∧ uitoa 0 = .ok [48] := by decide +kernel
example : (3 : Nat) / 2 ≤ Facts.regArrayCap ∧ (3 + 1) / 2 ≤ Facts.regArrayCap := by decide
example : Facts.c20ViewSites.length = 16 ∧ Facts.c20ApiHashes.length = 176 := by decide +kernel
example : ViewSites.siteOk ["f.go", "F", "[(1 << 29)]uint16", "&#[0]", "", "((len(#) + 1) / 2)", "((len(#) + 1) / 2)"] = false := by decide +kernel
example : keyString 1 [0x41] = .ok [] ∧ keyString 1 [0x41, 0, 0x42] = .ok [0x41] ∧ keyString 7 [] = .err .unexpectedType ∧
    keyStrings 7 [0x41, 0, 0, 0, 0x42, 0, 0, 0, 0, 0] = .ok [[0x41], [0x42]] ∧ keyStrings 7 [0x41] = .ok [] := by decide

end XMT.Props.C20
