/-
  C08 — A binary profile built from settings means exactly those settings.
  Property theorems only; the lemmas live in XMT/CfgBuildPack.lean (one per public constructor,
  then induction over groups), CfgGroups.lean, CfgGroupsPack.lean and CfgEquiv.lean.

  Model: XMT/CfgPack.lean (constructors, Pack/AddGroup, meaning) and XMT/Cfg.lean (parser).
  `tls ca pem key` stands for `com.NewTLSConfig` accepting the PEM blocks (only Build parses them).
-/
import XMT.CfgBuildPack
import XMT.CfgEquiv
import XMT.CfgGroups
import XMT.CfgGroupsPack
namespace XMT.Props.C08
open XMT.Cfg

/-- **Main theorem.** For any list of groups of settings from the public constructors — every
argument length (hosts, keys, certificates up to and beyond the 65535 limit, header maps and domain
lists up to 255), any order, any offsets — with each group in its documented domain (`groupsOK`):
building the packed bytes yields exactly the profiles meant (hosts, sleep, jitter, kill date, work
hours, pinned keys, weight, connector, wrapper stack, transform — in the supplied order), the group
selector named last, and the identical bytes retained as source. -/
theorem build_pack (tls : Bytes → Bytes → Bytes → Bool) (gs : List (List Setting))
    (hok : groupsOK tls gs = true) : build tls (packGroups gs) = .ok (meaning gs) := by
  obtain ⟨g, rest, rfl, hall⟩ := groupsOK_cons hok
  have hpk := packGroups_eq g rest fun x hx => (hall x hx).2
  have hpos := List.length_pos_iff.mpr (hall g List.mem_cons_self).2
  unfold meaning
  generalize packGroups (g :: rest) = c at *
  have hclen : c.length = (bytesOf g).length + (tailBytes rest).length := by rw [hpk, List.length_append]
  unfold build
  rw [if_neg (by omega), buildLoop_groups tls rest g 0 [] 0 (c.length + 1) hpk (Nat.zero_le _) hall (by omega),
    meaningGroups_eq]
  generalize List.foldl groupStep ([], 0) (g :: rest) = r
  obtain ⟨e, s⟩ := r
  simp only [ok_bind]
  split <;> rfl

/-- The stride lemma behind it, for every constructor: a non-nil setting in its domain placed
anywhere in a config (`pre`/`post` arbitrary bytes) is stepped over exactly — `stride` at its first
byte returns the offset just after its last byte (this is where `offset + low byte` used to leak
into the high byte). -/
theorem setting_stride (tls : Bytes → Bytes → Bytes → Bool) (s : Setting) (hd : s.inDom tls = true)
    (he : s.enc ≠ []) (pre post : Bytes) :
    stride (pre ++ s.enc ++ post) pre.length = .ok (pre.length + s.enc.length) :=
  (setting_walk tls s hd he (drop_mid pre s.enc post)).2.2

/-- …and decoded by build's switch to exactly its meaning, whatever precedes and follows. -/
theorem setting_decode (tls : Bytes → Bytes → Bytes → Bool) (s : Setting) (hd : s.inDom tls = true)
    (he : s.enc ≠ []) (pre post : Bytes) (P : Profile) (z : Nat)
    (hc : s.isConn = true → P.conn = none) (ht : s.isTrans = true → P.trans = none) :
    bcase tls (pre ++ s.enc ++ post) pre.length (pre.length + s.enc.length) s.tag P z =
      .ok (applySetting (P, z) s) :=
  (setting_spec tls s hd he (drop_mid pre s.enc post) P z hc ht).bcase_eq

/-- Validation succeeds on every such config (it succeeds exactly when building does, below). -/
theorem validate_pack (tls : Bytes → Bytes → Bytes → Bool) (gs : List (List Setting))
    (hok : groupsOK tls gs = true) : validate (packGroups gs) = .ok () :=
  validate_of_build (build_pack tls gs hok)

/-- Validation succeeds exactly when building succeeds — for every byte string, certificate and
key contents (which only building parses) aside. -/
theorem validate_iff_build (tls : Bytes → Bytes → Bytes → Bool) (c : Bytes) :
    ((∃ b, build tls c = .ok b) → validate c = .ok ()) ∧
    (validate c = .ok () → (∃ b, build tls c = .ok b) ∨ ∃ l, build tls c = .error (.err l .ext)) :=
  ⟨fun ⟨_, hb⟩ => validate_of_build hb, build_of_validate tls⟩

/-- The profile hands back the identical bytes for re-transmission (`MarshalBinary` returns the
retained `src`), for every byte string that builds. -/
theorem marshalBinary_id (tls : Bytes → Bytes → Bytes → Bool) (c : Bytes) (b : Built)
    (h : build tls c = .ok (some b)) : b.src = c := by
  unfold build at h
  split at h
  · cases h
  · cases hl : buildLoop tls c (c.length + 1) 0 [] 0 with
    | error e => rw [hl] at h; cases h
    | ok r =>
      rw [hl] at h
      simp only [ok_bind] at h
      split at h <;> cases h
      rfl

/-- The entries of a Group come back in descending weight order and are exactly the profiles
built (a permutation of them). -/
theorem sorted_by_weight (es : List Profile) :
    (sortByWeight es).Perm es ∧ (sortByWeight es).Pairwise (fun a b => a.weight ≥ b.weight) := by
  unfold sortByWeight
  refine ⟨List.mergeSort_perm _ _, ?_⟩
  have := List.pairwise_mergeSort (le := fun (a b : Profile) => decide (a.weight ≥ b.weight))
    (by intro a b c h1 h2; simp only [decide_eq_true_eq] at *; omega)
    (by intro a b; simp only [Bool.or_eq_true, decide_eq_true_eq]; omega) es
  simpa using this

/-- **Group extraction partitions the bytes at the separators** — for every non-empty byte string
(not only constructor output): `Groups()` is the number of parts, `Group(p)` is the p-th part for
every `0 ≤ p < Groups()`, and the parts joined by the separator byte are the config. -/
theorem groups_partition (c : Bytes) (hc : c ≠ []) :
    ∃ parts : List Bytes, groups c = .ok parts.length ∧
      (∀ p : Nat, p < parts.length → group c (p : Int) = .ok parts[p]?) ∧ joinSep parts = c :=
  ⟨_, groups_partition_pieces c hc⟩

/-- **For packed configs the parts are the groups that were added** — for every list of groups
produced by the public constructors (`groupsOK`): `Groups()` is the number of groups added and
`Group(i)` is exactly the bytes of the i-th group added. (`groups_partition` alone only says the
bytes are cut at the separators the stride walk visits; that those are exactly the separators
`AddGroup` wrote, and that no offset the walk visits inside a group holds the separator tag — also
not a length byte or payload byte equal to 0xFA — follows from the per-constructor stride facts.) -/
theorem groups_of_pack (tls : Bytes → Bytes → Bytes → Bool) (gs : List (List Setting))
    (hok : groupsOK tls gs = true) :
    groups (packGroups gs) = .ok gs.length ∧
      ∀ i : Nat, i < gs.length → group (packGroups gs) (i : Int) = .ok (gs[i]?.map bytesOf) := by
  obtain ⟨g, rest, rfl, hall⟩ := groupsOK_cons hok
  have hg := (hall g List.mem_cons_self).2
  have hpk := packGroups_eq g rest fun x hx => (hall x hx).2
  generalize packGroups (g :: rest) = c at hpk ⊢
  obtain ⟨h1, h2, _⟩ := groups_partition_pieces c (by rw [hpk]; simp [hg])
  rw [pieces_of_pack tls g rest hpk (fun x hx => (hall x hx).1) hg] at h1 h2
  refine ⟨by simpa using h1, fun i hi => ?_⟩
  rw [h2 i (by simpa using hi)]
  cases i <;> simp [List.getElem?_map]

/-! Non-vacuity: concrete settings lists meet `groupsOK`, and the model really computes the
expected bytes and profile — including the inputs of the three defects this property exposed
(a 500-byte host at offset 10, a certificate longer than its key, a DNS transform after a host). -/
example : groupsOK (fun _ _ _ => true)
    [[.host [0x61], .flag tTCP, .sleep 5000000000, .jitter 10, .weight 10],
     [.host [0x62, 0x63], .dns [[0x64]], .flag tSelRandom, .xor [1, 2, 3], .tlsExCA 0 []]] = true := by decide
example : packGroups [[.host [0x61], .flag tTCP], [.weight 7]] = [0xA0, 0, 1, 0x61, 0xC0, 0xFA, 0xA3, 7] := by
  decide
example (s : Bytes) (h : s.length = 500) : (Setting.host s).enc = [0xA0, 1, 0xF4] ++ s := by
  have : s.take 500 = s := List.take_of_length_le (by omega)
  simp [Setting.enc, h, cap16, this, byteOf, Facts.cfg_valHost]
example : (Setting.tlsCerts 0 [1, 2, 3] [9]).enc = [0xB5, 0, 0, 3, 0, 1, 1, 2, 3, 9] := by decide
example : groups [0xC0, 0xFA, 0xC1] = .ok 2 ∧ group [0xC0, 0xFA, 0xC1] 1 = .ok (some [0xC1]) ∧
    joinSep [[0xC0], [0xC1]] = [0xC0, 0xFA, 0xC1] := ⟨rfl, rfl, rfl⟩
example : build (fun _ _ _ => true) (packGroups [[.host [0x61], .dns [[0x64]]]]) =
    .ok (some ⟨[{ hosts := [[0x61]], trans := some (.dns [[0x64]]) }], 0, [0xA0, 0, 1, 0x61, 0xE1, 1, 1, 0x64]⟩) := rfl

/-- `groups_of_pack` on a concrete two-group config whose first group contains the byte 0xFA as a
payload byte (a host name) and as a length byte: the walk does not take either for a separator. -/
example : groups (packGroups [[.host [0xFA, 0x61], .flag tTCP], [.weight 7, .jitter 0xFA]]) = .ok 2 ∧
    group (packGroups [[.host [0xFA, 0x61], .flag tTCP], [.weight 7, .jitter 0xFA]]) 1 =
      .ok (some [0xA3, 7, 0xA2, 0xFA]) := by
  have h := groups_of_pack (fun _ _ _ => true) [[.host [0xFA, 0x61], .flag tTCP], [.weight 7, .jitter 0xFA]] (by decide)
  exact ⟨h.1, h.2 1 (by decide)⟩

end XMT.Props.C08
