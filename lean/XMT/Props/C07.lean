/-
  C07 — Every wrapper stack and transform is lossless for every payload.
  Property theorems only; models in XMT/{Wrap,Cbk,Dns,HexCodec,B64Codec}.lean, lemmas in
  XMT/{Wrap,Cbk,Hex,B64}Lemmas.lean, XMT/CbkStream.lean, XMT/DnsRoundtrip.lean, XMT/DnsAgree.lean.

  Scope notes (see DESIGN.md Appendix B.5):
  * zlib, gzip and the AES block function are PARAMETERS: `stack_roundtrip` and `sendrecv` take
    their round-trip laws (`LGood`) as hypotheses. encoding/hex and encoding/base64
    are Lean models (XMT/HexCodec.lean, XMT/B64Codec.lean) with proved round trips
    (`hex_roundtrip`, `base64_roundtrip`), so that `stack_roundtrip_concrete` / `sendrecv_concrete`
    (end of this file) have no assumed layer for stacks of XOR / CBK / Hex / Base64. The real codecs
    are exercised by the direct oracles on every run.
  * `Layer.dec` is whole-stream: "however the reads are chunked" is proved for CBK
    (`cbk_stream_chunked`), Hex (`hex_roundtrip`) and Base64 (`base64_roundtrip`) and holds for CFB
    byte by byte; for the parameter layers it is part of the assumed law.
  * `sendrecv` / `sendrecv_nowrap` are composition theorems; `sendrecv_xor_cbk_dns` and
    `sendrecv_concrete` are the closed instances (every hypothesis about wrappers and transform
    discharged by `xor_lossless`, `cbk_stream`, `hex_lossless`, `base64_lossless`, `dns_roundtrip`,
    `b64Transform_lossless`); the packet codec round trip (C01) stays a hypothesis.
  * `Dns.read` (XMT/Dns.lean) is only ever applied to what `Dns.write` produced; on malformed
    messages it still shows the outcomes of the reader before its repair (index panics). The reader
    on hostile bytes is the separate model XMT/DecodeDns.lean (C04), tied to the repaired code.
    The two reader models are proved to succeed on the same inputs with the same
    payload (`dns_reader_models_agree`, `dns_reader_models_fail_together`).
  * `cbk_block` / `cbk_shuffle_inverse` also cover `A = 0`, where Go's `i % e.A` would divide by zero:
    unreachable through `newSource` (forces `A` non-zero), see DESIGN B.4.
-/
import XMT.WrapLemmas
import XMT.CbkLemmas
import XMT.CbkStream
import XMT.DnsRoundtrip
import XMT.HexLemmas
import XMT.B64Lemmas
import XMT.DnsAgree
namespace XMT.Props.C07
open XMT.Wrap

/-! ## Stack composition (c2/cfg/profile.go MultiWrapper.Wrap / Unwrap / stackCloser) -/

/-- **Stack order theorem, any depth.** If every wrapper of the stack is lossless on its own
(`LGood`: for every chunking of the writes its reader returns the concatenation, and a repeated
`Close` writes nothing), then what `MultiWrapper.Unwrap` reads from the bytes that
`MultiWrapper.Wrap` + `Close` put into the sink is exactly what was written — for every list of
wrappers `m` (any depth, any order) and every chunking `ws` of the writes.  The model follows the
two `for x := len(m)-1; x >= 0; x--` loops and `stackCloser.Close` literally, including the second
`Close` that inner writers receive from layers that close their underlying writer. -/
theorem stack_roundtrip (m : List Layer) (h : ∀ L ∈ m, LGood L) (ws : List Bytes) :
    multiUnwrap m ((multiWrap m sink).run ws) = some ws.flatten := by
  obtain ⟨_, _, hr⟩ := multiWrap_good m h sink_good
  exact (hr ws).2

/-- Closing the stack again (as `writePacketTo` callers or outer layers may) writes nothing more. -/
theorem stack_close_idempotent (m : List Layer) (h : ∀ L ∈ m, LGood L) (ws : List Bytes) :
    let W := multiWrap m sink
    let s := (W.close (W.writes W.st ws).1).1
    (W.close s).2 = [] := by
  obtain ⟨D, hD, hr⟩ := multiWrap_good m h sink_good
  exact (hD _ (hr ws).1).1

/-! ## The stream-cipher wrappers: XOR and AES (CFB over a block function) -/

/-- The XOR wrapper (`wrapper.NewXOR(k)`: CFB over `crypto.XOR` with `iv[i] = (k[i]+i)^2`) is a
lossless layer for every non-empty key, every payload and every chunking. -/
theorem xor_lossless (key : Bytes) (h : key ≠ []) : LGood (xorLayer key) := by
  have hl : 0 < key.length := List.length_pos_iff.mpr h
  apply cfbLayer_good
  · rw [xorIv_length]; exact hl
  · rw [xorIv_length]; exact xorBlock_blockFn key

/-- The block-cipher wrapper (`wrapper.NewBlock(aes, iv)`) is lossless for **any** block function
that fills a block (`E` = `cipher.Block.Encrypt`; CFB never calls `Decrypt`), so nothing about AES
itself is assumed. -/
theorem block_lossless (E : Bytes → Bytes) (iv : Bytes) (hn : 0 < iv.length)
    (hE : BlockFn iv.length E) : LGood (cfbLayer E iv) := cfbLayer_good hn hE

/-- Decrypting what the CFB writer put below, in whatever chunking it was written, returns the
plaintext (the chunked writes encrypt the concatenation, one output `Write` per input `Write`:
`cfbLayer_writes`). -/
theorem cfb_roundtrip (E : Bytes → Bytes) (iv : Bytes) (hn : 0 < iv.length) (hE : BlockFn iv.length E)
    (ws : List Bytes) : (cfbLayer E iv).dec ((cfbLayer E iv).run ws).flatten = some ws.flatten := by
  obtain ⟨_, _, hr⟩ := cfbLayer_good hn hE
  exact (hr ws).2

/-! ## CBK block cipher (data/crypto/cbk.go) -/

/-- **CBK block round trip, all 2^32 keys × every index × every block size.** For every key
`(A,B,C,D)`, every block index and every buffer of at least 16 bytes (the cipher's buffers have
17, 33, 65 or 129), the transform of `flushOutput` (substitution table, `scramble(false)`,
`Shuffle`) does not panic and is undone by the transform of `readInput` (`Deshuffle`,
`scramble(true)`, inverse table), which does not panic either.  Proved structurally: the
substitution and the shuffle add per-position constants; a scramble round is two nibble
exchanges and a byte-pair exchange for `g ≠ h < 8`, each an involution, the nibble exchanges
commute even when they share a byte; `g`,`h` always exist because no divisor in `blockIndex`
can be zero (after the repair). -/
theorem cbk_block (k : Cbk.Key) (index : UInt8) (b : Bytes) (hl : 16 ≤ b.length) :
    ∃ c, Cbk.encBlock k index b = some c ∧ c.length = b.length ∧ Cbk.decBlock k index c = some b :=
  Cbk.decBlock_encBlock k index b hl

/-- `blockIndex`/`scramble` never panic: `g`,`h` exist and are below 8 for every key, index, round. -/
theorem cbk_scramble_total (k : Cbk.Key) (index : UInt8) (i : Nat) :
    ∃ g h, Cbk.gh k index i = some (g, h) ∧ g.toNat < 8 ∧ h.toNat < 8 := Cbk.gh_some k index i

/-- The scramble alone: backwards after forwards is the identity on any ≥16-byte buffer. -/
theorem cbk_scramble_inverse (k : Cbk.Key) (index : UInt8) (b : Bytes) (hl : 16 ≤ b.length) :
    ∃ b', Cbk.scramble k index false b = some b' ∧ b'.length = b.length ∧
      Cbk.scramble k index true b' = some b := Cbk.scramble_inv k index b hl

theorem cbk_shuffle_inverse (k : Cbk.Key) (b : Bytes) : Cbk.deshuffle k (Cbk.shuffle k b) = b :=
  Cbk.deshuffle_shuffle k b

/-- **The CBK stream wrapper is lossless for every payload**: for every key and every block size
`newSource` accepts, the `Write`/`Flush`/`Close` and `Read` state machines (modelled literally in
XMT/Cbk.lean and compared byte for byte with the real code on every run) form a good layer — whatever
is written, in whatever write chunking, is read back exactly, followed by EOF; so `stack_roundtrip`
applies to every stack that contains CBK layers. -/
theorem cbk_stream (a b c d sz : UInt8) (s0 : Cbk.St) (h : Cbk.newSource a b c d sz = some s0) :
    LGood (Cbk.cbkLayer s0) := Cbk.cbk_stream a b c d sz s0 h

/-- …and however the wire bytes are chunked on the way (empty pieces, splits inside a block or its
count byte) and whatever sizes the `Read` calls ask for (0, smaller than what is buffered, larger than
a block): `readAll` returns the payload and EOF, and any sequence of Reads returns exactly the
functional specification `seqSpec` (each Read the next `k` bytes, the first Read with nothing left
EOF). Covers no writes at all, empty writes, totals that are exact multiples of the block size and
the block-index wrap after 31 blocks. -/
theorem cbk_stream_chunked (a b c d sz : UInt8) (s0 : Cbk.St) (h : Cbk.newSource a b c d sz = some s0)
    (ws : List Bytes) :
    ∃ out, Cbk.writeAll s0 ws = some out ∧
      ∀ cs : Codec.Stream, cs.flatten = out.flatten →
        (∀ fuel, out.flatten.length < fuel → Cbk.readAll fuel s0 cs = some (ws.flatten, none)) ∧
        (∀ ks, Cbk.readSeq s0 cs ks = some (Cbk.seqSpec ws.flatten ks)) :=
  Cbk.cbk_stream_chunked a b c d sz s0 h ws

/-! ## Base64-shift transform (c2/transform/base64.go) -/

/-- `B64(shift).Read(B64(shift).Write(p)) = p` for every shift byte and payload; base64 itself is a
parameter with its round-trip law. -/
theorem b64shift_roundtrip (enc64 : Bytes → Bytes) (dec64 : Bytes → Option Bytes)
    (h64 : ∀ x, dec64 (enc64 x) = some x) (shift : UInt8) (p : Bytes) :
    b64Read dec64 shift (b64Write enc64 shift p) = some p := by
  unfold b64Read b64Write
  rw [h64, Option.map_some, unshift_shift]

/-! ## DNS transform framing (c2/transform/dns.go) -/

/-- For **every** domain string (empty labels from leading/trailing/double dots, labels longer than
63 bytes, arbitrary bytes) the question name the encoder writes consists of labels of 1..63 bytes —
the only labels the decoder's `for i := 0; i < 64` loop can walk (this is what the two repairs of
`encodePacket` establish). -/
theorem dns_name_wellformed_partial (dom : Bytes) :
    ∃ ls, Dns.encName (Dns.splitDots dom) = Dns.encLabels ls ∧ Dns.LabelsOK ls :=
  Dns.encName_labels (Dns.splitDots dom)

/-- …and the decoder's label loop, started at the name inside any message
`pre ++ name ++ 0 :: post`, ends exactly behind the terminating zero: no early stop, no overrun, no
panic, for every domain. -/
theorem dns_name_decodes_partial (dom pre post : Bytes) :
    Dns.nameLoop (pre ++ Dns.encName (Dns.splitDots dom) ++ 0 :: post)
      ((pre ++ Dns.encName (Dns.splitDots dom) ++ 0 :: post).length + 2) 0 pre.length
      = .ok (pre.length + (Dns.encName (Dns.splitDots dom)).length + 1) :=
  Dns.nameLoop_encName dom _ post pre.length (by rw [List.append_assoc, List.drop_left])

/-- **The DNS transform is lossless for every payload**: for both `dnsServer` modes, every domain of
at most 255 bytes (any bytes, any dots), every random filler and every payload `b` of any length, the empty one included
(several 256-byte records per packet, several 2048-byte packets per `Write`), `DNSTransform.Write`
succeeds and `DNSTransform.Read` applied to the concatenation of the packets written returns exactly
`b` and no error. -/
theorem dns_roundtrip (server : Bool) (dom : Bytes) (rs : List (Nat → UInt8)) (b : Bytes)
    (hdom : dom.length ≤ 255) :
    ∃ pkts ws, Dns.write server dom rs b = some pkts ∧ Dns.read pkts.flatten = (ws, none) ∧ ws.flatten = b :=
  Dns.dns_roundtrip_1918 server dom rs b (by omega)

/-- The bound that is really needed is on the encoded question name: at most 1919 bytes (every domain
of at most 1918 bytes). It is tight — with a name of 1920 bytes a full server-mode packet is 4097
bytes, one more than the packet buffer, and `Write` reports a short write (30 labels of 63 bytes
and a 2048-byte payload; evaluated, not kernel-checked: the term is too deep for `decide`). -/
theorem dns_roundtrip_name (server : Bool) (dom : Bytes) (rs : List (Nat → UInt8)) (b : Bytes)
    (hname : (Dns.encName (Dns.splitDots dom)).length ≤ 1919) :
    ∃ pkts ws, Dns.write server dom rs b = some pkts ∧ Dns.read pkts.flatten = (ws, none) ∧ ws.flatten = b :=
  Dns.dns_roundtrip_name server dom rs b hname

/-! ## Send path → receive path (c2/vars.go writePacket / readPacket) -/

/-- A packet marshalled through any lossless stack and any lossless transform and read back
through the receive path is the packet that was sent.  `marshal`/`unmarshal` are `Packet.Marshal`'s
`Write` calls and `Packet.Unmarshal` (their round trip is property C01). -/
theorem sendrecv {P : Type} (m : List Layer) (hm : ∀ L ∈ m, LGood L) (t : Option Transform)
    (ht : ∀ tr, t = some tr → ∀ x, ∃ y, tr.write x = some y ∧ tr.read y = some x)
    (marshal : P → List Bytes) (unmarshal : Bytes → Option P)
    (hp : ∀ p, unmarshal (marshal p).flatten = some p) (p : P) :
    ∃ wire, writePacket (some (multiWrap m sink)) t (marshal p) = some wire ∧
      readPacket (some (multiUnwrap m)) t unmarshal wire = some p := by
  have hs := stack_roundtrip m hm (marshal p)
  cases t with
  | none =>
    refine ⟨_, rfl, ?_⟩
    simp [readPacket, hs, hp]
  | some tr =>
    obtain ⟨y, hw, hr⟩ := ht tr rfl ((multiWrap m sink).run (marshal p))
    refine ⟨y, hw, ?_⟩
    simp [readPacket, hr, hs, hp]

/-- The `w == nil` branch (no wrapper): direct `Marshal` into the cache. -/
theorem sendrecv_nowrap {P : Type} (t : Option Transform)
    (ht : ∀ tr, t = some tr → ∀ x, ∃ y, tr.write x = some y ∧ tr.read y = some x)
    (marshal : P → List Bytes) (unmarshal : Bytes → Option P)
    (hp : ∀ p, unmarshal (marshal p).flatten = some p) (p : P) :
    ∃ wire, writePacket none t (marshal p) = some wire ∧
      readPacket none t unmarshal wire = some p := by
  cases t with
  | none => exact ⟨_, rfl, by simp [readPacket, hp]⟩
  | some tr =>
    obtain ⟨y, hw, hr⟩ := ht tr rfl (marshal p).flatten
    exact ⟨y, hw, by simp [readPacket, hr, hp]⟩

/-! ## Facts the proofs rely on, re-checked against the regenerated constants -/

example : Facts.cbkSize = Cbk.size := by decide
example : Facts.dnsSeg = 256 ∧ Facts.dnsMax = 8 * Facts.dnsSeg ∧ Facts.dnsPacketCap = 4096 := by decide

/-! ## Non-vacuity -/

-- a two-deep XOR stack really computes and round-trips in the model
example : multiUnwrap [xorLayer [1, 2, 3], xorLayer [9]]
    ((multiWrap [xorLayer [1, 2, 3], xorLayer [9]] sink).run [[10, 20], [], [30, 40, 50, 60]])
    = some [10, 20, 30, 40, 50, 60] := by decide
example : (multiWrap [xorLayer [1, 2, 3]] sink).run [[10, 20], [30, 40, 50, 60]] ≠ [10, 20, 30, 40, 50, 60] := by
  decide
example : LGood (xorLayer [7]) := xor_lossless [7] (by simp)
-- the CBK block transform on a 17-byte buffer (block size 16, count byte 3) with a key that divided
-- by zero before the repair
example : ∃ c, Cbk.encBlock ⟨119, 84, 48, 3⟩ 1 ([1, 2, 3] ++ List.replicate 13 0 ++ [3]) = some c ∧
    c ≠ [1, 2, 3] ++ List.replicate 13 0 ++ [3] := by
  obtain ⟨c, h, _, _⟩ := cbk_block ⟨119, 84, 48, 3⟩ 1 ([1, 2, 3] ++ List.replicate 13 0 ++ [3]) (by decide)
  refine ⟨c, h, ?_⟩
  intro e; rw [e] at h; revert h; decide

-- DNS: the three domain shapes that did not round-trip before the repairs, and a plain one, in both
-- modes, on a concrete payload (kernel-evaluated model run of encoder and decoder)
example : ∀ server ∈ [true, false], ∀ dom ∈ ([[101,120,97,109,112,108,101,46,99,111,109,46],  -- "example.com."
      [97,46,46,98], [46,97], List.replicate 70 120,                                  -- "a..b", ".a", 70 x 'x'
      [101,120,97,109,112,108,101,46,99,111,109]] : List Bytes),                       -- "example.com"
    (Dns.write server dom [fun _ => 7] [1, 2, 3]).map (fun pk => Dns.read pk.flatten)
      = some ([[1, 2, 3]], none) := by decide

/-! ## closed instances of the composition theorems -/

/-- the DNS transform as a `Transform` of the send/receive composition -/
def dnsTransform (server : Bool) (dom : Bytes) (rs : List (Nat → UInt8)) : Transform where
  write x := (Dns.write server dom rs x).map List.flatten
  read y := match Dns.read y with | (ws, none) => some ws.flatten | _ => none

theorem dnsTransform_lossless (server : Bool) (dom : Bytes) (rs : List (Nat → UInt8)) (hdom : dom.length ≤ 255) :
    ∀ x, ∃ y, (dnsTransform server dom rs).write x = some y ∧ (dnsTransform server dom rs).read y = some x := by
  intro x
  obtain ⟨pk, ws, h1, h2, h3⟩ := dns_roundtrip server dom rs x hdom
  exact ⟨pk.flatten, by simp [dnsTransform, h1], by simp [dnsTransform, h2, h3]⟩

/-- a layer the proofs of this file cover without assumptions: the XOR wrapper with a non-empty key or
the CBK wrapper with an accepted key and block size -/
def ProvedLayer (L : Layer) : Prop :=
  (∃ key, key ≠ [] ∧ L = xorLayer key) ∨
  (∃ a b c d sz s0, Cbk.newSource a b c d sz = some s0 ∧ L = Cbk.cbkLayer s0)

theorem provedLayer_good {L : Layer} (h : ProvedLayer L) : LGood L := by
  rcases h with ⟨key, hk, rfl⟩ | ⟨a, b, c, d, sz, s0, hs, rfl⟩
  · exact xor_lossless key hk
  · exact cbk_stream a b c d sz s0 hs

/-- **Closed instance**: a packet sent through ANY stack of XOR and CBK wrappers (any depth, any keys)
and the DNS transform (either mode, any domain of at most 255 bytes, any filler) — or no transform —
and read back through the receive path is the packet that was sent, for any packet codec with a round
trip (C01 proves it for `Packet.Marshal` / `Unmarshal`). Nothing else is assumed: this is
`sendrecv` with every hypothesis about wrappers and transform discharged by the theorems above. -/
theorem sendrecv_xor_cbk_dns {P : Type} (m : List Layer) (hm : ∀ L ∈ m, ProvedLayer L)
    (t : Option (Bool × Bytes × List (Nat → UInt8))) (ht : ∀ x, t = some x → x.2.1.length ≤ 255)
    (marshal : P → List Bytes) (unmarshal : Bytes → Option P)
    (hp : ∀ p, unmarshal (marshal p).flatten = some p) (p : P) :
    ∃ wire, writePacket (some (multiWrap m sink)) (t.map fun x => dnsTransform x.1 x.2.1 x.2.2) (marshal p) = some wire ∧
      readPacket (some (multiUnwrap m)) (t.map fun x => dnsTransform x.1 x.2.1 x.2.2) unmarshal wire = some p :=
  sendrecv m (fun L hL => provedLayer_good (hm L hL)) _
    (lossless_of_map t _ fun x hx => dnsTransform_lossless x.1 x.2.1 x.2.2 (ht x hx)) marshal unmarshal hp p

/-! ## encoding/hex and encoding/base64 are models, not parameters

The `Hex` and `Base64` wrappers (c2/wrapper/simple.go) and the Base64(-shift) transform
(c2/transform/base64.go) are thin calls into the Go standard library. XMT/HexCodec.lean and
XMT/B64Codec.lean transcribe the library's `Encode`/`Decode` and the streaming encoder / decoder
state machines (`hex.NewEncoder/NewDecoder`, `base64.NewEncoder/NewDecoder` with `StdEncoding`); they
are compared with the real library through the real wrappers on every run (groups hex-s3, b64-s3,
stack-s3: every `Write` made below, every `Read` answered, error classes on malformed streams).
The reader below is a `Src`: any list of pieces (empty ones = `(0, nil)` Reads), EOF delivered with or
after the last bytes. -/

/-- `hex.Decode(hex.Encode(x)) = x`, no error, for every byte string. -/
theorem hex_decode_encode (x : Bytes) : HexCodec.decode (HexCodec.encode x) = (x, none) :=
  HexCodec.decode_encode x

/-- **The Hex wrapper is lossless for every payload, every chunking of the writes and of the reads.**
For every list of `Write`s `ws`: what reaches the writer below (in chunks of at most
`bufferSize/2` input bytes per `Write`, `Close` adds nothing) is the hex encoding of the
concatenation; and for every way `cs` the wire is cut into pieces (empty pieces included), EOF arriving
with (`we = true`) or after the last bytes, and every list `ks` of `Read` buffer sizes (0 included):
the Reads deliver a prefix of the payload, the only error ever returned is `io.EOF`, exactly when the
whole payload has been delivered; and Reads of any fixed positive size `k` deliver the whole payload
followed by `io.EOF`. -/
theorem hex_roundtrip (ws : List Bytes) :
    (HexCodec.hexLayer.run ws).flatten = HexCodec.encode ws.flatten ∧
    ∀ (cs : List Bytes) (we : Bool), cs.flatten = (HexCodec.hexLayer.run ws).flatten →
      (∀ ks, ∃ rest, ws.flatten = (HexCodec.readSeq HexCodec.Dec.init ⟨cs, we⟩ ks).1.flatten ++ rest ∧
        ((HexCodec.readSeq HexCodec.Dec.init ⟨cs, we⟩ ks).2 = none ∨
          ((HexCodec.readSeq HexCodec.Dec.init ⟨cs, we⟩ ks).2 = some .eof ∧ rest = []))) ∧
      (∀ k fuel, 0 < k → ws.flatten.length + cs.length + 1 < fuel →
        HexCodec.readAll k fuel HexCodec.Dec.init ⟨cs, we⟩ = (ws.flatten, some .eof)) := by
  refine ⟨HexCodec.hexLayer_run ws, fun cs we h => ?_⟩
  have hi := HexCodec.inv_init cs we ws.flatten (by rw [h, HexCodec.hexLayer_run])
  exact ⟨fun ks => HexCodec.readSeq_spec ks hi,
    fun k fuel hk hf => HexCodec.readAll_spec k hk fuel hi hf⟩

/-- The `Hex` wrapper is a good layer of the stack model (no assumption left). -/
theorem hex_lossless : LGood HexCodec.hexLayer :=
  .of_close_nil (fun _ => rfl) fun ws =>
    (congrArg HexCodec.hexLayer.dec (HexCodec.hexLayer_writes ws)).trans (HexCodec.hexLayer_dec_encode _)

/-- `StdEncoding.Decode(StdEncoding.Encode(x)) = x`, no error, for every byte string (all three
residues of the length mod 3, i.e. no, one and two padding characters). -/
theorem base64_decode_encode (x : Bytes) : B64Codec.decode (B64Codec.encode x) = (x, none) :=
  B64Codec.decode_encode x

/-- **The Base64 wrapper is lossless for every payload, every chunking of the writes and of the
reads.** The streaming encoder keeps up to two bytes between `Write`s and flushes a partial group
(padded) only on `Close`: for every list of `Write`s the bytes below after `Close` are the base64
encoding of the concatenation. The streaming decoder (refill until four characters, whole quanta
decoded, left-over output kept in `out`): for every cut `cs` of the wire into pieces, EOF with or
after the last bytes, and every list `ks` of `Read` sizes (0 included) the Reads deliver a prefix of
the payload, the only error is `io.EOF`, exactly at the end; Reads of any fixed positive size deliver
the whole payload followed by `io.EOF`. -/
theorem base64_roundtrip (ws : List Bytes) :
    (B64Codec.b64Layer.run ws).flatten = B64Codec.encode ws.flatten ∧
    ∀ (cs : List Bytes) (we : Bool), cs.flatten = (B64Codec.b64Layer.run ws).flatten →
      (∀ ks, ∃ rest, ws.flatten = (B64Codec.readSeq B64Codec.Dec.init ⟨cs, we⟩ ks).1.flatten ++ rest ∧
        ((B64Codec.readSeq B64Codec.Dec.init ⟨cs, we⟩ ks).2 = none ∨
          ((B64Codec.readSeq B64Codec.Dec.init ⟨cs, we⟩ ks).2 = some .eof ∧ rest = []))) ∧
      (∀ k fuel, 0 < k → ws.flatten.length + 1 < fuel →
        B64Codec.readAll k fuel B64Codec.Dec.init ⟨cs, we⟩ = (ws.flatten, some .eof)) := by
  refine ⟨B64Codec.b64Layer_run ws, fun cs we h => ?_⟩
  have hi := B64Codec.invB_init cs we ws.flatten (by rw [h, B64Codec.b64Layer_run])
  exact ⟨fun ks => B64Codec.readSeq_spec ks hi,
    fun k fuel hk hf => B64Codec.readAll_spec k hk fuel hi hf⟩

/-- The `Base64` wrapper is a good layer of the stack model (no assumption left); a second `Close`
writes nothing. -/
theorem base64_lossless : LGood B64Codec.b64Layer :=
  ⟨fun e => e.buf = [], fun e he => ⟨B64Codec.close_idle he, B64Codec.close_done e⟩, fun ws =>
    ⟨B64Codec.close_done _, by rw [B64Codec.b64Layer_run]; exact B64Codec.b64Layer_dec_encode _⟩⟩

/-- The Base64(-shift) transform with the concrete codec: `B64(shift).Read(B64(shift).Write(p)) = p`
for every shift byte and payload, nothing assumed about base64. -/
theorem b64transform_roundtrip (shift : UInt8) (p : Bytes) :
    B64Codec.transformRead shift (B64Codec.transformWrite shift p) = some p :=
  B64Codec.transform_roundtrip shift p

/-- The write side of the concrete transform is the parametric `b64Write` of `b64shift_roundtrip`
instantiated with the model of `StdEncoding.Encode` (so the differential ops `b64w` and `b64tw` are
about the same function). Nothing is stated about the read side (`transformRead` against `b64Read`
over `B64Codec.decode`; ops `b64r` / `b64td`). -/
theorem b64transform_is_instance (shift : UInt8) (p : Bytes) :
    B64Codec.transformWrite shift p = b64Write B64Codec.encode shift p :=
  B64Codec.transformWrite_eq shift p

/-- the Base64(-shift) transform as a `Transform` of the send/receive composition -/
def b64Transform (shift : UInt8) : Transform where
  write x := some (B64Codec.transformWrite shift x)
  read y := B64Codec.transformRead shift y

theorem b64Transform_lossless (shift : UInt8) :
    ∀ x, ∃ y, (b64Transform shift).write x = some y ∧ (b64Transform shift).read y = some x :=
  fun x => ⟨_, rfl, B64Codec.transform_roundtrip shift x⟩

/-- a layer covered without assumptions: XOR, CBK, Hex, Base64 -/
def ProvedLayer3 (L : Layer) : Prop :=
  ProvedLayer L ∨ L = HexCodec.hexLayer ∨ L = B64Codec.b64Layer

theorem provedLayer3_good {L : Layer} (h : ProvedLayer3 L) : LGood L := by
  rcases h with h | rfl | rfl
  · exact provedLayer_good h
  · exact hex_lossless
  · exact base64_lossless

/-- **Stack theorem with NO assumed layer**: any stack (any depth, any order, any keys) made of XOR,
CBK, Hex and Base64 wrappers returns what was written, for every chunking of the writes. -/
theorem stack_roundtrip_concrete (m : List Layer) (h : ∀ L ∈ m, ProvedLayer3 L) (ws : List Bytes) :
    multiUnwrap m ((multiWrap m sink).run ws) = some ws.flatten :=
  stack_roundtrip m (fun L hL => provedLayer3_good (h L hL)) ws

/-- the transforms a profile can carry -/
inductive TSpec
  | dns (server : Bool) (dom : Bytes) (rs : List (Nat → UInt8))
  | b64 (shift : UInt8)

def TSpec.transform : TSpec → Transform
  | .dns server dom rs => dnsTransform server dom rs
  | .b64 shift => b64Transform shift

def TSpec.ok : TSpec → Prop
  | .dns _ dom _ => dom.length ≤ 255
  | .b64 _ => True

/-- **Closed instance of `sendrecv`**: a packet sent through ANY stack of XOR, CBK, Hex and Base64
wrappers and ANY transform a profile can carry (none, DNS in either mode with a domain of at most 255
bytes, Base64 with any shift) and read back through the receive path is the packet that was sent, for
any packet codec with a round trip (C01). No hypothesis about a wrapper, a codec of the standard
library or a transform is left. -/
theorem sendrecv_concrete {P : Type} (m : List Layer) (hm : ∀ L ∈ m, ProvedLayer3 L)
    (t : Option TSpec) (ht : ∀ x, t = some x → x.ok)
    (marshal : P → List Bytes) (unmarshal : Bytes → Option P)
    (hp : ∀ p, unmarshal (marshal p).flatten = some p) (p : P) :
    ∃ wire, writePacket (some (multiWrap m sink)) (t.map TSpec.transform) (marshal p) = some wire ∧
      readPacket (some (multiUnwrap m)) (t.map TSpec.transform) unmarshal wire = some p :=
  sendrecv m (fun L hL => provedLayer3_good (hm L hL)) _
    (lossless_of_map t _ fun x hx => match x with
      | .dns server dom rs => dnsTransform_lossless server dom rs (ht _ hx)
      | .b64 shift => b64Transform_lossless shift) marshal unmarshal hp p

/-! ## One DNS reader model -/

/-- **The two DNS reader models agree wherever either succeeds**: the reader model of this property
(`Dns.read`, written before the reader's repair) returns a payload and no error exactly when the
reader model tied to the repaired code on hostile bytes (`Decode.Dns.read`, property C04) does, and
the payloads are equal. They differ only in which error a malformed message gets
(`DnsAgree.differ_short`, `DnsAgree.differ_errvalue`). -/
theorem dns_reader_models_agree (b w : Bytes) :
    Decode.Dns.read b = .ok w ↔ ∃ ws, Dns.read b = (ws, none) ∧ ws.flatten = w :=
  DnsAgree.read_agrees_iff b w

/-- …and fail on the same inputs. -/
theorem dns_reader_models_fail_together (b : Bytes) :
    (∃ e, Decode.Dns.read b = .err e) ↔ ∃ ws e, Dns.read b = (ws, some e) :=
  DnsAgree.read_err_iff b

/-- `dns_roundtrip` against the C04 reader model (the one tied to the repaired reader): for both
modes, every domain of at most 255 bytes, every filler and every payload, the reader returns exactly
the payload. -/
theorem dns_roundtrip_c04 (server : Bool) (dom : Bytes) (rs : List (Nat → UInt8)) (b : Bytes)
    (hdom : dom.length ≤ 255) :
    ∃ pkts, Dns.write server dom rs b = some pkts ∧ Decode.Dns.read pkts.flatten = .ok b :=
  DnsAgree.dns_roundtrip_c04 server dom rs b hdom

/-! ## Which wrappers exist (tie obligations over regenerated syntactic facts) -/

/-- how a wrapper implementation of c2/wrapper is covered by the theorems of this file -/
inductive Coverage
  | proved      -- a layer model with `LGood` proved
  | parameter   -- `LGood` is a hypothesis of `stack_roundtrip` for this layer (round-tripped by the oracles)
  deriving DecidableEq, Repr

/-- every type of c2/wrapper/*.go with a `Wrap` and an `Unwrap` method (for the enum-like ones: every
constant), with its coverage. A wrapper added to the package changes `Facts.wrapperKinds` and breaks
`wrapper_kinds_covered` until it gets a layer model (or is listed as a parameter). -/
def wrapperCoverage : List (String × Coverage) :=
  [("Block", .proved),            -- block_lossless: CFB over any block function
   ("CBK", .proved),              -- cbk_stream
   ("XOR", .proved),              -- xor_lossless
   ("compress:Gzip", .parameter),
   ("compress:Zlib", .parameter),
   ("simple:Base64", .proved),    -- base64_lossless
   ("simple:Hex", .proved)]       -- hex_lossless

theorem wrapper_kinds_covered : Facts.wrapperKinds = wrapperCoverage.map (·.1) := rfl

/-- the `Hex` / `Base64` wrappers are exactly the standard library constructors the models transcribe
(`StdEncoding`, `data.WriteCloser` around the hex encoder) -/
theorem simple_wrapper_calls : Facts.simpleWrapperCalls =
    ["Unwrap Base64: return base64.NewDecoder(base64.StdEncoding, r), nil",
     "Unwrap Hex: return hex.NewDecoder(r), nil",
     "Wrap Base64: return base64.NewEncoder(base64.StdEncoding, w), nil",
     "Wrap Hex: return data.WriteCloser(hex.NewEncoder(w)), nil"] := rfl

/-- the buffer sizes of the standard library the chunk behaviour of the models depends on -/
theorem codec_buffer_sizes :
    Facts.hexBufferSize = 1024 ∧ Facts.b64EncOut = 1024 ∧ Facts.b64DecBuf = 1024 := by decide

/-! ## Non-vacuity: Hex, Base64 -/

-- a hex stream cut inside a pair, EOF with the last bytes, Reads of 1, 0 and 5 bytes
example : HexCodec.readSeq HexCodec.Dec.init ⟨[[48], [49, 102], [], [70]], true⟩ [1, 0, 5, 5, 5, 5]
    = ([[], [], [1], [], [255]], some .eof) := by decide
-- malformed hex: odd length → unexpected EOF; bad alphabet → InvalidByteError
example : (HexCodec.readSeq HexCodec.Dec.init ⟨[[48, 49, 50]], false⟩ [4, 4, 4]).2 = some .ueof := by decide
example : (HexCodec.readSeq HexCodec.Dec.init ⟨[[48, 103]], false⟩ [4]).2 = some (.invalidByte 103) := by decide
-- base64: "Zm9vYmE=" written as 2+0+3 bytes, wire cut inside a quantum, Reads of 2 bytes
example : (B64Codec.b64Layer.run [[102, 111], [], [111, 98, 97]]).flatten = [90, 109, 57, 118, 89, 109, 69, 61] := by decide
example : B64Codec.readAll 2 9 B64Codec.Dec.init ⟨[[90, 109, 57], [118, 89, 109, 69], [], [61]], true⟩
    = ([102, 111, 111, 98, 97], some .eof) := by decide
-- malformed base64: missing padding → unexpected EOF (stream) / corrupt (whole buffer); data after padding
example : (B64Codec.readSeq B64Codec.Dec.init ⟨[[90, 109, 57, 118, 89, 109, 69]], false⟩ [9, 9]).2 = some .ueof := by decide
example : (B64Codec.decode [90, 109, 57, 118, 89, 109, 69]).2 = some .corrupt := by decide
example : (B64Codec.decode [89, 81, 61, 61, 89, 81, 61, 61]).2 = some .corrupt := by decide
-- a stack Hex ∘ Base64 ∘ XOR round-trips in the model, and the wire is not the payload
example : multiUnwrap [HexCodec.hexLayer, B64Codec.b64Layer, xorLayer [7, 9]]
    ((multiWrap [HexCodec.hexLayer, B64Codec.b64Layer, xorLayer [7, 9]] sink).run [[1, 2], [3, 4, 5]])
    = some [1, 2, 3, 4, 5] := by decide
example : ProvedLayer3 HexCodec.hexLayer ∧ ProvedLayer3 B64Codec.b64Layer := ⟨Or.inr (Or.inl rfl), Or.inr (Or.inr rfl)⟩
example : (TSpec.b64 3).ok ∧ (TSpec.dns true [97, 46, 98] []).ok := ⟨trivial, by simp [TSpec.ok]⟩

end XMT.Props.C07
