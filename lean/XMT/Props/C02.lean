/-
  C02 — Fragmented packets reassemble to exactly the original, for every size.
  Property theorems only. Model: XMT/Frag.lean (sender split = Session.write, receiver =
  cluster.add/done + the FlagFrag arm of receive + markSweepFrags); lemmas: XMT/FragLemmas.lean,
  FragRecv.lean, FragAssemble.lean, FragMap.lean (also the maps with distinct keys), FragSweep.lean,
  FragSend.lean.  `F` (limits.Frag)
  is a parameter: every theorem holds for every fragment limit, every payload size and every residue
  of the size modulo `F`.

  -- OPEN: the property quantifies over *all* arrival permutations. The code answers a fragment with
  -- position > 0 of a group it has no state for with `SvDrop` and discards it (`first_not_zero_dropped`
  -- below is the proved negation, for every such fragment), so only arrival orders whose first
  -- fragment is fragment 0 reassemble: `reassemble_any_order_partial`. Known finding
  -- `order:first-arrival-not-fragment-0`.

  Scope notes (see DESIGN.md Appendix B.5):
  * duplicate arrivals: the any-order theorems take an arrival order WITHOUT repetitions of a
    fragment that is still needed (each needed position once); a duplicate of an already stored
    position is accepted by `cluster.add` and counted, so m arrivals containing a duplicate
    complete a group with a hole:
    `duplicates_complete_by_count_partial`, `duplicate_delivers_corrupted_witness`.
  * `sweep_decrements` / `sweep_keeps_active` are one-step facts about `markSweepFrags`; "a stale
    group is gone after fragMaxMisses sweeps" and "sweeps between arrivals do not disturb a transfer
    that is fed" over whole histories are `starved_group_released`,
    `stale_group_released_late_dropped` and `fed_group_never_swept`.
  * `split_one_job`: the Job number drawn for a Job-less packet is a parameter of `withJob`.
-/
import XMT.FragAssemble
import XMT.FragSweep
import XMT.FragSend
namespace XMT.Props.C02
open XMT.Frag XMT.Flag

/-- **The split is lossless**: for every limit `F > 0`, packet and group id, the fragments carry
consecutive windows of at most `F` bytes which concatenate to exactly the original payload; their
number is the count computed from `Size()`. -/
theorem split_lossless (F : Nat) (hF : 0 < F) (p : Pkt) (g : Nat) :
    (split F p g).length = fragCount F (Packet.size p) ∧
    ((split F p g).map (·.payload)).flatten = p.payload ∧
    (∀ f ∈ split F p g, f.payload.length ≤ F ∧ f.id = p.id ∧ f.job = p.job ∧ f.dev = p.dev) := by
  rw [split_eq_fr]
  refine ⟨by rw [List.length_map, List.length_range], ?_, ?_⟩
  · rw [List.map_map, show (fun x : Pkt => x.payload) ∘ fr F p g _ = win F p from rfl]
    exact windows_cover F hF p
  · intro f hf
    obtain ⟨i, _, rfl⟩ := List.mem_map.mp hf
    exact ⟨(List.length_take_le _ _), rfl, rfl, rfl⟩

/-- **One Job number per group**: `write` gives a packet without a Job number one before it is split
(`withJob`, the repaired code), so all fragments carry the same Job number — non-zero whenever the
drawn number is — and everything above applies to the packet with that number. -/
theorem split_one_job (F : Nat) (hF : 0 < F) (p : Pkt) (g j : Nat) :
    (∀ f ∈ split F (withJob p j) g, f.job = (withJob p j).job) ∧
    (p.job = 0 → p.flags &&& Facts.flagProxy = 0 → p.id.toNat > 1 → (withJob p j).job = j) ∧
    (p.job ≠ 0 → withJob p j = p) := by
  refine ⟨fun f hf => ((split_lossless F hF (withJob p j) g).2.2 f hf).2.2.1, ?_, ?_⟩
  · intro h1 h2 h3; unfold withJob; simp [h1, h2, h3]
  · intro h; unfold withJob; simp [h]

/-- **Exactly once, identical, any order after fragment 0** (the `_partial` form, see the header):
when fragment 0 arrives first and the others in *any* order `R`, the first `m-1` arrivals are only
stored, the last one delivers exactly one packet whose ID, job, device, flags and payload are the
original's, and the group leaves no reassembly state behind (`none`). -/
theorem reassemble_any_order_partial {F : Nat} {p : Pkt} {g m : Nat} (C : Ctx F p g m)
    (R : List Nat) (hR : (0 :: R).Perm (List.range m)) :
    feedGroup none ((0 :: R).map (fr F p g m)) =
      (none, List.replicate (m - 1) Out.stored ++ [.deliver { p with tags := [] }]) := by
  obtain ⟨v, hv, hf⟩ := feed_any_positions C R
    (fun i hi => List.mem_range.mp (hR.subset (List.mem_cons_of_mem _ hi)))
    (by simpa using hR.length_eq)
  rw [assemble_perm C (0 :: R) hR] at hv
  rw [hf, ← Option.some.inj hv]

/-- the same at the level of `receive`'s fragment map, with fragments of **other groups
interleaved arbitrarily** (distinct group identifiers): the group is delivered exactly once,
identical to the original, and leaves no residual state, whatever else arrives in between. -/
theorem reassemble_interleaved {F : Nat} {p : Pkt} {g m : Nat} (C : Ctx F p g m)
    (R : List Nat) (hR : (0 :: R).Perm (List.range m)) (arr : List Pkt) (fs : Frags)
    (hprop : ∀ n ∈ arr, Proper n) (hfresh : fs.find g = none)
    (hmine : arr.filter (fun n => group n.flags = g) = (0 :: R).map (fr F p g m)) :
    (recvAll fs arr).1.find g = none ∧
    outsOf g arr (recvAll fs arr).2 =
      List.replicate (m - 1) Out.stored ++ [.deliver { p with tags := [] }] := by
  obtain ⟨h1, h2⟩ := recvAll_project g arr fs fun n hn _ => hprop n hn
  rw [hfresh, hmine, reassemble_any_order_partial C R hR] at h1 h2
  exact ⟨h1, h2⟩

/-- **A group of which some fragment never arrives delivers nothing**: any arrivals (fragment 0
first, then any fragments of the group, fewer than `m` in total) are only stored. -/
theorem missing_delivers_nothing {F : Nat} {p : Pkt} {g m : Nat} (C : Ctx F p g m)
    (R : List Nat) (hRm : ∀ i ∈ R, i < m) (hlen : R.length + 1 < m) :
    feedGroup none ((0 :: R).map (fr F p g m)) =
      (some (St m ((0 :: R).map (fr F p g m))), List.replicate (R.length + 1) Out.stored) := by
  obtain ⟨h0, p0, l0⟩ := fr_zero C
  have := feed_incomplete C.m2 C.m16 h0 p0 l0 _ (fr_fits C R hRm) (by rw [List.length_map]; exact hlen)
  rwa [List.length_map] at this

/-- **Negation of the full statement** (known finding): a fragment with position > 0 arriving for a
group that has no reassembly state is answered with `SvDrop` and discarded — for *every* such
fragment of *every* fragmented packet, not only on a witness. -/
theorem first_not_zero_dropped {F : Nat} {p : Pkt} {g m : Nat} (C : Ctx F p g m) (i : Nat)
    (h0 : 0 < i) (hi : i < m) : recvGroup none (fr F p g m i) = (none, .dropReply) :=
  recvGroup_none_late _ (by rw [fr_position C i hi]; exact h0)

/-- **Stale groups are swept** (`markSweepFrags`): every entry that survives a sweep is an old entry
whose miss counter went down by one and is still non-zero — so a group that is not fed any more
(its counter was set to `fragMaxMisses` by its last fragment) is gone after `fragMaxMisses` sweeps. -/
theorem sweep_decrements (fs : Frags) :
    ∀ kv ∈ sweep fs, kv.2.c ≠ 0 ∧
      ∃ kv0 ∈ fs, kv0.1 = kv.1 ∧ kv.2.c = (kv0.2.c + 255) % 256 ∧ kv.2.data = kv0.2.data := by
  intro kv hkv
  obtain ⟨hne, kv0, h0, rfl⟩ := mem_sweep.mp hkv
  exact ⟨hne, kv0, h0, rfl, rfl, rfl⟩

/-! Non-vacuity: a concrete packet of 10 payload bytes with F = 4 would need Size() = 57 bytes →
15 fragments, most of them empty — the situation the repaired completion test handles. -/
def demo : Pkt := { id := 0x20, job := 77, flags := 0, tags := [],
                    dev := 1 :: List.replicate 31 0, payload := [1,2,3,4,5,6,7,8,9,10] }
example : (split 4 demo 9).length = 15 ∧ ((split 4 demo 9).map (·.payload)).flatten = demo.payload := by
  decide
example : (recvAll [] (split 4 demo 9)).1 = [] ∧
    (recvAll [] (split 4 demo 9)).2.getLast? = some (.deliver demo) := by decide

/-- **A wake-up of the receiver only ever discards stale groups**: `markSweepFrags` keeps every
group whose counter is above 1 — whatever its 16-bit identifier, 0 included — with the counter one
lower and the fragments untouched, and removes exactly the groups whose counter runs out. (Every
arriving fragment sets its group's counter back to `fragMaxMisses`, so a transfer that gets one
fragment per wake-up is never swept.) -/
theorem sweep_keeps_active (fs : Frag.Frags) (g : Nat) (cl : Frag.Cluster) (h : (g, cl) ∈ fs)
    (hc : 2 ≤ cl.c) (hc' : cl.c < 256) : (g, { cl with c := cl.c - 1 }) ∈ Frag.sweep fs := by
  have hm : (cl.c + 255) % 256 = cl.c - 1 := by omega
  exact mem_sweep.mpr ⟨show cl.c - 1 ≠ 0 by omega, (g, cl), h, by rw [hm]⟩

/-! ## Repeated fragments (duplicates) and wake-ups over whole histories

  -- OPEN (decided, negative): "fragment 0 first, then the fragments in any order, some of them
  -- MORE THAN ONCE ⇒ delivered exactly once, identical" is FALSE of the code: `cluster.add` stores and
  -- counts a repetition, `cluster.done` completes by count. `duplicates_complete_by_count_partial` is
  -- what does hold for every such arrival sequence; `duplicate_delivers_corrupted_witness` is the
  -- proved negation on a concrete packet. Known finding `duplicate:needed-fragment-repeated`.
  -- The sender never produces a repetition (`sender_never_repeats`) and nothing on the sending side
  -- queues a fragment twice, so the finding needs a replaying network element or peer.
-/

/-- **The sender never repeats a fragment**: the positions of the fragments `Session.write` queues
for one packet are `0, 1, …, m-1` in this order, each exactly once. -/
theorem sender_never_repeats {F : Nat} {p : Pkt} {g m : Nat} (C : Ctx F p g m) :
    (split F p g).map (fun f => position f.flags) = List.range m ∧
    ((split F p g).map (fun f => position f.flags)).Nodup := by
  rw [split_positions C]
  exact ⟨rfl, List.nodup_range⟩

/-- **Completion is by count** (the part of the duplicate statement that holds, for EVERY arrival
sequence with repetitions): fragment 0 first, then any `m-1` fragments of the group — positions
below `m`, repetitions allowed — are stored; the `m`-th arrival hands on exactly one packet, namely
`assemble` of what was collected (the original only if nothing was repeated, see the witness), and
releases the state; the fragments that arrive afterwards (positions above 0: the ones a repetition
displaced) are each answered with `SvDrop` and make no new state. -/
theorem duplicates_complete_by_count_partial {F : Nat} {p : Pkt} {g m : Nat} (C : Ctx F p g m)
    (R : List Nat) (hRm : ∀ i ∈ R, i < m) (hlen : R.length + 1 = m)
    (L : List Nat) (hL : ∀ i ∈ L, 0 < i ∧ i < m) :
    ∃ v, assemble ((0 :: R).map (fr F p g m)) = some v ∧
      feedGroup none (((0 :: R) ++ L).map (fr F p g m)) =
        (none, (List.replicate (m - 1) Out.stored ++ [.deliver v]) ++
               List.replicate L.length Out.dropReply) := by
  obtain ⟨v, hv, hf⟩ := feed_any_positions C R hRm hlen
  refine ⟨v, hv, ?_⟩
  rw [List.map_append, feedGroup_append, hf, feedGroup_none_late _ (fr_late C L hL), List.length_map]

/-- the witness packet is in the domain of the reassembly theorems (F = 4, 15 fragments) -/
theorem dupDemo_ctx : Ctx 4 dupDemo 9 15 :=
  ⟨by decide, by decide, by decide, by decide, by decide, by decide, by decide, by decide, by decide⟩

/-- **Negation of the full duplicate statement, on a concrete witness** (known finding
`duplicate:needed-fragment-repeated`): every one of the 15 fragments arrives, fragment 0 first,
fragment 1 twice (the second time while fragment 2 is still on its way). The 15th arrival hands the
handler a packet whose payload is `f0 ++ f1 ++ f1` — not the original — and fragment 2, arriving
next, is answered with `SvDrop`. -/
theorem duplicate_delivers_corrupted_witness :
    feedGroup none (dupArrivals.map (fr 4 dupDemo 9 15)) =
      (none, List.replicate 14 Out.stored ++
             [.deliver { dupDemo with payload := [1,2,3,4,5,6,7,8,5,6,7,8] }] ++ [.dropReply]) ∧
    dupArrivals.head? = some 0 ∧ (∀ i, i < 15 → i ∈ dupArrivals) ∧
    ({ dupDemo with payload := [1,2,3,4,5,6,7,8,5,6,7,8] } : Pkt).payload ≠ dupDemo.payload := by
  decide

/-- a repetition of fragment 0 that arrives when the group has no state (completed or swept) starts
a new cluster, which stays (residual state) until `markSweepFrags` has run `fragMaxMisses` times -/
theorem late_fragment_zero_restarts {F : Nat} {p : Pkt} {g m : Nat} (C : Ctx F p g m) :
    feedGroup none [fr F p g m 0] = (some (St m [fr F p g m 0]), [Out.stored]) ∧
    feedEv (some (St m [fr F p g m 0])) (List.replicate Facts.fragMaxMisses Ev.wake) = (none, []) := by
  refine ⟨missing_delivers_nothing C [] nofun (by have := C.m2; simp only [List.length_nil]; omega), ?_⟩
  rw [feedEv_wakes, sweepN_some _ (show 1 ≤ Facts.fragMaxMisses by decide)
    (show Facts.fragMaxMisses < 256 by decide)]
  rfl

example : ∃ R L, (∀ i ∈ R, i < 15) ∧ R.length + 1 = 15 ∧ (∀ i ∈ L, 0 < i ∧ i < 15) ∧
    (0 :: R) ++ L = dupArrivals :=
  ⟨[1, 1, 3, 4, 5, 6, 7, 8, 9, 10, 11, 12, 13, 14], [2], by decide, by decide, by decide, by decide⟩

/-- **A group that keeps receiving fragments is never swept — over ANY history.** `es` is any
interleaving of arrivals (of any number of groups, any fragments that go through the reassembly
path) and wake-ups of the receiving Session (`markSweepFrags`), starting from any fragment map `fs`
(distinct keys) without state for `g`. If the arrivals of group `g` are its fragments, fragment 0
first and the others in any order, and fewer than `fragMaxMisses` wake-ups fall between any two
consecutive arrivals of the group (`paced`; wake-ups before its first and after its last arrival are
unconstrained), then the group is answered exactly as without wake-ups: `m-1` times stored, then
delivered once, identical to the original, and no state for `g` is left. -/
theorem fed_group_never_swept {F : Nat} {p : Pkt} {g m : Nat} (C : Ctx F p g m)
    (R : List Nat) (hR : (0 :: R).Perm (List.range m)) (es : List Ev) (fs : Frags)
    (hn : (FragHostile.keys fs).Nodup) (hprop : ∀ n ∈ arrivals es, Proper n) (hfresh : fs.find g = none)
    (hmine : (arrivals es).filter (fun n => group n.flags = g) = (0 :: R).map (fr F p g m))
    (hpaced : paced Facts.fragMaxMisses none (projEv g es) = true) :
    (runEv fs es).1.find g = none ∧
    outsOf g (arrivals es) (runEv fs es).2 =
      List.replicate (m - 1) Out.stored ++ [.deliver { p with tags := [] }] := by
  obtain ⟨h1, k, h2⟩ := runEv_paced g es fs hn (fun n hn _ => hprop n hn) hfresh hpaced hmine
    (reassemble_any_order_partial C R hR) (by simp)
  exact ⟨h2.trans (sweepN_none k), h1⟩

/-- **A group that receives nothing is released after its counter has run out — over ANY history**
of arrivals of other groups and wake-ups: with `w` wake-ups in the history, the entry of `g` is still
there with its fragments untouched and its counter `w` lower while `w` is below the counter, and it
is gone from then on. A state left by an arrival has counter `fragMaxMisses` (`fresh_recvGroup`), so
`fragMaxMisses` wake-ups without a fragment release the group. (`hprop` is not needed: what arrives
for other groups need not go through the reassembly path, `runEv_no_arrival`.) -/
theorem starved_group_released (g : Nat) (es : List Ev) (fs : Frags)
    (hn : (FragHostile.keys fs).Nodup) (hprop : ∀ n ∈ arrivals es, Proper n)
    (x : Cluster) (hx : fs.find g = some x) (h1 : 1 ≤ x.c) (h2 : x.c ≤ Facts.fragMaxMisses)
    (hnone : ∀ n ∈ arrivals es, group n.flags ≠ g) :
    (runEv fs es).1.find g = if wakes es < x.c then some { x with c := x.c - wakes es } else none := by
  have hF : Facts.fragMaxMisses < 256 := by decide
  rw [runEv_no_arrival g es fs hn hnone, hx, sweepN_some x h1 (by omega)]

/-- **Stale group, whole history**: the group gets fragment 0 and some more fragments, but fewer than
`m` (paced history `es1`), then nothing during a history `es2` with at least `fragMaxMisses`
wake-ups, then — history `es3` — fragments with a position above 0 arrive late. Nothing is ever
delivered for the group: in `es1` every fragment is stored, after `es2` the group has no state, and
in `es3` every late fragment is answered with `SvDrop` and no state is made. Fragments of other
groups and further wake-ups may be interleaved everywhere (`hp2` is not needed, as above). -/
theorem stale_group_released_late_dropped {F : Nat} {p : Pkt} {g m : Nat} (C : Ctx F p g m)
    (R : List Nat) (hRm : ∀ i ∈ R, i < m) (hlen : R.length + 1 < m)
    (es1 es2 es3 : List Ev) (fs : Frags) (hn : (FragHostile.keys fs).Nodup) (hfresh : fs.find g = none)
    (hp1 : ∀ n ∈ arrivals es1, Proper n) (hp2 : ∀ n ∈ arrivals es2, Proper n)
    (hp3 : ∀ n ∈ arrivals es3, Proper n)
    (hmine : (arrivals es1).filter (fun n => group n.flags = g) = (0 :: R).map (fr F p g m))
    (hpaced : paced Facts.fragMaxMisses none (projEv g es1) = true)
    (hnone : ∀ n ∈ arrivals es2, group n.flags ≠ g) (hw : Facts.fragMaxMisses ≤ wakes es2)
    (L : List Nat) (hL : ∀ i ∈ L, 0 < i ∧ i < m)
    (hlate : (arrivals es3).filter (fun n => group n.flags = g) = L.map (fr F p g m)) :
    outsOf g (arrivals es1) (runEv fs es1).2 = List.replicate (R.length + 1) Out.stored ∧
    (runEv (runEv fs es1).1 es2).1.find g = none ∧
    outsOf g (arrivals es3) (runEv (runEv (runEv fs es1).1 es2).1 es3).2 =
      List.replicate L.length Out.dropReply ∧
    (runEv (runEv (runEv fs es1).1 es2).1 es3).1.find g = none := by
  -- es1: every fragment stored; the state is that of the arrivals after some wake-ups
  obtain ⟨a2, k, a1⟩ := runEv_paced g es1 fs hn (fun n hn _ => hp1 n hn) hfresh hpaced hmine
    (missing_delivers_nothing C R hRm hlen) (by simp)
  have hn1 := keys_runEv_nodup es1 fs hn
  -- es2: `fragMaxMisses` or more further wake-ups release it
  have hmid : (runEv (runEv fs es1).1 es2).1.find g = none := by
    rw [runEv_no_arrival g es2 _ hn1 hnone, a1, ← sweepN_add, sweepN_some _ (show 1 ≤ Facts.fragMaxMisses by decide)
        (show Facts.fragMaxMisses < 256 by decide)]
    exact if_neg (show ¬ k + wakes es2 < Facts.fragMaxMisses by omega)
  -- es3: late fragments meet a group without state
  obtain ⟨c1, c2⟩ := runEv_project g es3 _ (keys_runEv_nodup es2 _ hn1) fun n hn _ => hp3 n hn
  have h3 := feedEv_none_late (projEv g es3) (by rw [arrivals_projEv, hlate]; exact fr_late C L hL)
  rw [hmid, h3] at c1 c2
  exact ⟨a2, hmid, by rw [c2, arrivals_projEv, hlate, List.length_map], c1⟩

/-! Non-vacuity of the history theorems: the 15 fragments of `dupDemo` (F = 4), fragment 0 first, two
wake-ups after every fragment (30 in all, never 5 in a row) — delivered; and a history that stops
after 3 fragments, 5 wake-ups: released, the late fragment 7 is answered with `SvDrop`. -/
def demoPaced : List Ev :=
  ((0 :: (List.range 15).drop 1).map (fun i => [Ev.arrive (fr 4 dupDemo 9 15 i), Ev.wake, Ev.wake])).flatten
example : paced Facts.fragMaxMisses none (projEv 9 demoPaced) = true ∧ wakes demoPaced = 30 ∧
    (runEv [] demoPaced).1 = [] ∧ (runEv [] demoPaced).2.getLast? = some (.deliver dupDemo) := by decide
example :
    (runEv [] ([0, 5, 3].map (fun i => Ev.arrive (fr 4 dupDemo 9 15 i)) ++ List.replicate 5 Ev.wake ++
      [Ev.arrive (fr 4 dupDemo 9 15 7)])) = ([], [.stored, .stored, .stored, .dropReply]) := by decide

/-! ## The sender side of the known finding `order:first-arrival-not-fragment-0` -/

/-- **The sender never emits a fragment with a position above 0 before fragment 0 of its group**
(one Session, one connection after the other). `write` (with or without the `ErrFullBuffer` guard,
any channel capacity, any content `q0` queued before, a carried-over packet, anything `q2` queued
afterwards) leaves a prefix of the fragments in the channel, and `next` — for all budgets, batching,
keep-alive elision, carry-over, and also while a group other than `g` is being abandoned — hands
them to the connections in that order: the positions of the fragments of group `g` that the peer
observes over all transmissions until the queue drains are `0, 1, …, k-1` with
`k = min (cap - len q0) m`. So the known finding `order:first-arrival-not-fragment-0` cannot be
caused by one sender on its own connections; it takes reordering between connections (several
connections in flight, a proxy hop) or a lost transmission of fragment 0.
(`write` and the channel are one step here: no concurrent consumer frees a slot during the call.) -/
theorem sender_emits_fragment_zero_first {F : Nat} {p : Pkt} {g m j : Nat}
    (C : Ctx F (withJob p j) g m)
    (P Fb : Nat) (hP : P < Facts.fragMax) (hP2 : 2 ≤ P) (i uuid : Bytes) (w : Bool) (cap : Nat)
    (q0 q1 q2 : List Pkt) (st : Batch.St)
    (hw : writeBig w cap uuid F q0 p g j = some q1) (hst : st.q = q1 ++ q2)
    (hother : ∀ a ∈ st.peek.toList ++ q0 ++ q2, isFragOf g a = false)
    (hpq : Batch.QWF (withJob p j)) (hqo : ∀ a ∈ st.peek.toList ++ q0 ++ q2, Batch.QWF a)
    (hlast : st.last = 0 ∨ st.last ≠ g) :
    ∃ obs, Batch.observe (Batch.drain P Fb i ((Batch.content st).length + 1) st) = .ok obs ∧
      (obs.filter (isFragOf g)).map (fun n => position n.flags) =
        List.range (min (cap - q0.length) m) := by
  obtain ⟨hstamp, hsplit⟩ := split_queued C hpq uuid
  have hcont : Batch.content st = st.peek.toList ++ (q0 ++
      (split F (withJob p j) g).take (cap - q0.length) ++ q2) := by
    unfold Batch.content
    rw [hst, writeBig_prefix w cap uuid F q0 q1 p g j hw, hstamp]
  have hq : ∀ a ∈ Batch.content st, Batch.QWF a := by
    intro a ha
    simp only [hcont, List.mem_append] at ha
    rcases ha with ha | (ha | ha) | ha
    · exact hqo a (by simp [ha])
    · exact hqo a (by simp [ha])
    · exact (hsplit a (List.mem_of_mem_take ha)).2
    · exact hqo a (by simp [ha])
  obtain ⟨obs, ho, hk⟩ := group_order_preserved P Fb hP i st hq g hlast
  refine ⟨obs, ho, ?_⟩
  -- of what is queued, the fragments of `g` are the prefix of the split
  have hnil : ∀ l : List Pkt, (∀ a ∈ l, a ∈ st.peek.toList ++ q0 ++ q2) → l.filter (isFragOf g) = [] :=
    fun l hl => List.filter_eq_nil_iff.mpr fun a ha => by rw [hother a (hl a ha)]; nofun
  have hfil : (Batch.content st).filter (isFragOf g) = (split F (withJob p j) g).take (cap - q0.length) := by
    simp only [hcont, List.filter_append]
    rw [hnil _ (fun a ha => by simp [ha]), hnil q0 (fun a ha => by simp [ha]), hnil q2 (fun a ha => by simp [ha]),
      List.filter_eq_self.mpr fun a ha => (hsplit a (List.mem_of_mem_take ha)).1]
    simp only [List.nil_append, List.append_nil]
  have h1 := congrArg (List.map fun n : Pkt => position n.flags) hk
  simp only [List.map_map, show (fun n : Pkt => position n.flags) ∘ Batch.core = fun n => position n.flags
    from rfl] at h1
  rw [h1, hfil, List.map_take, split_positions C, List.take_range]

/-! Non-vacuity: a send channel of capacity 6 that already holds one small packet; `write` of the
15-fragment packet `dupDemo` (F = 4) leaves fragments 0..4 in it (the other ten are dropped by
`queue`); one more small packet would be dropped too. All hypotheses of the theorem hold and the
peer observes the positions 0, 1, 2, 3, 4 in this order. -/
def sendDev : Bytes := 1 :: List.replicate 31 0
def sendSmall : Pkt := { id := 0x21, job := 5, flags := 0, tags := [], dev := sendDev, payload := [7, 7] }
def sendQ1 : List Pkt := [sendSmall] ++ ((split 4 dupDemo 9).map (stamp sendDev)).take 5
example : withJob dupDemo 0 = dupDemo ∧ writeBig true 6 sendDev 4 [sendSmall] dupDemo 9 0 = some sendQ1 ∧
    (∀ a ∈ [sendSmall], isFragOf 9 a = false) := by decide
example : Batch.QWF (withJob dupDemo 0) ∧ ∀ a ∈ [sendSmall], Batch.QWF a :=
  ⟨qwfB_sound _ (by decide), qwfB_all _ (by decide)⟩
example : (Batch.observe (Batch.drain 256 4 sendDev 7 { q := sendQ1 ++ [], peek := none, last := 0 })).toOption.map
    (fun l => (l.filter (isFragOf 9)).map (fun n => position n.flags)) = some [0, 1, 2, 3, 4] := by decide

end XMT.Props.C02
