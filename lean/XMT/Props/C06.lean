/-
  C06 — Both ends always hold the same session key; encryption is an exact involution.
  Property theorems and their witnesses; model in XMT/Keys.lean, lemmas in XMT/Keys{Xor,Lemmas,Toy}.lean.
  The later blocks name their own files: XMT/KeysPickWait.lean (the Channel-mode helper), XMT/RelaySplice.lean
  (tag relay), XMT/KeysConn{,Lemmas,Toy}.lean (per-connection keys).

  The curve arithmetic is a parameter `c : Curve` with the hypotheses `c.WF` (Diffie–Hellman
  commutes, generated keys yield a secret, public keys have the array size and are not all zero).

  -- OPEN: the property as stated, for ALL fault sequences, is FALSE on this code: a lost reply to a
  -- re-key packet or to a (re-)registration hello desynchronises the two ends.  The negation is
  -- proved below on concrete witnesses (`replyLost_desync`, `replyLost_writeFail_permanent`,
  -- `rehello_replyLost_desync`, `helloLost_blocks_registration`; known findings), the part that
  -- holds is `synced_partial` (every history of completed / write-failed exchanges, re-keys,
  -- server-side drops and re-registrations).
  -- OPEN: channel (full duplex) mode: see the block "Per-connection key handling" below (false with a
  -- re-key inside the channel; proved without one); proxy / multi-device containers are not modelled.
-/
import XMT.KeysToy
import XMT.KeysPickWait
import XMT.RelaySplice
import XMT.KeysConnToy
namespace XMT.Props.C06
open XMT.Keys

/-- `XorOp` / `KeyCrypt` never changes the length, for every key and value. -/
theorem xorOp_length (value key : Bytes) : (xorOp value key).length = value.length :=
  Keys.xorOp_length value key

/-- Applying the cipher twice with the same key restores the bytes — all key lengths, all value
lengths (shorter, equal, longer than the key; partial last block). -/
theorem xorOp_involutive (value key : Bytes) : xorOp (xorOp value key) key = value :=
  Keys.xorOp_involutive value key

/-- An empty key or an empty value is a no-op. -/
theorem xorOp_empty (value key : Bytes) (h : key = [] ∨ value = []) : xorOp value key = value := by
  apply Keys.xorOp_noop
  rcases h with h | h <;> simp [h]

/-- What one side encrypts the other side decrypts to the original, as soon as both hold the same
secret. -/
theorem decrypt_of_equal_share (k1 k2 : KeyPair) (h : k1.share = k2.share) (p : Bytes) :
    xorOp (xorOp p k1.share) k2.share = p := by
  rw [← h]; exact Keys.xorOp_involutive p _

/-- Registration handshake: afterwards BOTH ends hold the secret `v` copied over an all-zero
65-byte buffer — byte-identical for every length of `v` (shorter than the buffer: zero tail;
longer: truncated), and `v` is the same Diffie–Hellman value computed from either side. -/
theorem handshake_agree (c : Curve) (hc : c.WF) (b a info : Bytes)
    (hb : b.length = privSize) (ha : a.length = privSize) :
    ∃ v cl sk, c.dh b (c.pubOf a) = some v ∧ c.dh a (c.pubOf b) = some v ∧
      (step c (init c b) (.connect a info .ok)).client = some cl ∧
      (step c (init c b) (.connect a info .ok)).server.sess = some sk ∧
      cl.keys.share = copyInto (zeros shareSize) v ∧ sk.share = copyInto (zeros shareSize) v := by
  obtain ⟨v, h1, h2, e⟩ := connectStep_fresh c hc (init c b).server rfl a info ha (init_inv c hc b hb).srv
  have hp : (init c b).server.keys.priv = b := by rw [init_server c b (hc.pubLen b) hb]
  rw [hp] at h1 h2
  exact ⟨v, _, _, h1, h2, congrArg Prod.fst e, congrArg (·.2.sess) e, rfl, rfl⟩

/-- A completed re-key of a synchronised pair: both ends copy the same new secret `v` over the
same previous buffer (so stale tail bytes of a short secret are equal on both sides), and the
reply of that very exchange — encrypted by the server with the conn-local OLD key, decrypted by the
client BEFORE it swaps — arrives intact. -/
theorem rekey_agree (c : Curve) (hc : c.WF) (s : State) (cl : Client) (sk : KeyPair)
    (a reply fresh : Bytes) (ha : a.length = privSize) (hinv : Inv c s)
    (hcl : s.client = some cl) (hsk : s.server.sess = some sk) :
    ∃ v cl' sk', c.dh s.server.keys.priv (c.pubOf a) = some v ∧
      (step c s (.xchg (.rekey a) reply fresh .ok)).client = some cl' ∧
      (step c s (.xchg (.rekey a) reply fresh .ok)).server.sess = some sk' ∧
      cl'.keys.share = copyInto cl.keys.share v ∧ sk'.share = copyInto sk.share v ∧
      cl'.keys.share = sk'.share ∧ cl'.next = none ∧
      (step c s (.xchg (.rekey a) reply fresh .ok)).obs = s.obs ++ [⟨false, reply, reply⟩] := by
  obtain ⟨v, h1, e⟩ := xchgStep_rekey_ok c hc cl s.server sk a reply fresh ha hinv.srv
    (hinv.cli cl hcl) hsk
  rw [step_xchg c s cl hcl, e]
  exact ⟨v, _, _, h1, rfl, rfl, rfl, rfl, by rw [hinv.synced cl sk hcl hsk], rfl, rfl⟩

/-- A re-key (or anything else) whose announcement was not delivered leaves the sender on the old
key with nothing queued, and the server untouched — for every state, no hypotheses. -/
theorem writeFail_reverts (c : Curve) (s : State) (cl : Client) (send : Send) (reply fresh : Bytes)
    (hcl : s.client = some cl) :
    step c s (.xchg send reply fresh .writeFail) =
      { s with client := some { cl with next := none, hello := none } } := by
  rw [step_xchg c s cl hcl, xchgStep_writeFail]
  simp

/-- **Both ends hold the same key after every history without a lost reply** (`_partial`: the
excluded histories are the known findings below).  For every curve satisfying the hypotheses, every
server key, every sequence of connects, data exchanges, re-keys, failed writes, server-side drops
and the re-registrations they cause: the shared-secret buffers are byte-identical whenever both
ends exist, and every payload that reached a handler is the payload that was queued. -/
theorem synced_partial (c : Curve) (hc : c.WF) (b : Bytes) (hb : b.length = privSize)
    (evs : List Ev) (hev : ∀ e ∈ evs, e.Sized ∧ e.NoLoss) :
    Synced (run c (init c b) evs) ∧ Intact (run c (init c b) evs) := by
  have h := run_inv c hc evs (init c b) hev (init_inv c hc b hb)
  exact ⟨h.synced, h.intact⟩

/-! ### The lost-reply cases: negation on concrete witnesses (known findings) -/

def kS : Bytes := zeros 65 ++ [3]
def kA : Bytes := zeros 65 ++ [5]
def kB : Bytes := zeros 65 ++ [7]
def kC : Bytes := zeros 65 ++ [2]
def kD : Bytes := zeros 65 ++ [11]

/-- connect; re-key exchange whose reply is lost -/
def wRekeyLost : List Ev := [.connect kA [9, 9] .ok, .xchg (.rekey kB) [] kC .replyLost]
def xData : Ev := .xchg (.data [1, 2, 3]) [4, 5, 6] kC .ok

/-- After "re-key written, reply lost" the server is on the new key and the client on the old one;
the next exchange is corrupted in both directions; after it the keys are equal again. -/
theorem replyLost_desync :
    ¬ Synced (run toy (init toy kS) wRekeyLost) ∧
    ¬ Intact (run toy (init toy kS) (wRekeyLost ++ [xData])) ∧
    Synced (run toy (init toy kS) (wRekeyLost ++ [xData])) := by
  decide +kernel

/-- "The announcement was written — no error reached the sender — but the server never received it"
(the connection died after the kernel accepted the bytes): the client side of a reply-lost exchange,
the server untouched. Not a constructor of `Fault`; the end-to-end harness produces it as fault `q`. -/
def xchgReqLost (c : Curve) (s : State) (send : Send) (fresh : Bytes) : State :=
  { step c s (.xchg send [] fresh .replyLost) with server := s.server, obs := s.obs }

/-- **The mirror image of `replyLost_desync`** (known finding `requestLost:rekey`): after a re-key
whose announcement was written but never reached the server both ends still agree — the client is on
the old key, the new pair stays queued — but the NEXT successful exchange makes the client swap to
the pair the server never saw: from then on the secrets differ and payloads are corrupted. So the
clause "a re-key whose announcement was not delivered leaves the sender on the old key" holds only
for a failure the sender is told about (`writeFail_reverts`). Same repair as the reply-lost cases: an
acknowledged re-key. -/
theorem requestLost_desync :
    Synced (xchgReqLost toy (run toy (init toy kS) [.connect kA [9, 9] .ok]) (.rekey kB) kC) ∧
    ¬ Synced (run toy (xchgReqLost toy (run toy (init toy kS) [.connect kA [9, 9] .ok]) (.rekey kB) kC) [xData]) ∧
    ¬ Intact (run toy (xchgReqLost toy (run toy (init toy kS) [.connect kA [9, 9] .ok]) (.rekey kB) kC) [xData, xData]) := by
  decide +kernel

/-- If the exchange after the lost reply fails at the write, `keyCheckRevert` drops the queued
KeyPair: the split is permanent (later exchanges do not heal it). -/
theorem replyLost_writeFail_permanent :
    ¬ Synced (run toy (init toy kS)
      (wRekeyLost ++ [.xchg (.data [1]) [] kC .writeFail, xData, xData, xData])) := by
  decide +kernel

/-- Re-registration (server dropped the Session → SvRegister → queued hello) whose hello reply is
lost: the server holds a real secret, the client an all-zero one; neither later traffic nor a later
re-key repairs it. -/
theorem rehello_replyLost_desync :
    ¬ Synced (run toy (init toy kS)
      [.connect kA [9, 9] .ok, .drop, .xchg (.data []) [] kC .ok, .xchg (.data []) [] kD .replyLost,
       xData, .xchg (.rekey kB) [] kD .ok, xData]) ∧
    ¬ Intact (run toy (init toy kS)
      [.connect kA [9, 9] .ok, .drop, .xchg (.data []) [] kC .ok, .xchg (.data []) [] kD .replyLost,
       xData]) := by
  decide +kernel

/-- First registration whose reply is lost: the server keeps the Session; a new `Connect` of the
same device is then refused (no client comes into being) although the same `Connect` against a
server that does not know the device succeeds. -/
theorem helloLost_blocks_registration :
    (run toy (init toy kS) [.connect kA [9, 9] .replyLost, .connect kB [9, 9] .ok]).client = none ∧
    (run toy (init toy kS) [.connect kB [9, 9] .ok]).client.isSome = true := by
  decide +kernel

/-! ### Start-up order (c2/server.go) -/

/-- The source generates `Server.Keys` before `go s.listen()` (regenerated fact). -/
theorem keys_before_listen : Facts.c06KeysBeforeListen = true := by decide

/-- The conn-local key copy is taken before `keyCryptAndUpdate` (regenerated fact; the model's
`talk` relies on this order). -/
theorem conn_copy_before_update : Facts.c06ConnCopyBeforeUpdate = true := by decide

/-- With the repaired `ListenContext`, for EVERY schedule of the Server event loop against the
Listener serving the first hello: if the registration completes, both ends hold the same secret —
and it does complete as soon as the Listener ran its two steps. -/
theorem boot_agree (c : Curve) (hc : c.WF) (b a : Bytes) (hb : b.length = privSize)
    (ha : a.length = privSize) (sched : List Tid) :
    (∀ r, bootRun c Facts.c06KeysBeforeListen b a sched = some r → r.1 = r.2) ∧
    (2 ≤ (sched.filter (· = .lis)).length →
      (bootRun c Facts.c06KeysBeforeListen b a sched).isSome = true) := by
  rw [keys_before_listen]
  obtain ⟨v, -, hrun⟩ := bootRun_prefilled c hc b a hb ha sched
  rw [hrun]
  constructor
  · intro r hr
    split at hr <;> cases hr
    rfl
  · intro hlen
    rw [if_pos hlen]
    rfl

/-- Without the repair (KeyPair generated by the event loop) there are schedules on which the first
registration ends with different secrets, or fails. -/
theorem boot_race_unfixed :
    (bootRun toy false kS kA [.lis, .loop, .lis]).map (fun r => decide (r.1 = r.2)) = some false ∧
    bootRun toy false kS kA [.lis, .lis, .loop] = none ∧
    (bootRun toy false kS kA [.loop, .lis, .lis]).map (fun r => decide (r.1 = r.2)) = some true := by
  decide +kernel

/-- The curve hypotheses are satisfiable. -/
example : toy.WF := toy_wf
-- The witness keys have the private-key size.
set_option maxRecDepth 100000 in
example : kS.length = privSize ∧ kA.length = privSize ∧ kB.length = privSize := by decide
-- A history with a re-key, a failed write, a drop and the re-registration meets the hypotheses of
-- `synced_partial`, really re-keys (the secret changes) and delivers payloads.
set_option maxRecDepth 100000 in
example :
    let evs : List Ev := [.connect kA [9] .ok, xData, .xchg (.rekey kB) [7, 7] kC .ok,
      .xchg (.rekey kD) [] kC .writeFail, xData, .drop, .xchg (.data [1]) [] kC .ok,
      .xchg (.data []) [] kC .ok, xData]
    (∀ e ∈ evs, e.Sized ∧ e.NoLoss) ∧
    ((run toy (init toy kS) (evs.take 2)).client.map (·.keys.share)) ≠
      ((run toy (init toy kS) (evs.take 3)).client.map (·.keys.share)) ∧
    (run toy (init toy kS) evs).obs.length = 7 ∧
    (run toy (init toy kS) evs).server.sess.isSome = true := by
  decide +kernel
/-- `xorOp` on a value longer than the key with a partial last block. -/
example : xorOp [1, 2, 3, 4, 5] [255, 1] = [254, 3, 252, 5, 250] := by decide
/-- a secret shorter than the buffer keeps the stale tail -/
example : copyInto [9, 9, 9, 9] [1, 2] = [1, 2, 9, 9] ∧ copyInto [9, 9] [1, 2, 3] = [1, 2] := by decide

/-- **The Channel-mode helper announces what it queues** (`(*Session).pickWait`): the helper thread
never touches the key in use; a KeyPair is queued only together with the packet that announces it
(flagged as key material, carrying that pair's public key); an abandoned helper — whose packet would
never be sent — changes nothing. So "a re-key whose announcement was not delivered leaves the sender
on the old key" cannot be broken from this thread: there is no queued pair without an announcement
in the send queue. Compared with the real function on every run (op `pickwait`). -/
theorem pickWait_announces_what_it_queues (c : Curve) (cl : Client) (abandoned : Bool) (roll : Option Bytes) :
    (pickWait c cl abandoned roll).2.keys = cl.keys ∧
    (abandoned = true → pickWait c cl abandoned roll = (none, cl)) ∧
    ((pickWait c cl abandoned roll).2.next ≠ cl.next →
      ∃ p v, (pickWait c cl abandoned roll).1 = some p ∧ p.crypt = true ∧
        (pickWait c cl abandoned roll).2.next = some v ∧ p.payload = v.pub) :=
  let h := pickWait_spec c cl abandoned roll
  ⟨h.1, h.2.2.1, h.2.2.2⟩

/-! ## a payload that rides on another device's connection (tag relay): known finding
`relaykeys:batch-spliced-after-encryption`

`conn.resolve` encrypts the tagged device's next transmission with that device's key and
`conn.process` merges it into the reply of the carrying connection with `writeUnpack`, which NESTS a
single packet as one element but SPLICES the elements of a Multi container. Model: XMT/RelaySplice.lean
on top of the batch model (C03) and the payload cipher. -/

/-- one packet queued for the tagged device — the current code nests it: the proxy's unpack loop
finds it, and the device's decryption returns exactly the packet queued, for every key and packet. -/
theorem relay_single_delivers (key devA : Bytes) (p : Packet.Packet) (hp : Packet.WF p) (hpl : Batch.Plain p) :
    RelaySplice.relay RelaySplice.currentArm key devA p.dev p = .ok [p] :=
  RelaySplice.single_relay key devA p hp hpl

/-- **two packets queued — the defect, on a kernel-checked witness** (two small packets, a 65-byte key
1..65): the current code splices the encrypted batch, the reply announces two elements, the proxy's
unpack loop fails with EOF (what the real proxy-side `receive` returns) and nothing is delivered;
nesting the same encrypted batch as ONE element delivers both packets. -/
theorem relay_splice_loses :
    Batch.writeUnpack (RelaySplice.emptyReply RelaySplice.devA)
      (RelaySplice.encryptFor RelaySplice.key65 (RelaySplice.container RelaySplice.devB [RelaySplice.p1, RelaySplice.p2]))
        = .ok RelaySplice.splicedReply ∧
    Flag.len RelaySplice.splicedReply.flags = 2 ∧
    RelaySplice.unpackRest 2 RelaySplice.splicedReply.payload = .error .eof ∧
    RelaySplice.unpack 2 RelaySplice.splicedReply.payload = .error .eof ∧
    RelaySplice.relay RelaySplice.currentArm RelaySplice.key65 RelaySplice.devA RelaySplice.devB
      (RelaySplice.container RelaySplice.devB [RelaySplice.p1, RelaySplice.p2]) = .error .eof ∧
    RelaySplice.relay RelaySplice.nestInto RelaySplice.key65 RelaySplice.devA RelaySplice.devB
      (RelaySplice.container RelaySplice.devB [RelaySplice.p1, RelaySplice.p2]) = .ok [RelaySplice.p1, RelaySplice.p2] :=
  ⟨RelaySplice.witness_built, RelaySplice.witness_len, RelaySplice.witness_eof,
   RelaySplice.witness_unpack_eof, RelaySplice.witness_relay_eof, RelaySplice.witness_nest⟩

/-- …and in general: whenever the first key byte is non-zero, whatever the spliced reply parses as (if
it parses at all) is not the batch that was queued — its first element's ID is the queued one XORed
with the key byte. -/
theorem relay_splice_never_delivers (k : UInt8) (ks : Bytes) (hk : k ≠ 0) (devA devB : Bytes) (p : Packet.Packet)
    (tl : List Packet.Packet) (hl : (p :: tl).length ≤ Facts.fragMax) (got : List Packet.Packet) (rest : Bytes)
    (h : RelaySplice.unpackRest
          (Flag.len (RelaySplice.spliceInto (RelaySplice.emptyReply devA)
            (RelaySplice.encryptFor (k :: ks) (RelaySplice.container devB (p :: tl)))).flags)
          (RelaySplice.spliceInto (RelaySplice.emptyReply devA)
            (RelaySplice.encryptFor (k :: ks) (RelaySplice.container devB (p :: tl)))).payload
        = .ok (got, rest)) :
    (∃ g gs, got = g :: gs ∧ g.id = k ^^^ p.id) ∧ got ≠ p :: tl :=
  RelaySplice.splice_never_delivers k ks hk devA devB p tl hl got rest h

/-- the repair shape: an encrypted batch nested as ONE element is delivered intact, for every key and
every non-empty batch of well-formed packets. -/
theorem relay_nest_delivers (key devA devB : Bytes) (ps : List Packet.Packet) (hps : ∀ p ∈ ps, Packet.WF p)
    (hne : ps ≠ []) (hl : ps.length ≤ Facts.fragMax) (hd : devB.length = Facts.idSize)
    (hz : devB.head? ≠ some 0) (hpay : (RelaySplice.elems ps).length ≤ Facts.maxSlice) :
    RelaySplice.relay RelaySplice.nestInto key devA devB (RelaySplice.container devB ps) = .ok ps :=
  RelaySplice.nest_relay key devA _ ps (RelaySplice.container_wf devB ps hl hd hz hpay)
    (RelaySplice.container_carries devB ps hl) hps hne

/-! ## Per-connection key handling: `conn.keys`, `Listener.resolve`, `handle`, channels

Model: XMT/KeysConn.lean (`Conn`, `listenerResolve`, `talkConn`, `pollUses`, `chanStep`), lemmas in
XMT/KeysConnLemmas.lean, toy-curve witnesses in XMT/KeysConnToy.lean.  A `KeyUse` records, for one
packet, the share handed to the sender's `KeyCrypt` (`enc`), the share handed to the receiver's
(`dec`), the buffer before and after; `Agree` = same share and the buffer restored.

  -- OPEN: "every packet of a channel is decrypted with the key it was encrypted with, for every
  -- sequence of channel events" is FALSE on this code as soon as a re-key is announced inside the
  -- channel (`chan_rekey_desync`, known finding chan:payload-after-rekey); proved part:
  -- `chan_no_rekey_agree`, `chan_rekey_partial`, and a channel opened BY the re-key poll starts on
  -- one key (`chan_open_rekey_good`; repaired defect chan:opened-by-rekey, `chan_opened_by_rekey_desync`
  -- shows what happened without the renewal).
  -- OPEN: a reply that carries packets of tagged devices (c.add non-empty: a Multi|MultiDevice
  -- container that `handle` encrypts a second time as a whole) and MultiDevice requests
  -- (`processMultiple`) are not modelled; tags that resolve to nothing are (`poll_tagged_key_agree`).
-/

/-- **Every conn built by `Listener.resolve` carries the Session's key** — on the path without
Tags and on the path with Tags (whatever the tags resolve to, also when the tag loop fails with
`ErrMalformedTag`), and names that Session as its host. -/
theorem resolve_conn_carries_session_key (hs : List Host) (s : Host) (tags : List Nat) :
    (listenerResolve hs s tags).1.keys = s.keys ∧ (listenerResolve hs s tags).1.host = s.id :=
  listenerResolve_keys hs s tags

/-- Tie of `resolve_conn_carries_session_key` to the source (regenerated fact): `(*Listener).resolve`
contains two `conn` literals and BOTH initialise `keys` with `s.keys`; no statement of the function
assigns `keys` otherwise. -/
theorem resolve_literals_copy_session_key : Facts.c06ResolveConnKeys = ["s.keys", "s.keys"] := by decide

/-- The conn that served the opening poll is the conn of the channel; its key copy is renewed from the
Session at the top of `(*conn).start` (regenerated fact: an assignment to a `keys` field in `handle` /
`(*conn).start`; repaired defect `chan:opened-by-rekey`).  The channel model of the code is
`chanOpen _ Facts.c06ConnStartRefresh`. -/
theorem conn_start_renews_copy : Facts.c06ConnStartRefresh = true := by decide

/-- **In a poll the reply is encrypted with the key the client decrypts it with — for every
history** of connects, data polls, re-key polls, failed writes, server-side drops and
re-registrations (no lost reply): every `KeyCrypt` pair of the history, requests and replies, the
re-key poll included, used one share on both sides and restored the buffer. -/
theorem poll_key_agree (c : Curve) (hc : c.WF) (b : Bytes) (hb : b.length = privSize)
    (evs : List Ev) (hev : ∀ e ∈ evs, e.Sized ∧ e.NoLoss) :
    ∀ u ∈ histUses c false (init c b) evs, u.enc = u.dec ∧ u.got = u.sent :=
  histUses_agree c hc evs (init c b) hev (init_inv c hc b hb)

/-- …and the same for a poll whose request carries Tags (any list; tags that name no Session are
legal and skipped): both `KeyCrypt` pairs agree whenever the two ends held the same secret before. -/
theorem poll_tagged_key_agree (c : Curve) (tags : List Nat) (cl : Client) (srv : Server) (sk : KeyPair)
    (send : Send) (reply : Bytes) (f : Fault) (hs : srv.sess = some sk) (hk : cl.keys.share = sk.share) :
    ∀ u ∈ pollUses c false tags cl srv send reply f, u.enc = u.dec ∧ u.got = u.sent :=
  pollUses_agree c tags cl srv sk send reply f hs hk

/-- The explicit-conn poll IS the poll of the history machine (`Keys.talk`, registered arm). -/
theorem talkConn_is_talk (c : Curve) (srv : Server) (sk : KeyPair) (hs : srv.sess = some sk) (w : Pkt)
    (reply : Bytes) :
    ∃ t, talkConn c false [] sk w reply = some t ∧
      talk c srv w reply = ({ srv with sess := some t.1 }, some t.2.1, t.2.2.1) :=
  ⟨_, talkConn_nil c false sk w reply, talk_registered c srv sk hs w reply⟩

/-- **The conn-local copy is needed (guard-needed).**  In the re-key poll of a synchronised pair the
Session's live key after `talk` is the NEW secret while the client decrypts the reply BEFORE it
swaps: the code (`live = false`) encrypts the reply with the conn's copy = the client's key; the
variant that uses the live Session key (`live = true`) encrypts it with `copyInto old v`, which
equals the client's key only if the new secret happens to reproduce the old array. -/
theorem poll_reply_live_key_breaks (c : Curve) (live : Bool) (tags : List Nat) (cl : Client) (sk : KeyPair)
    (a v reply : Bytes) (hk : sk.pub.length = pubSize) (hpl : (c.pubOf a).length = pubSize)
    (hv : c.dh sk.priv (c.pubOf a) = some v) (hz : KeyPair.zero.fill c a = ⟨c.pubOf a, a, zeros shareSize⟩)
    (hn : cl.next = none) (hh : cl.hello = none) (hsh : cl.keys.share = sk.share)
    (t : KeyPair × Pkt × Option Bytes × Conn)
    (ht : talkConn c live tags sk ((clientNext c cl (.rekey a)).1.encryptedWith cl.keys.share) reply = some t) :
    t.1.share = copyInto sk.share v ∧ t.2.2.2.keys.share = cl.keys.share ∧
    t.2.1.payload = xorOp reply (if live then copyInto sk.share v else cl.keys.share) := by
  rw [clientNext_rekey c cl a hh hn, hz] at ht
  simp only [Pkt.encryptedWith, hsh] at ht ⊢
  exact talkConn_rekey c live tags sk (c.pubOf a) v reply hk hpl hv t ht

/-- …on a kernel-checked witness (toy curve, reply `[1,2,3]`): with the conn copy both pairs of the
re-key poll agree — also with Tags —; with the live key the reply does not decrypt; a zero tag makes
`resolve` fail before anything is decrypted. -/
theorem poll_reply_live_key_breaks_witness :
    pollWitness false [] [1, 2, 3] = some [true, true] ∧
    pollWitness true [] [1, 2, 3] = some [true, false] ∧
    pollWitness false [77, 5] [1, 2, 3] = some [true, true] ∧
    pollWitness false [77, 0] [1, 2, 3] = some [] := by
  decide +kernel

/-- **A channel without a re-key keeps every packet on one key**: from a channel opened by a poll
of a synchronised pair, for EVERY interleaving of client writes (data / keep-alive), server reads,
server writes, client reads and failed writes, every `KeyCrypt` pair — both directions, packets in
flight included — used the same share on both sides and restored the buffer. -/
theorem chan_no_rekey_agree (c : Curve) (s : Chan) (hs : ChanGood s) (evs : List ChanEv)
    (hev : ∀ e ∈ evs, e.NoRekey) :
    ∀ u ∈ (chanRun c s evs).uses, u.enc = u.dec ∧ u.got = u.sent :=
  (chanRun_inv c s.sess.share evs s hev hs.inv).uses

/-- A channel opened by a DATA poll of a synchronised pair is `ChanGood` (hypothesis of
`chan_no_rekey_agree`). -/
theorem chan_open_good (c : Curve) (refresh : Bool) (cl : Client) (sk : KeyPair) (p reply : Bytes)
    (hn : cl.next = none) (hh : cl.hello = none) (hsh : cl.keys.share = sk.share) :
    ∃ s, chanOpen c refresh cl sk (.data p) reply = some s ∧ ChanGood s := by
  rw [chanOpen_eq, clientNext_data c cl p hh]
  simp only [Pkt.encryptedWith, hsh, talkBody_data, checkSync_none c cl hn]
  exact ⟨_, rfl, hn, hh, hsh, by cases refresh <;> rfl, rfl, rfl, rfl, rfl⟩

/-- **A re-key inside a running channel — the negation, kernel-checked** (known finding
`chan:payload-after-rekey`).  Channel opened by a data poll (it is `ChanGood`), then: the client
announces a re-key, the server reads it, the server sends `[1,2,3]`, the client reads it, the client
sends `[4,5,6]`, the server reads it.  Afterwards the two SESSIONS agree on the new secret, the conn's
copy does not; the announcement itself was decrypted with the key it was encrypted with, the two
payloads after it were not.  Second witness: a server packet IN FLIGHT while the client swaps is lost
even though the server has not even read the announcement (conn copy = Session key): using the live
Session key on the server would not repair it. -/
theorem chan_rekey_desync :
    chanWitness false (.data []) [.cSend (.rekey wB) false, .sRecv, .sSend [1, 2, 3] false, .cRecv,
      .cSend (.data [4, 5, 6]) false, .sRecv] = some (true, true, false, [true, false, false]) ∧
    chanWitness false (.data []) [.sSend [1, 2, 3] false, .cSend (.rekey wB) false, .cRecv]
      = some (true, false, true, [false]) := by
  decide +kernel

/-- **A channel opened BY the re-key poll starts on one key** (the repaired code, `refresh = true`):
the client's next packet is a re-key announcement and `SetChannel(true)` was called, so the
announcement carries the Channel flag; the reply still uses the old key (`poll_key_agree`), both
Sessions swap, and the conn renews its copy from the Session before the channel runs: the channel is
`ChanGood` — hypothesis of `chan_no_rekey_agree` — on the NEW secret. -/
theorem chan_open_rekey_good (c : Curve) (cl : Client) (sk : KeyPair) (a v reply : Bytes)
    (hk : sk.pub.length = pubSize) (hpl : (c.pubOf a).length = pubSize)
    (hv : c.dh sk.priv (c.pubOf a) = some v) (hv2 : c.dh a cl.keys.pub = some v)
    (hal : cl.keys.priv.length = a.length)
    (hz : KeyPair.zero.fill c a = ⟨c.pubOf a, a, zeros shareSize⟩)
    (hn : cl.next = none) (hh : cl.hello = none) (hsh : cl.keys.share = sk.share) :
    ∃ s, chanOpen c true cl sk (.rekey a) reply = some s ∧ ChanGood s ∧
      s.sess.share = copyInto sk.share v := by
  rw [chanOpen_eq, clientNext_rekey c cl a hh hn, hz]
  simp only [Pkt.encryptedWith, hsh, talkBody_rekey c false _ sk (c.pubOf a) v reply hk hpl hv]
  rw [checkSync_some c _ _ rfl, fillPrivate_some c cl.keys a v hv2 hal]
  exact ⟨_, rfl, ⟨rfl, hh, by rw [hsh], rfl, rfl, rfl, rfl, rfl⟩, rfl⟩

/-- **…and the renewal is needed (guard-needed; repaired defect `chan:opened-by-rekey`)**, on a
kernel-checked witness: without it (`refresh = false`, the code before the repair) the channel opened
by the re-key poll runs on the conn built before `keyCryptAndUpdate`: it is NOT `ChanGood`, both
Sessions agree, and every packet of the channel, in both directions, is decrypted with a key it was
not encrypted with; with the renewal the same run agrees throughout. -/
theorem chan_opened_by_rekey_desync :
    chanWitness false (.rekey wB) [.sSend [1, 2, 3] false, .cRecv, .cSend (.data [4, 5, 6]) false, .sRecv]
      = some (false, true, false, [false, false]) ∧
    chanWitness true (.rekey wB) [.sSend [1, 2, 3] false, .cRecv, .cSend (.data [4, 5, 6]) false, .sRecv]
      = some (true, true, true, [true, true]) := by
  decide +kernel

/-- **The part of the channel statement that holds with a re-key** (`_partial`): up to and including
the server's receipt of the announcement.  From a `ChanGood` channel, after any events without a
re-key, the client's write of ANYTHING (a re-key announcement included — the client swaps only after
the write), followed by server reads only: every `KeyCrypt` pair agrees.  What is excluded — any
client read or later client write after the swap, any server write after the announcement — is
exactly what `chan_rekey_desync` shows to fail. -/
theorem chan_rekey_partial (c : Curve) (s : Chan) (hs : ChanGood s) (pre post : List ChanEv)
    (send : Send) (fail : Bool) (hpre : ∀ e ∈ pre, e.NoRekey) (hpost : ∀ e ∈ post, e.IsSRecv) :
    ∀ u ∈ (chanRun c s (pre ++ [.cSend send fail] ++ post)).uses, u.enc = u.dec ∧ u.got = u.sent := by
  rw [chanRun, List.foldl_append, List.foldl_append]
  have h1 := chanRun_inv c s.sess.share pre s hpre hs.inv
  have h2 := chanStep_cSend_invS c s.sess.share (chanRun c s pre) send fail h1
  exact (chanRun_sRecv_invS c s.sess.share post _ hpost h2).uses

/-! ### The copy of the secret into the fixed array (`fillShared`) -/

/-- **Both ends compute the same 65-byte array for every secret length** (0, shorter than the array,
exactly 65, the 66 bytes of half of all P-521 points — cut to 65 —, anything longer) whenever they
start from the same contents, and their arrays keep the array's length. -/
theorem share_copy_agree (prev v : Bytes) (k1 k2 : KeyPair) (c1 c2 : Curve) (n1 m1 n2 m2 : Bytes)
    (h1 : c1.dh m1 n1 = some v) (h2 : c2.dh m2 n2 = some v) (hp1 : k1.share = prev) (hp2 : k2.share = prev) :
    (k1.fillShared c1 n1 m1).1.share = (k2.fillShared c2 n2 m2).1.share ∧
    (k1.fillShared c1 n1 m1).1.share.length = prev.length := by
  rw [fillShared_some c1 k1 n1 m1 v h1, fillShared_some c2 k2 n2 m2 v h2, hp1, hp2]
  exact ⟨rfl, by simp⟩

/-- **…and the exact condition under which they do not**: from different previous contents (equal
length) the two arrays are equal iff the parts beyond the secret's length were equal — `copy` does not
clear the tail; a secret at least as long as the array hides every difference. -/
theorem share_copy_differs_iff (c1 c2 : Curve) (k1 k2 : KeyPair) (n1 m1 n2 m2 v : Bytes)
    (h1 : c1.dh m1 n1 = some v) (h2 : c2.dh m2 n2 = some v) (hl : k1.share.length = k2.share.length) :
    ((k1.fillShared c1 n1 m1).1.share = (k2.fillShared c2 n2 m2).1.share ↔
      k1.share.drop v.length = k2.share.drop v.length) ∧
    (k1.share.length ≤ v.length → (k1.fillShared c1 n1 m1).1.share = (k2.fillShared c2 n2 m2).1.share) := by
  refine ⟨fillShared_agree_iff c1 c2 k1 k2 n1 m1 n2 m2 v h1 h2 hl, fun hle => ?_⟩
  rw [fillShared_agree_iff c1 c2 k1 k2 n1 m1 n2 m2 v h1 h2 hl,
    List.drop_eq_nil_of_le hle, List.drop_eq_nil_of_le (hl ▸ hle)]

/-- Non-vacuity of the tail condition: a 2-byte secret over arrays that differ only in the stale
tail (derive-in-place over an old secret vs derive into a fresh zero array) — the arrays differ; with
equal tails, or a secret that covers the array, they agree. -/
example : copyInto [9, 9, 9, 7] [1, 2] ≠ copyInto [0, 0, 0, 0] [1, 2] ∧
    copyInto [9, 9, 0, 0] [1, 2] = copyInto [0, 0, 0, 0] [1, 2] ∧
    copyInto [9, 9, 9, 7] [1, 2, 3, 4, 5] = copyInto [0, 0, 0, 0] [1, 2, 3, 4, 5] := by decide
/-- Non-vacuity of `resolve_conn_carries_session_key`: a conn built with Tags — one unknown, one
naming a Session with a packet queued, a duplicate — carries the host's key; the tagged packet is
encrypted with the TAGGED Session's key. -/
example :
    let h : Host := { id := 1, keys := ⟨[], [], [7, 7]⟩ }
    let t : Host := { id := 5, keys := ⟨[], [], [1, 2]⟩, queue := some [16, 16, 16] }
    (listenerResolve [h, t] h [9, 5, 5]).1 =
      { host := 1, keys := ⟨[], [], [7, 7]⟩, add := [(5, [17, 18, 17])], subs := [(5, true)] } ∧
    (listenerResolve [h, t] h [5, 0]).2.2 = false ∧ (listenerResolve [h, t] h [5, 0]).1.keys = h.keys := by
  decide
set_option maxRecDepth 100000 in
/-- Non-vacuity of `chan_no_rekey_agree`: the toy channel opened by a data poll is `ChanGood`, and a
run without a re-key has uses to talk about (3 of them, all agreeing). -/
example : chanWitness false (.data []) [.sSend [1, 2, 3] false, .cSend (.data [4]) false, .cRecv, .sRecv,
    .cSend (.data []) false, .sRecv] = some (true, true, true, [true, true, true]) := by decide +kernel
set_option maxRecDepth 100000 in
/-- Non-vacuity of `poll_key_agree`: a history with a re-key poll has six `KeyCrypt` pairs (request
and reply of three polls), and the hypotheses of the theorem hold of it. -/
example : (∀ e ∈ [Ev.connect kA [9] .ok, xData, .xchg (.rekey kB) [7, 7] kC .ok, xData], e.Sized ∧ e.NoLoss) := by
  decide +kernel
set_option maxRecDepth 100000 in
example : (histUses toy false (init toy kS) [.connect kA [9] .ok, xData, .xchg (.rekey kB) [7, 7] kC .ok, xData]).length = 6 := by
  decide +kernel

end XMT.Props.C06
