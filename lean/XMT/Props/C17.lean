/-
  C17 — Profile groups rotate as the selector promises and yield only their own entries.
  Property theorems only; the models are XMT/Group.lean and XMT/GroupLoop.lean, the lemmas live in
  XMT/GroupLemmas.lean, XMT/GroupLoopLemmas.lean, XMT/ClientLoopSwitch.lean and XMT/HostBox.lean.

  Reading guide.  `Group.WF g` = the entries are distinct allocations (pairwise distinct `ptr`) and
  the cursor, if set, is one of them.  `run g ops` executes a call history (each op with the PRNG
  words available to it: the theorems hold for every word sequence).  `rotStep g k` is the
  round-robin step from position `k` (next entry in order, wrapping; reports a change unless there
  is a single entry); `pick g ds` is the random pick with the next PRNG word.

  Scope (DESIGN.md Appendix B.5).  `listen_reports_failures` is about the bookkeeping (`sw`) of the client
  loop model XMT/ClientLoop.lean, which has no Profile field (its scripted profile never switches).  The
  loop driving a profile whose `Switch` reports a change is XMT/GroupLoop.lean (`loop_turn_is_switch`,
  `loop_composition`, …), which in turn leaves time, Close and shutdown to XMT/ClientLoop.lean: the two
  halves are not joined in one closed theorem.
-/
import XMT.GroupLemmas
import XMT.ClientLoopSwitch
import XMT.HostBox
import XMT.GroupLoopLemmas
namespace XMT.Props.C17
open XMT.Group

/-- Obligations on the regenerated facts: the six selector ids are pairwise distinct, non-zero bytes
(`Build` recognises a configured selector by `s > 0`), and the semi selectors draw from a non-empty
range. -/
theorem facts_ok :
    [selLastValid, selRoundRobin, selRandom, selSemiRoundRobin, selSemiRandom, selSemiLastValid].Nodup ∧
    (∀ s ∈ [selLastValid, selRoundRobin, selRandom, selSemiRoundRobin, selSemiRandom, selSemiLastValid],
      0 < s ∧ s < 256) ∧ 0 < semiN ∧ Plain selRoundRobin ∧ Plain 0 := by
  decide

/-- For every well-formed group and every call history (Switch(failed / not failed), Next, all
accessors, any PRNG words): no panic, entries and selector are never changed, the cursor stays one
of the entries, and after the first call it is set. -/
theorem cur_valid (g : Group) (hwf : g.WF) (ops : List (Op × List Nat)) :
    ∃ g' os, run g ops = .ok (g', os) ∧ g'.entries = g.entries ∧ g'.sel = g.sel ∧ g'.WF ∧
      os.length = ops.length ∧ (ops ≠ [] → g.entries ≠ [] → ∃ c ∈ g.entries, g'.cur = some c) := by
  obtain ⟨g', os, hr, hm, hlen, hc⟩ := run_spec ops hwf
  exact ⟨g', os, hr, hm.entries, hm.sel, hm.wf hwf, hlen, fun h1 h2 => hm.cur_mem hwf (hc h1 h2)⟩

/-- The tail of `Config.Build` on two or more built groups: fresh cursor, entries are a permutation
of the configured groups in descending weight order, the selector is `globalSel`. -/
theorem build_sorted (es : List (Entry × Nat)) (g : Group) (h : buildTail es = .group g) :
    2 ≤ es.length ∧ g.cur = none ∧ g.entries.Pairwise (fun a b => a.weight ≥ b.weight) ∧
    g.entries.Perm (es.map (·.1)) ∧ g.sel = globalSel (es.map (·.2)) := by
  match es, h with
  | a :: b :: rest, h =>
    simp only [buildTail, Profile.group.injEq] at h
    subst h
    exact ⟨by simp, rfl, sortDesc_sorted _, sortDesc_perm _, rfl⟩

/-- distinct allocations in, well-formed group out -/
theorem build_wf (es : List (Entry × Nat)) (g : Group) (h : buildTail es = .group g)
    (hnd : (es.map (·.1.ptr)).Nodup) : g.WF := by
  obtain ⟨_, hc, _, hp, _⟩ := build_sorted es g h
  refine ⟨(hp.map (·.ptr)).nodup_iff.mpr ?_, fun c hcc => nomatch hc ▸ hcc⟩
  rwa [List.map_map]

/-- the selector byte `Build` keeps is the last one configured in any group -/
theorem build_selector_last (pre post : List Nat) (s : Nat) (hs : 0 < s) (hb : s < 256)
    (hpost : ∀ x ∈ post, x = 0) : globalSel (pre ++ s :: post) = s := by
  rw [globalSel, List.foldl_append, List.foldl_cons, if_pos hs, foldl_zero post _ hpost, Nat.mod_eq_of_lt hb]

/-- the weight clamp keeps the order of weights up to the cap and never exceeds it -/
theorem clampWeight_le (b : Nat) : clampWeight b ≤ Facts.c17WeightCap ∧ (b ≤ Facts.c17WeightCap → clampWeight b = b) := by
  unfold clampWeight
  constructor
  · split <;> omega
  · intro h; split <;> omega

/-- After any history `ops` on a well-formed group with entries, every accessor (Next, Sleep,
Jitter, KillDate, WorkHours, TrustedKey, Connect/Listen) returns the value of one entry `c` of the
configured groups which is the active one afterwards — `Own c op o`: Next yields one of `c`'s own
hosts together with `c`'s own wrapper and transform — and an accessor never moves a set cursor. -/
theorem accessor_own (g : Group) (hwf : g.WF) (hne : g.entries ≠ []) (ops : List (Op × List Nat))
    (op : Op) (hop : op.isSwitch = false) (ds : List Nat) :
    ∃ g1 os g2 o ds', run g ops = .ok (g1, os) ∧ step g1 op ds = .ok (g2, o, ds') ∧
      (∃ c ∈ g.entries, g2.cur = some c ∧ Own c op o) ∧ (∀ c, g1.cur = some c → g2 = g1) := by
  obtain ⟨g1, os, hr, hm, _⟩ := run_spec ops hwf
  obtain ⟨g2, o, ds', hs, _, hsame, hown⟩ := step_acc_spec ds (hm.wf hwf) hop
  exact ⟨g1, os, g2, o, ds', hr, hs, (hm.entries ▸ hown) hne, hsame⟩

/-- `Next` spelled out: host from the active entry's own list (or the empty string when it has
none), with that entry's own wrapper and transform. -/
theorem next_own (g : Group) (hwf : g.WF) (hne : g.entries ≠ []) (ds : List Nat) :
    ∃ g' h w t ds' c, step g .next ds = .ok (g', .next h w t, ds') ∧ c ∈ g.entries ∧ g'.cur = some c ∧
      w = c.w ∧ t = c.t ∧ (h ∈ c.hosts ∨ (c.hosts = [] ∧ h = [])) := by
  obtain ⟨g', o, ds', hs, _, _, hown⟩ := step_acc_spec (op := .next) ds hwf rfl
  obtain ⟨c, hm, hc, ho⟩ := hown hne
  cases o with
  | next h w t => exact ⟨g', h, w, t, ds', c, hs, hm, hc, ho.1, ho.2.1, ho.2.2⟩
  | _ => exact ho.elim

/-- Headline composition: build any two or more configured groups (distinct allocations, any weights,
any hosts, any selector bytes), run any call history, then call any accessor: nothing panics and
what is handed out is the own value of one of the *configured* groups, which is the active entry. -/
theorem built_group_hands_out_own (es : List (Entry × Nat)) (hnd : (es.map (·.1.ptr)).Nodup)
    (g : Group) (h : buildTail es = .group g) (ops : List (Op × List Nat)) (op : Op)
    (hop : op.isSwitch = false) (ds : List Nat) :
    ∃ g1 os g2 o ds', run g ops = .ok (g1, os) ∧ step g1 op ds = .ok (g2, o, ds') ∧
      ∃ p ∈ es.map (·.1), g2.cur = some p ∧ Own p op o := by
  obtain ⟨hlen, _, _, hperm, _⟩ := build_sorted es g h
  have hne : g.entries ≠ [] := List.ne_nil_of_length_pos (by rw [hperm.length_eq, List.length_map]; omega)
  obtain ⟨g1, os, g2, o, ds', hr, hs, ⟨c, hm, hc, ho⟩, _⟩ :=
    accessor_own g (build_wf es g h hnd) hne ops op hop ds
  exact ⟨g1, os, g2, o, ds', hr, hs, c, hperm.mem_iff.mp hm, hc, ho⟩

theorem switch_reports_change (g : Group) (hwf : g.WF) (e : Bool) (ds : List Nat) :
    ∃ g' b ds', switch g e ds = .ok (g', b, ds') ∧ (b = true ↔ g'.curPtr ≠ g.curPtr) ∧
      (b = false → g' = g) := by
  obtain ⟨g', b, ds', hs, hsw, _⟩ := switch_spec e ds hwf
  exact ⟨g', b, ds', hs, hsw.iff, hsw.eq_of_false⟩

/-- last-valid, cursor set: `Switch(false)` changes nothing (and draws nothing); `Switch(true)` does
the round-robin step. -/
theorem lastValid_step (g : Group) (hwf : g.WF) (hs : g.sel = selLastValid) (k : Nat) (c : Entry)
    (hk : g.entries[k]? = some c) (hc : g.cur = some c) (e : Bool) (ds : List Nat) :
    switch g e ds = if e then .ok ((rotStep g k).1, (rotStep g k).2, ds) else .ok (g, false, ds) := by
  have hg := guards_lastValid e ds hc hs
  cases e with
  | false => exact switch_of_guards (ne_nil_of_getElem? hk) hg
  | true => exact switch_rot hwf.1 hk hc (by rw [hs]; decide) hg

/-- last-valid changes the active group only after a reported failure: over any history that
contains no `Switch(true)`, the group (cursor included) is exactly what it was. -/
theorem lastValid_sticks (g : Group) (hwf : g.WF) (hs : g.sel = selLastValid) (c : Entry)
    (hc : g.cur = some c) (ops : List (Op × List Nat)) (hno : ∀ od ∈ ops, od.1 ≠ .switch true) :
    ∃ os, run g ops = .ok (g, os) := by
  induction ops with
  | nil => exact ⟨[], rfl⟩
  | cons od rest ih =>
    obtain ⟨op, ds⟩ := od
    obtain ⟨os, hr⟩ := ih fun od h => hno od (List.mem_cons_of_mem _ h)
    have hst : ∃ o ds', step g op ds = .ok (g, o, ds') := by
      rcases op.switch_or with ⟨e, rfl⟩ | hop
      · cases e with
        | true => exact absurd rfl (hno _ List.mem_cons_self)
        | false =>
          exact ⟨_, _, by rw [step_switch, switch_of_guards (List.ne_nil_of_mem (hwf.2 c hc))
            (guards_lastValid false ds hc hs)]; rfl⟩
      · exact step_acc_set ds hc hop
    obtain ⟨o, ds', hst⟩ := hst
    exact ⟨o :: os, run_cons hst hr⟩

/-- round-robin, one call: from position `k` to position `(k+1) mod n`, whatever `failed` says and
without consuming PRNG words. (`Plain` = round-robin or any value that is none of the other five
selector ids.) -/
theorem roundRobin_step (g : Group) (hwf : g.WF) (hp : Plain g.sel) (k : Nat) (c : Entry)
    (hk : g.entries[k]? = some c) (hc : g.cur = some c) (e : Bool) (ds : List Nat) :
    switch g e ds = .ok ((rotStep g k).1, (rotStep g k).2, ds) :=
  plain_step e ds hwf.1 hp hk hc

/-- round-robin over a history: starting at position `k`, after a history with `m` Switch calls
(interleaved with any accessor calls, any flags, any PRNG words) the cursor is at position
`(k + m) mod n`; nothing else changed. -/
theorem roundRobin_cycle (g : Group) (hwf : g.WF) (hp : Plain g.sel) (k : Nat) (c : Entry)
    (hk : g.entries[k]? = some c) (hc : g.cur = some c) (ops : List (Op × List Nat)) :
    ∃ os, run g ops = .ok ({ g with cur := g.entries[(k + countSw ops) % g.entries.length]? }, os) :=
  plain_run ops hwf.1 hp hk hc

/-- from a freshly built group: the first call of any kind activates entry 0 (the highest weight),
then every Switch call advances by one: after `first :: rest` the cursor is at
`(number of Switch calls in rest) mod n`. -/
theorem roundRobin_from_start (g : Group) (hwf : g.WF) (hp : Plain g.sel) (hc : g.cur = none)
    (hne : g.entries ≠ []) (first : Op × List Nat) (rest : List (Op × List Nat)) :
    ∃ os, run g (first :: rest) =
      .ok ({ g with cur := g.entries[countSw rest % g.entries.length]? }, os) := by
  obtain ⟨op, ds⟩ := first
  obtain ⟨o, ds', hs⟩ := step_first op ds hc hne hp.not_random
  obtain ⟨e0, h0⟩ := head_of_ne_nil hne
  obtain ⟨os, hr⟩ := plain_run rest (g := { g with cur := g.entries[0]? }) hwf.1 hp h0 h0
  exact ⟨o :: os, (run_cons hs hr).trans (by rw [Nat.zero_add])⟩

/-- round-robin visits every group in order before repeating: the positions reached by 0 … n-1
further Switch calls are pairwise distinct (hence, the entries being distinct, all n groups), and
every position is reached within n-1 calls. -/
theorem roundRobin_visits_all (n k : Nat) (hk : k < n) :
    (∀ i j, i < n → j < n → (k + i) % n = (k + j) % n → i = j) ∧
    (∀ j, j < n → ∃ m, m < n ∧ (k + m) % n = j) := by
  -- adding less than `n` to a position wraps around at most once
  have wrap : ∀ i, i < n → (k + i) % n = if k + i < n then k + i else k + i - n := fun i hi => by
    split
    · exact Nat.mod_eq_of_lt ‹_›
    · rw [Nat.mod_eq_sub_mod (by omega), Nat.mod_eq_of_lt (by omega)]
  refine ⟨fun i j hi hj h => ?_, fun j hj => ?_⟩
  · rw [wrap i hi, wrap j hj] at h
    split at h <;> split at h <;> omega
  · refine ⟨if j < k then n - k + j else j - k, by split <;> omega, ?_⟩
    rw [wrap _ (by split <;> omega)]
    split <;> split <;> omega

/-- semi-round-robin, cursor set: one PRNG word `r` is drawn; the call stays (returns false,
nothing changes) iff `FastRandN(4)` of that word is non-zero, otherwise it is exactly the
round-robin step (`roundRobin_step`). -/
theorem semiRoundRobin_refines (g : Group) (hwf : g.WF) (hs : g.sel = selSemiRoundRobin) (k : Nat)
    (c : Entry) (hk : g.entries[k]? = some c) (hc : g.cur = some c) (e : Bool) (ds : List Nat) :
    switch g e ds = if fastRandN (pop ds).1 semiN != 0 then .ok (g, false, (pop ds).2)
                    else .ok ((rotStep g k).1, (rotStep g k).2, (pop ds).2) := by
  rw [switch_of_guards (ne_nil_of_getElem? hk) (guards_semi e ds hc (.inl hs)),
    select_rot _ hwf.1 hk hc (by rw [hs]; decide)]

/-- semi-last-valid, cursor set: after a reported failure it does what last-valid does (the
round-robin step, no PRNG word); otherwise it draws one word and either stays or does that step. -/
theorem semiLastValid_refines (g : Group) (hwf : g.WF) (hs : g.sel = selSemiLastValid) (k : Nat)
    (c : Entry) (hk : g.entries[k]? = some c) (hc : g.cur = some c) (e : Bool) (ds : List Nat) :
    switch g e ds =
      if e then .ok ((rotStep g k).1, (rotStep g k).2, ds)
      else if fastRandN (pop ds).1 semiN != 0 then .ok (g, false, (pop ds).2)
      else .ok ((rotStep g k).1, (rotStep g k).2, (pop ds).2) := by
  have hnr : (g.sel == selRandom || g.sel == selSemiRandom) = false := by rw [hs]; decide
  cases e with
  | true => exact switch_rot hwf.1 hk hc hnr (guards_semiLastValid true ds hc hs)
  | false =>
    rw [switch_of_guards (ne_nil_of_getElem? hk) (guards_semiLastValid false ds hc hs), select_rot _ hwf.1 hk hc hnr]
    rfl

/-- random: every call is the random pick, and the pick is one of the entries; true is reported
iff it differs from the active one. -/
theorem random_picks_entry (g : Group) (hs : g.sel = selRandom) (hne : g.entries ≠ []) (e : Bool)
    (ds : List Nat) :
    switch g e ds = pick g ds ∧
    ∃ n ∈ g.entries, pick g ds =
      .ok (if ptrEq n g.cur then g else { g with cur := some n }, !ptrEq n g.cur, (pop ds).2) :=
  ⟨(switch_of_guards hne (guards_unguarded e ds (by rw [hs]; decide))).trans (select_random ds (.inl hs)), pick_spec ds hne⟩

/-- semi-random, cursor set: one word decides between staying and the random pick (drawn with the
following word) — the same `pick` the random selector performs. -/
theorem semiRandom_refines (g : Group) (hs : g.sel = selSemiRandom) (k : Nat) (c : Entry)
    (hk : g.entries[k]? = some c) (hc : g.cur = some c) (e : Bool) (ds : List Nat) :
    switch g e ds = if fastRandN (pop ds).1 semiN != 0 then .ok (g, false, (pop ds).2)
                    else pick g (pop ds).2 := by
  rw [switch_of_guards (ne_nil_of_getElem? hk) (guards_semi e ds hc (.inr hs)), select_random _ (.inr hs)]

/-- the "25 % chance" of the semi selectors, exactly: with the regenerated literal (4), the stay/go
draw lets the call through iff the raw 32-bit PRNG word is below 2^30 (a quarter of the range). -/
theorem semi_chance (r : Nat) : fastRandN r semiN = 0 ↔ r % 2^32 < 2^30 := by
  have : semiN = 4 := by decide
  rw [this]
  unfold fastRandN
  rw [Nat.shiftRight_eq_div_pow]
  omega

/-- first use (cursor not yet set): no selector draws its stay/go word; the non-random selectors
activate entry 0, the random ones do the random pick. -/
theorem first_use (g : Group) (hc : g.cur = none) (hne : g.entries ≠ []) (e : Bool) (ds : List Nat) :
    ((g.sel == selRandom || g.sel == selSemiRandom) = false →
        switch g e ds = .ok ({ g with cur := g.entries[0]? }, true, ds)) ∧
    (g.sel = selRandom ∨ g.sel = selSemiRandom → switch g e ds = pick g ds) :=
  ⟨switch_first e ds hc hne, fun hs => (switch_of_guards hne (guards_nil e ds hc)).trans (select_random ds hs)⟩

/-! Non-vacuity: a concrete three-group profile meets every hypothesis and the model computes -/

def exE (p w : Nat) : Entry :=
  { ptr := p, weight := clampWeight w, hosts := [[p.toUInt8], [0x41]], w := 10 + p, t := 20 + p, sleep := 1000 + p,
    jitter := p, kill := 0, kds := false, work := 0, keys := [], conn := 2 }

def exG (sel : Nat) : Group :=
  match buildTail [(exE 0 5, 0), (exE 1 200, sel), (exE 2 50, 0)] with
  | .group g => g
  | _ => { cur := none, entries := [], sel := 0 }

example : buildTail [(exE 0 5, 0), (exE 1 200, selRoundRobin), (exE 2 50, 0)] = .group (exG selRoundRobin) := by
  decide
example : (exG selRoundRobin).WF ∧ (exG selRoundRobin).entries.map (·.ptr) = [1, 2, 0] ∧
    (exG selRoundRobin).entries.map (·.weight) = [100, 50, 5] ∧ Plain (exG selRoundRobin).sel := by
  refine ⟨⟨by decide, fun c h => by cases h⟩, by decide, by decide, by decide⟩
/-- round-robin really cycles 1 → 2 → 0 → 1 (ptrs), Next hands out the active entry's wrapper -/
example : (match run (exG selRoundRobin) [(.next, []), (.switch false, []), (.switch true, []), (.switch false, []), (.next, [0])] with
    | .ok (g, os) => (g.cur.map (·.ptr), os)
    | .panic _ => (none, [])) =
    (some 1, [.next [1] 11 21, .switched true, .switched true, .switched true, .next [1] 11 21]) := by
  decide
/-- last-valid stays on Switch(false) and moves on Switch(true); semi-round-robin stays on a word
with FastRandN(4) ≠ 0 and moves on the word 0 -/
example : (match run (exG selLastValid) [(.switch false, []), (.switch false, []), (.switch true, []), (.sleep, [])] with
    | .ok (g, os) => (g.cur.map (·.ptr), os)
    | .panic _ => (none, [])) = (some 2, [.switched true, .switched false, .switched true, .sleep 1002]) := by
  decide
example : (match run (exG selSemiRoundRobin) [(.switch false, []), (.switch true, [2^30]), (.switch false, [0])] with
    | .ok (g, os) => (g.cur.map (·.ptr), os)
    | .panic _ => (none, [])) = (some 2, [.switched true, .switched false, .switched true]) := by
  decide

/-- Over the whole connection loop of a client Session (model XMT/ClientLoop.lean of c2/session.go
`listen`; any configuration, PRNG words, number of turns, and ANY script of connect errors, failed
exchanges and successful exchanges): `Switch` is called once per connection attempt, and the k-th
call is given `true` exactly when attempt k-1 failed; the first call is given `false`. "Last-valid
changes only after a reported failure" rests on this report. -/
theorem listen_reports_failures (c : Client.Cfg) (q : Nat → Nat) (script : Nat → Client.Res) (fuel : Nat) (now : Int) :
    (Client.run c q script fuel { now := now }).sw =
      (List.range (Client.run c q script fuel { now := now }).ci).map
        (fun k => decide (k > 0) && (script (k - 1) != .ok)) := by
  rw [(Client.run_sw c q script 0 fuel { now := now } ⟨Nat.le_refl _, rfl, rfl⟩).2]
  simp only [Nat.sub_zero, Nat.zero_add]
  rfl

-- concrete: exchange fails, connect fails, exchange succeeds, … : reports false, true, true, false
example : (Client.run { sleep := 1000000, jitter := 0, kill := none, work := none, off := 0 } (fun _ => 0)
    (fun k => [Client.Res.sessErr, .fail, .ok, .ok].getD k .fail) 4 { now := 0 }).sw = [false, true, true, false] := by decide

/-! The connection loop COMPOSED with the multi-group profile (XMT/GroupLoop.lean).

`GroupLoop.session g ds script` = what `connectContextInner` does with the profile (`Next`), then the
loop `(*Session).listen` with `s.p = g`, the connector outcomes `script` and ONE PRNG word stream `ds`.
`HostsNE g` = every group names a host and no host is the empty string.  `OwnConn g cn` = attempt
`cn` was made with a host, the wrapper and the transform of ONE entry of `g`, which was the active
one.  `Link g a b` (consecutive attempts) = the Switch call between them was given "`a` failed", the two
active entries are related by one call of `Group.switch` with that flag, host / wrapper / transform are
kept iff it reported no change, and a reported change forgives one error.  `GiveUp cn` = a connect
error met with more than `maxErrors` on the counter, or a failed exchange that takes it above. -/

open XMT.GroupLoop in
/-- One turn of the real loop on a group IS one call of the selector function: `Group.switch` is
given the failure flag of the previous attempt, the loop re-reads host / wrapper / transform (`Next`)
exactly when it reports a change and keeps them otherwise, and connects through the active entry. -/
theorem loop_turn_is_switch (st : St) (r : Res) (hinv : Inv st) (hh : HostsNE st.g) :
    ∃ g1 b ds1 st' cont cn, switch st.g st.e st.ds = .ok (g1, b, ds1) ∧ turn st r = .ok (st', cont) ∧
      st'.g = g1 ∧ st'.trace = st.trace ++ [cn] ∧ cn.swArg = st.e ∧ cn.swRes = b ∧ cn.cur = g1.curPtr ∧
      st'.e = (cn.res != .ok) ∧
      (b = false → st'.host = st.host ∧ st'.w = st.w ∧ st'.t = st.t ∧ cn.errs = st.errors ∧ g1 = st.g) ∧
      (b = true → cn.errs = errDec st.errors ∧ g1.curPtr ≠ st.g.curPtr) ∧
      (∃ c ∈ st.g.entries, g1.cur = some c ∧ cn.host ∈ c.hosts ∧ cn.w = c.w ∧ cn.t = c.t) ∧
      (cont = false ↔ GiveUp cn) := by
  obtain ⟨g1, b, ds1, st', cont, cn, _, h⟩ := turn_spec r hinv hh
  exact ⟨g1, b, ds1, st', cont, cn, h⟩

open XMT.GroupLoop in
/-- The composition, for every group (any number of entries, any selector value, fresh or used), every
PRNG word stream and every history of connector outcomes: nothing panics; the group's entries and
selector never change; EVERY connection attempt is made with a host, the wrapper and the transform of
one configured entry, the active one; the first Switch call is told "no failure"; every two consecutive
attempts are linked by one call of `Group.switch` with the failure flag of the earlier one (so each
selector theorem above applies turn by turn — see `loop_link_contract`); one attempt is made per script
element until the loop gives up, and it gives up at the first attempt that meets `GiveUp`, never
before. -/
theorem loop_composition (g : Group) (hwf : g.WF) (hne : g.entries ≠ []) (hh : HostsNE g)
    (ds : List Nat) (script : List Res) :
    ∃ st cont, session g ds script = .ok (st, cont) ∧ st.g.entries = g.entries ∧ st.g.sel = g.sel ∧
      (∀ cn ∈ st.trace, OwnConn g cn) ∧ Adj (Link g) st.trace ∧
      (∀ cn, st.trace.head? = some cn → cn.swArg = false ∧ cn.errs = 0) ∧
      st.trace.length ≤ script.length ∧
      (cont = true → st.trace.length = script.length ∧ ∀ cn ∈ st.trace, ¬ GiveUp cn) ∧
      (cont = false → ∃ init last, st.trace = init ++ [last] ∧ GiveUp last ∧ ∀ cn ∈ init, ¬ GiveUp cn) := by
  obtain ⟨st0, st, cont, _, hrun, hm, hadj, hown, hlen, hfull, hend⟩ := session_spec hwf hne hh ds script
  refine ⟨st, cont, hrun, hm.entries, hm.sel, hown, Adj_tail hadj, fun cn hcn => ?_, hlen, hfull, hend⟩
  -- the first attempt is linked to `before` the loop: a success with nothing on the counter
  obtain ⟨tl, htr⟩ := List.head?_eq_some_iff.mp hcn
  rw [htr] at hadj
  refine ⟨hadj.1.swArg_eq, ?_⟩
  cases hb : cn.swRes with
  | false => exact hadj.1.stay_errs hb
  | true => exact hadj.1.move_errs hb

open XMT.GroupLoop in
/-- The selector contracts, turn by turn of the loop.  For two consecutive attempts `a`, `b` on a group
with distinct entries, `a` made on the entry at position `k`, with `succ` = the entry at position
`(k+1) mod n`:  round-robin goes to `succ` whatever happened;  last-valid stays (no change reported,
hence same host, wrapper, transform) after a success and goes to `succ` after a failure;
semi-round-robin either stays or goes to `succ`;  semi-last-valid goes to `succ` after a failure and
otherwise either stays or goes to `succ`;  (random / semi-random: `b` is made on a member entry, by
`loop_composition`, and stays iff no change is reported). -/
theorem loop_link_contract (g : Group) (hnd : (g.entries.map (·.ptr)).Nodup) (a b : Conn) (h : Link g a b) :
    b.swArg = (a.res != .ok) ∧
    (b.swRes = false → b.cur = a.cur ∧ b.host = a.host ∧ b.w = a.w ∧ b.t = a.t) ∧
    ∃ k ca, g.entries[k]? = some ca ∧ a.cur = some ca.ptr ∧
      (Plain g.sel → b.cur = (g.entries[(k+1) % g.entries.length]?).map (·.ptr)) ∧
      (g.sel = selLastValid →
        (a.res = .ok → b.swRes = false) ∧
        (a.res ≠ .ok → b.cur = (g.entries[(k+1) % g.entries.length]?).map (·.ptr))) ∧
      (g.sel = selSemiRoundRobin →
        b.swRes = false ∨ b.cur = (g.entries[(k+1) % g.entries.length]?).map (·.ptr)) ∧
      (g.sel = selSemiLastValid →
        (a.res ≠ .ok → b.cur = (g.entries[(k+1) % g.entries.length]?).map (·.ptr)) ∧
        (b.swRes = false ∨ b.cur = (g.entries[(k+1) % g.entries.length]?).map (·.ptr))) := by
  have harg := h.swArg_eq
  obtain ⟨ca, _, _, _, hca, _, hac, _⟩ := h.switched
  obtain ⟨k, hk⟩ := List.mem_iff_getElem?.mp hca
  have hwf := wf_at hnd hca
  -- `rd`: whatever the selector function is shown to return on the cursor of `a`, `b` saw that result
  -- (`.1`) and was made on that cursor (`.2`)
  obtain ⟨ds, rd⟩ := h.read hnd hca hac
  have onFail : a.res ≠ .ok → ∀ {x y : Outcome (Group × Bool × List Nat)}, (if b.swArg then x else y) = x :=
    fun hr => by rw [harg, bne_iff_ne.mpr hr]; exact rfl
  have onOk : a.res = .ok → ∀ {x y : Outcome (Group × Bool × List Nat)}, (if b.swArg then x else y) = y :=
    fun hr => by rw [harg, hr]; exact rfl
  refine ⟨harg, h.stay, k, ca, hk, hac,
    fun hp => (rd (roundRobin_step _ hwf hp k ca hk rfl _ ds)).2, fun hs => ?_, fun hs => ?_, fun hs => ?_⟩
  · have hstep := lastValid_step _ hwf hs k ca hk rfl b.swArg ds
    exact ⟨fun hr => (rd (hstep.trans (onOk hr))).1, fun hr => (rd (hstep.trans (onFail hr))).2⟩
  · have hstep := semiRoundRobin_refines _ hwf hs k ca hk rfl b.swArg ds
    split at hstep
    · exact .inl (rd hstep).1
    · exact .inr (rd hstep).2
  · have hstep := semiLastValid_refines _ hwf hs k ca hk rfl b.swArg ds
    refine ⟨fun hr => (rd (hstep.trans (onFail hr))).2, ?_⟩
    split at hstep
    · exact .inr (rd hstep).2
    · split at hstep
      · exact .inl (rd hstep).1
      · exact .inr (rd hstep).2

open XMT.GroupLoop in
/-- Round-robin over the whole life of a Session, on a freshly built group: the registration uses
entry 0 (the highest weight) and connection attempt `i` of the loop (i = 0, 1, …) goes to the entry at
position `(i + 1) mod n` — cyclic order, every group before any repeats — whatever the connector
outcomes and PRNG words are; Switch reports a change in every turn (unless there is a single entry). -/
theorem loop_roundRobin_order (g : Group) (hwf : g.WF) (hp : Plain g.sel) (hc : g.cur = none)
    (hne : g.entries ≠ []) (hh : HostsNE g) (ds : List Nat) (script : List Res) :
    ∃ st cont, session g ds script = .ok (st, cont) ∧
      ∀ i cn, st.trace[i]? = some cn →
        cn.cur = (g.entries[(i + 1) % g.entries.length]?).map (·.ptr) ∧
        cn.swRes = decide (g.entries.length ≠ 1) := by
  obtain ⟨st0, st, cont, ⟨ds', hi⟩, hrun, _, hadj, _⟩ := session_spec hwf hne hh ds script
  obtain ⟨e0, h0⟩ := head_of_ne_nil hne
  -- the registration (`Next` → `init`) activated entry 0
  rw [init_first ds hc hne hp.not_random] at hi
  have hcur : (before st0).cur = some e0.ptr :=
    Group.curPtr_of_cur (by rw [← (Prod.mk.inj (Outcome.ok.inj hi)).1]; exact h0)
  refine ⟨st, cont, hrun, fun i cn hcn => ?_⟩
  have := plain_chain hwf.1 hp st.trace (before st0) 0 e0 h0 hcur hadj i cn hcn
  rwa [Nat.zero_add, Nat.add_comm] at this

open XMT.GroupLoop in
/-- The error budget, counted in consecutive failures.  In any run, take a stretch `a :: l` of
consecutive FAILED attempts (connect error or failed exchange) at the end of the trace, during which
Switch reported no change (so nothing was forgiven): the counter met by the (i+1)-th of them is
`a.errs + i + 1`, and while the loop is still going the stretch holds at most
`maxErrors + 1 - a.errs` attempts (`maxErrors + 1` = 6 from a clean counter): one more unforgiven
connect failure and `GiveUp` holds, i.e. the loop ends there (`loop_composition`). -/
theorem loop_budget_no_switch (g : Group) (hwf : g.WF) (hne : g.entries ≠ []) (hh : HostsNE g)
    (ds : List Nat) (script : List Res) (st : St) (cont : Bool)
    (hrun : session g ds script = .ok (st, cont)) (pre l : List Conn) (a : Conn)
    (htr : st.trace = pre ++ a :: l) (hfail : ∀ c ∈ a :: l, c.res ≠ .ok)
    (hns : ∀ c ∈ l, c.swRes = false) :
    (∀ i c, l[i]? = some c → c.errs = a.errs + i + 1) ∧
    (cont = true → a.errs + l.length ≤ maxErrors) := by
  obtain ⟨st', cont', hrun', _, _, _, hadj, _, _, hgo, _⟩ := loop_composition g hwf hne hh ds script
  cases hrun.symm.trans hrun'
  rw [htr] at hadj hgo
  obtain ⟨hchain, hbudget⟩ := chain_errs (Adj_suffix pre hadj) hns hfail
  exact ⟨hchain, fun hc => hbudget fun z hz => (hgo hc).2 z (List.mem_append_right _ hz)⟩

example : GroupLoop.HostsNE (exG selLastValid) ∧ (exG selLastValid).WF ∧ (exG selLastValid).entries ≠ [] := by
  refine ⟨by decide, ⟨by decide, fun c h => by cases h⟩, by decide⟩

/-- last-valid in the loop: registration on ptr 1 (weight 100); ok, ok keep it; a connect failure moves
the loop to ptr 2 with THAT entry's wrapper 12 / transform 22 and forgives nothing at errors 0… -/
example : (match GroupLoop.session (exG selLastValid) [] [.ok, .fail, .ok, .sessErr, .ok] with
    | .ok (st, cont) =>
      (st.trace.map (fun c => [c.swArg.toNat, c.swRes.toNat, (c.cur.map (· + 1)).getD 0, c.w, c.t, c.errs]), cont)
    | .panic _ => ([], false)) =
    -- [Switch argument, Switch result, ptr + 1, wrapper, transform, errors]
    (([[0, 0, 2, 11, 21, 0], [0, 0, 2, 11, 21, 0], [1, 1, 3, 12, 22, 0], [0, 0, 3, 12, 22, 0], [1, 1, 1, 10, 20, 0]],
      true) : List (List Nat) × Bool) := by
  decide

/-- round-robin in the loop: 2 → 0 → 1 → 2 (ptrs; order by weight is 1, 2, 0) -/
example : (match GroupLoop.session (exG selRoundRobin) [] [.ok, .fail, .fail, .ok] with
    | .ok (st, _) => st.trace.map (·.cur)
    | .panic _ => []) = [some 2, some 0, some 1, some 2] := by
  decide

/-- a single-entry group never reports a change, so nothing is forgiven: the loop gives up at the
7th consecutive connect failure (counter 6 > maxErrors = 5), not before -/
example : (match GroupLoop.session { cur := none, entries := [exE 0 5], sel := selRoundRobin } []
      (List.replicate 9 .fail) with
    | .ok (st, cont) => (st.trace.map (·.errs), cont)
    | .panic _ => ([], true)) = (([0, 1, 2, 3, 4, 5, 6], false) : List Nat × Bool) := by
  decide

/-- a reported switch forgives one error (by design of `listen`): round-robin over three groups and 20
connect failures in a row — the counter is never above 1 when Connect is called and the loop is
still going; "gives up after N consecutive failures" holds for stretches without a reported switch
only (previous example) -/
example : (match GroupLoop.session (exG selRoundRobin) [] (List.replicate 20 .fail) with
    | .ok (st, cont) => (st.trace.length, st.trace.all (fun c => decide (c.errs ≤ 1)), cont)
    | .panic _ => (0, false, false)) = ((20, true, true) : Nat × Bool × Bool) := by
  decide

/-- `g.entries ≠ []` (hypothesis of `accessor_own`, `next_own`, `random_picks_entry`, `first_use`): a
Group without entries (the zero value `new(cfg.Group)`; `Build` never returns one: it hands back nil
for no group and the bare profile for one) answers EVERY call with the documented default —
Switch false, Next ("", nil, nil), Sleep / Jitter -1, no kill date, no work hours, TrustedKey =
"key not empty", ErrNotAConnector / ErrNotAListener — draws no PRNG word, stays as it is, and does
not panic, whatever its selector byte is. -/
theorem empty_group_defaults (sel : Nat) (op : Op) (ds : List Nat) :
    step { cur := none, entries := [], sel := sel } op ds =
      .ok ({ cur := none, entries := [], sel := sel }, obsNil op, ds) := by
  cases op <;> rfl

example : obsNil .next = .next [] 0 0 ∧ obsNil .sleep = .sleep (-1) ∧ obsNil (.trusted false 7) = .trusted true := by
  decide

open XMT.GroupLoop in
/-- `HostsNE` (hypothesis of the loop theorems) cannot be dropped: with a group that names no host the
loop keeps the host of the group it was on before (`if len(h) > 0 { s.host.Set(h) }`) and connects to
it with the NEW group's wrapper, transform and connector.  Witness: round-robin over exE 1 (hosts
[01], [41]) and a hostless entry; the first attempt of the loop is made on the hostless entry (ptr 7,
wrapper 17, transform 27) with the host [01] of entry 1.  (No panic; observed on the real loop by the
harness, count `s3:hostless:kept-foreign-host`.) -/
theorem loop_hostless_group_keeps_foreign_host :
    let hostless : Entry := { exE 7 50 with hosts := [] }
    let g : Group := { cur := none, entries := [exE 1 200, hostless], sel := selRoundRobin }
    g.WF ∧ ¬ HostsNE g ∧
    ∃ st cont cn, session g [] [.ok, .ok] = .ok (st, cont) ∧ st.trace[0]? = some cn ∧
      cn.cur = some 7 ∧ cn.w = 17 ∧ cn.t = 27 ∧ cn.host = [1] ∧ ¬ OwnConn g cn := by
  refine ⟨⟨by decide, fun c h => by cases h⟩, by decide, ?_⟩
  refine ⟨_, _, _, rfl, rfl, by decide, by decide, by decide, by decide, ?_⟩
  rintro ⟨c, hc, hcur, hhost, _, _⟩
  simp only [List.mem_cons, List.not_mem_nil, or_false] at hc
  rcases hc with rfl | rfl
  · revert hcur; decide
  · revert hhost; decide

/-! The host container of the `ews && implant` build (c2/x_ews.go; model XMT/HostBox.lean,
tied to the real file by the differential group `ews`: the harness mounts a copy of the CURRENT
c2/x_ews.go into its own package and drives it with the same Set/Wrap/Unwrap sequences) -/

/-- Whatever the container held before (any length, wrapped or not), after `Set(h)` it hands out
exactly `h`: "the host handed out always belongs to the active group" does not depend on the hosts
of earlier groups being shorter or longer. -/
theorem hostbox_set_hands_out (c : HostBox.Box) (h : Bytes) : HostBox.string (HostBox.set c h) = h :=
  HostBox.set_string c h

/-- Over any number of turns of the connection loop (Unwrap, Set on a switch, Connect with String(),
Wrap with 16 fresh PRNG bytes), for all hosts and all PRNG draws, the host given to the connector in
every turn is the host of the last switch (the one set before the loop when there was none). -/
theorem hostbox_loop_hands_out_active (c : HostBox.Box) (cur : Bytes) (ts : List HostBox.Turn)
    (hinv : HostBox.string (HostBox.unwrap c) = cur) (hk : c.k ≠ [])
    (hd : ∀ t ∈ ts, t.draws ≠ []) :
    HostBox.observed c ts = HostBox.expected cur ts :=
  hinv ▸ HostBox.observed_eq c ts hd

-- non-vacuous: long host, then a shorter one, then a longer one again (shrink-then-grow), wrapped between
example : HostBox.observed (HostBox.set HostBox.empty [1,2,3,4,5,6])
    [⟨none, List.replicate 16 7⟩, ⟨some [9,9], List.replicate 16 0⟩, ⟨some [1,2,3,4], List.replicate 16 200⟩, ⟨none, List.replicate 16 3⟩]
    = [[1,2,3,4,5,6], [9,9], [1,2,3,4], [1,2,3,4]] := by decide
example : HostBox.string (HostBox.unwrap (HostBox.set HostBox.empty [1,2,3])) = [1,2,3] ∧ (HostBox.set HostBox.empty [1,2,3]).k ≠ [] := by decide

end XMT.Props.C17
