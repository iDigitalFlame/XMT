/-
  C18 — Task, filter and launcher descriptions decode to what the operator encoded.
  Property theorems, tie obligations and non-vacuity examples; the decoders' read-back lemmas are in
  XMT/TaskLemmas.lean.

  Shape of the argument
  * Process / DLL / Zombie / Assembly: the writer trace (server-only file) and the reader trace
    (implant file) are REGENERATED from the Go source on every run (`Facts.c18_schema_*`); the
    generic schema codec round-trips for every schema (`schema_roundtrip_*`), so each type needs
    only three obligations on the current facts, closed by evaluation: the traces are recognised
    schemas, they are equal, and they mention every field of the struct.
  * Filter, sentinelPath, Sentinel, file frame: hand-written models (guards / loop); the
    normalised source of every modelled function is compared with the text the model was written
    from (`tie_*`).
-/
import XMT.TaskLemmas
namespace XMT.Props.C18
open XMT.Codec XMT.Task

/-! ### Generic schema codec -/

/-- Any schema, any well-typed description, in-memory reader (a task Packet): decoding returns
every field in order — filters normalised — and leaves exactly the trailing bytes. -/
theorem schema_roundtrip_chunk (W : Schema) (ρ : Rec) (hw : WT W ρ) (rest : Bytes) :
    decS chunkPrim W (encS W ρ ++ rest) = .ok (normRec W ρ, rest) :=
  (reads_decS chunk_lawful W ρ hw).chunk rest

/-- The same through the stream reader, for every way the io.Reader splits the bytes. -/
theorem schema_roundtrip_stream (W : Schema) (ρ : Rec) (hw : WT W ρ) (rest : Bytes) (cs : Stream)
    (hne : NoEmpty cs) (hcs : cs.flatten = encS W ρ ++ rest) :
    ∃ cs', decS streamPrim W cs = .ok (normRec W ρ, cs') ∧ cs'.flatten = rest :=
  (reads_decS stream_lawful W ρ hw).stream rest cs hne hcs

/-- Normalisation touches nothing but empty filters. -/
theorem norm_only_empty_filters (v : FVal) (h : ∀ f, v = .filter (some f) → f.isEmpty = false) :
    normF v = v := by
  cases v with
  | prim v => rfl
  | filter f =>
    cases f with
    | none => rfl
    | some f => exact congrArg FVal.filter (normPtr_of_not (h f rfl))

/-- The decoded description, read field by field: every field the schema mentions has the encoded
value (normalised). With the coverage clause of `TaskRoundTrips` this is every field of the struct. -/
theorem decoded_fields (W : Schema) (ρ : Rec) (f : String) (h : f ∈ W.map Prod.fst) :
    (normRec W ρ).lookup f = some (normF (ρ f)) := by
  induction W with
  | nil => cases h
  | cons e W ih =>
    rw [normRec, List.map_cons, List.lookup_cons]
    by_cases hn : f = e.1
    · rw [hn, beq_self_eq_true]
    · rw [beq_false_of_ne hn]
      exact ih ((List.mem_cons.mp h).resolve_left hn)

/-! ### The four task descriptions (schemas extracted from the current source) -/

/-- `task.Process`: `Process.MarshalStream` (v_process.go) ⇄ `(*Process).UnmarshalStream` (process.go). -/
theorem process_roundtrip :
    TaskRoundTrips Facts.c18_schema_Process_marshal Facts.c18_schema_Process_unmarshal
      Facts.c18_fields_Process :=
  taskRoundTrips_of_tie (by decide) rfl (by decide)

/-- `task.DLL`: v_dll.go ⇄ dll.go. -/
theorem dll_roundtrip :
    TaskRoundTrips Facts.c18_schema_DLL_marshal Facts.c18_schema_DLL_unmarshal
      Facts.c18_fields_DLL :=
  taskRoundTrips_of_tie (by decide) rfl (by decide)

/-- `task.Zombie`: zombie.go (both directions). -/
theorem zombie_roundtrip :
    TaskRoundTrips Facts.c18_schema_Zombie_marshal Facts.c18_schema_Zombie_unmarshal
      Facts.c18_fields_Zombie :=
  taskRoundTrips_of_tie (by decide) rfl (by decide)

/-- `task.Assembly`: v_assembly.go ⇄ assembly.go. -/
theorem assembly_roundtrip :
    TaskRoundTrips Facts.c18_schema_Assembly_marshal Facts.c18_schema_Assembly_unmarshal
      Facts.c18_fields_Assembly :=
  taskRoundTrips_of_tie (by decide) rfl (by decide)

/-! ### Process filter -/

/-- `(*Filter).MarshalStream` ⇄ `filter.UnmarshalStream(r, &f)` (pointer field of a task): the
decoded filter is the encoded one with empty filters normalised to nil; exact consumption; both
readers, every chunking. -/
theorem filter_roundtrip_ptr (f : Option Filter) (hf : (FVal.filter f).WF) (rest : Bytes) :
    decFilterPtr chunkPrim (encFilter f ++ rest) = .ok (normPtr f, rest) ∧
    ∀ cs : Stream, NoEmpty cs → cs.flatten = encFilter f ++ rest →
      ∃ cs', decFilterPtr streamPrim cs = .ok (normPtr f, cs') ∧ cs'.flatten = rest :=
  ⟨(reads_filterPtr chunk_lawful f hf).chunk rest, (reads_filterPtr stream_lawful f hf).stream rest⟩

/-- `(*Filter).MarshalStream` ⇄ `(*Filter).UnmarshalStream(r)` on an embedded value (Sentinel,
`taskElevate`): empty filters come back as the zero value. -/
theorem filter_roundtrip_val (f : Filter) (hf : f.WF) (rest : Bytes) :
    decFilterVal chunkPrim (encFilter (some f) ++ rest) = .ok (normVal f, rest) ∧
    ∀ cs : Stream, NoEmpty cs → cs.flatten = encFilter (some f) ++ rest →
      ∃ cs', decFilterVal streamPrim cs = .ok (normVal f, cs') ∧ cs'.flatten = rest :=
  ⟨(reads_filterVal chunk_lawful f hf).chunk rest, (reads_filterVal stream_lawful f hf).stream rest⟩

/-- What "normalisation of empty filters" is, exactly: a non-empty filter is untouched; an empty
one (which can differ from the zero filter only in `Fallback`) becomes nil / the zero filter. -/
theorem filter_norm (f : Filter) :
    (f.isEmpty = false → normPtr (some f) = some f ∧ normVal f = f) ∧
    (f.isEmpty = true → normPtr (some f) = none ∧ normVal f = Filter.zero ∧
      f = { Filter.zero with fallback := f.fallback }) :=
  ⟨fun h => ⟨normPtr_of_not h, normVal_of_not h⟩,
    fun h => ⟨normPtr_of_isEmpty h, normVal_of_isEmpty h, Filter.eq_zero_of_isEmpty h⟩⟩

/-! ### Launcher description (man.Sentinel) -/

/-- One launcher path: kinds below `sentPathDownload` have no argument list on the wire. -/
theorem sentinelPath_roundtrip (p : SPath) (hp : p.WF) (rest : Bytes) :
    decPath chunkPrim (encPath p ++ rest) = .ok (normPath p, rest) ∧
    (p.t.toNat < Facts.c18_sentPathDownload → p.extra = [] → normPath p = p) ∧
    (Facts.c18_sentPathDownload ≤ p.t.toNat → normPath p = p) :=
  ⟨(reads_path chunk_lawful p hp).chunk rest, fun _ h => normPath_eq_self p fun _ => h,
    fun h => normPath_eq_self p fun h' => absurd h' (Nat.not_lt.mpr h)⟩

/-- Descriptions the public constructors (`AddExecute/AddDLL/AddASM/AddDownload/AddZombie`) can
build: an argument list only on kinds that have one. -/
def Constructible (x : Sentinel) : Prop :=
  ∀ p ∈ x.paths, p.t.toNat < Facts.c18_sentPathDownload → p.extra = []

def SentinelWF (x : Sentinel) : Prop := x.filter.WF ∧ ∀ p ∈ x.paths, p.WF

instance (x : Sentinel) : Decidable (Constructible x) := by unfold Constructible; infer_instance
instance (x : Sentinel) : Decidable (SentinelWF x) := by unfold SentinelWF; infer_instance

/-- What a persisted description decodes to, for EVERY description: its first `0xFFFF` paths
(normalised) and its filter (normalised); exactly the written bytes are consumed. -/
theorem sentinel_decodes_prefix (x : Sentinel) (hx : SentinelWF x) (rest : Bytes) :
    decSentinel chunkPrim (encSentinel x ++ rest) = .ok (normSentinel x, rest) ∧
    ∀ cs : Stream, NoEmpty cs → cs.flatten = encSentinel x ++ rest →
      ∃ cs', decSentinel streamPrim cs = .ok (normSentinel x, cs') ∧ cs'.flatten = rest :=
  ⟨(reads_sentinel chunk_lawful x hx.1 hx.2).chunk rest,
    (reads_sentinel stream_lawful x hx.1 hx.2).stream rest⟩

/-
  -- FULL STATEMENT (false, see `sentinel_truncation_witness`; recorded as known finding
  -- `sentinel:paths-truncated`): for every constructible description x, whatever the number of
  -- paths,  decSentinel (encSentinel x) = ok ({x with filter := normVal x.filter}, []).
  -- The wire format carries a uint16 count, so the statement holds exactly up to 65535 paths:
-/

/-- Equality (modulo the empty-filter normalisation) for every constructible description with at
most `0xFFFF` paths. -/
theorem sentinel_roundtrip_partial (x : Sentinel) (hx : SentinelWF x) (hc : Constructible x)
    (hn : x.paths.length ≤ maxPaths) (rest : Bytes) :
    decSentinel chunkPrim (encSentinel x ++ rest) = .ok ({ x with filter := normVal x.filter }, rest) := by
  rw [(sentinel_decodes_prefix x hx rest).1, normSentinel_eq x hc hn]

/-- Negation of the full statement: a description with more than `0xFFFF` paths does NOT come
back — the decoder returns a strictly shorter path list. -/
theorem sentinel_truncates (x : Sentinel) (hx : SentinelWF x) (hn : x.paths.length > maxPaths) :
    ∃ y, decSentinel chunkPrim (encSentinel x) = .ok (y, []) ∧ y.paths.length = maxPaths ∧
      y.paths ≠ x.paths := by
  have hl : (normSentinel x).paths.length = maxPaths := by
    simp only [normSentinel, List.length_map, List.length_take]; omega
  have h := (sentinel_decodes_prefix x hx []).1
  rw [List.append_nil] at h
  exact ⟨_, h, hl, fun he => by rw [he] at hl; omega⟩

/-- 65536 × `AddExecute("a")` -/
def truncWitness : Sentinel := ⟨List.replicate 65536 ⟨0, [97], []⟩, Filter.zero⟩

/-- `sentinel_truncates` on a concrete description: of 65536 paths, 65535 come back. -/
theorem sentinel_truncation_witness :
    ∃ y, decSentinel chunkPrim (encSentinel truncWitness) = .ok (y, []) ∧
      y.paths ≠ truncWitness.paths := by
  have hx : SentinelWF truncWitness :=
    ⟨⟨by decide, ⟨by decide, nofun⟩, ⟨by decide, nofun⟩⟩,
      fun p hp => List.eq_of_mem_replicate hp ▸ ⟨by decide, by decide, nofun⟩⟩
  have hlen : truncWitness.paths.length > maxPaths := by
    rw [truncWitness, List.length_replicate]; decide
  obtain ⟨y, h1, _, h3⟩ := sentinel_truncates truncWitness hx hlen
  exact ⟨y, h1, h3⟩

/-! ### Launcher file: IV ++ CTR(codec) -/

/-- `Sentinel.Read(c, ·) ∘ Sentinel.Write(c, ·)` for every cipher (the CTR keystream is an
arbitrary function of the IV — i.e. all keys), every IV of block size, and every way the file is
delivered in short reads: the description of `sentinel_decodes_prefix` comes back and exactly the
written bytes are consumed (`rest`, whatever follows, is still unread). -/
theorem sentinel_file_roundtrip (c : Cipher) (hb : c.blockSize ≠ 0) (iv : Bytes)
    (hiv : iv.length = c.blockSize) (x : Sentinel) (hx : SentinelWF x) (rest : Bytes) (cs : Stream)
    (hne : NoEmpty cs) (hcs : cs.flatten = sentinelWrite (some c) iv x ++ rest) :
    ∃ cs', sentinelRead (some c) cs = .ok (normSentinel x, cs') ∧
      cs'.flatten = xorAt (c.ks iv) (encSentinel x).length rest := by
  rw [sentinelWrite_cipher c hb, List.append_assoc] at hcs
  obtain ⟨ds, e, hds, hfl⟩ := sentinelRead_frame c hb hiv hne hcs
  -- what follows the IV decrypts to the description, then `rest` decrypted at its position
  rw [xorAt_append, xorAt_xorAt, xorAt_length, Nat.zero_add] at hfl
  exact e ▸ (reads_sentinel stream_lawful x hx.1 hx.2).stream _ ds hds hfl

/-- Without encryption (`c == nil` or block size 0). -/
theorem sentinel_file_roundtrip_plain (c : Option Cipher) (hc : ∀ c', c = some c' → c'.blockSize = 0)
    (iv : Bytes) (x : Sentinel) (hx : SentinelWF x) (rest : Bytes) (cs : Stream)
    (hne : NoEmpty cs) (hcs : cs.flatten = sentinelWrite c iv x ++ rest) :
    ∃ cs', sentinelRead c cs = .ok (normSentinel x, cs') ∧ cs'.flatten = rest := by
  have h := (reads_sentinel stream_lawful x hx.1 hx.2).stream rest cs hne
  cases c with
  | none => exact h hcs
  | some c' =>
    simp only [sentinelWrite, sentinelRead, hc c' rfl, if_true] at hcs ⊢
    exact h hcs

/-- The encrypted file is `blockSize` bytes, the IV, longer than the codec bytes. -/
theorem sentinel_file_length (c : Cipher) (hb : c.blockSize ≠ 0) (iv : Bytes)
    (hiv : iv.length = c.blockSize) (x : Sentinel) :
    (sentinelWrite (some c) iv x).length = c.blockSize + (encSentinel x).length := by
  rw [sentinelWrite_cipher c hb, List.length_append, xorAt_length, hiv]

/-! ### Tie: the hand-written models against the normalised source of the modelled functions -/

theorem tie_filter :
    Facts.c18_body_Filter_isEmpty =
      ["ret f.PID == 0 && f.Session == Empty && f.Elevated == Empty && len(f.Exclude) == 0 && len(f.Include) == 0"] ∧
    Facts.c18_body_Filter_MarshalStream =
      ["if f == nil || f.isEmpty() {", "ret w.WriteBool(false)", "}", "w.WriteBool(true)",
       "w.WriteUint32(f.PID)", "w.WriteBool(f.Fallback)", "w.WriteUint8(uint8(f.Session))",
       "w.WriteUint8(uint8(f.Elevated))", "data.WriteStringList(w, f.Exclude)",
       "ret data.WriteStringList(w, f.Include)"] ∧
    Facts.c18_body_Filter_unmarshalStream =
      ["r.ReadUint32(&f.PID)", "r.ReadBool(&f.Fallback)", "r.ReadUint8((*uint8)(&f.Session))",
       "r.ReadUint8((*uint8)(&f.Elevated))", "data.ReadStringList(r, &f.Exclude)",
       "ret data.ReadStringList(r, &f.Include)"] ∧
    Facts.c18_body_Filter_UnmarshalStream =
      ["v, err := r.Bool()", "if err != nil {", "ret err", "}", "if !v {", "ret nil", "}",
       "if f == nil {", "f = new(Filter)", "}", "ret f.unmarshalStream(r)"] ∧
    Facts.c18_body_filter_UnmarshalStream =
      ["v, err := r.Bool()", "if err != nil {", "ret err", "}", "if !v {", "ret nil", "}",
       "if *f == nil {", "*f = new(Filter)", "}", "ret (*f).unmarshalStream(r)"] ∧
    Facts.c18_fields_Filter = ["Exclude", "Include", "PID", "Fallback", "Session", "Elevated"] ∧
    Facts.c18_filterEmpty = 0 := by
  and_intros <;> rfl

theorem tie_sentinelPath :
    Facts.c18_body_sentinelPath_MarshalStream =
      ["w.WriteUint8(p.t)", "w.WriteString(p.path)", "if p.t < sentPathDownload {", "ret nil", "}",
       "ret data.WriteStringList(w, p.extra)"] ∧
    Facts.c18_body_sentinelPath_UnmarshalStream =
      ["r.ReadUint8(&p.t)", "r.ReadString(&p.path)", "if p.t < sentPathDownload {", "ret nil", "}",
       "ret data.ReadStringList(r, &p.extra)"] ∧
    Facts.c18_fields_sentinelPath = ["path", "extra", "t"] ∧
    Facts.c18_sentPathDownload ≤ Facts.c18_sentPathZombie ∧ Facts.c18_sentPathZombie < 256 :=
  ⟨rfl, rfl, rfl, by decide, by decide⟩

theorem tie_sentinel :
    Facts.c18_body_Sentinel_MarshalStream =
      ["s.Filter.MarshalStream(w)", "n := len(s.paths)", "if n > 0xFFFF {", "n = 0xFFFF", "}",
       "w.WriteUint16(uint16(n))", "for i := 0; i < n; i++ {", "s.paths[i].MarshalStream(w)", "}",
       "ret nil"] ∧
    Facts.c18_body_Sentinel_UnmarshalStream =
      ["s.Filter.UnmarshalStream(r)", "n, err := r.Uint16()", "if err != nil {", "ret err", "}",
       "s.paths = make([]sentinelPath, n)", "for i := uint16(0); i < n; i++ {",
       "s.paths[i].UnmarshalStream(r)", "}", "ret nil"] ∧
    Facts.c18_fields_Sentinel = ["paths", "Filter"] ∧ maxPaths = 0xFFFF := by
  and_intros <;> rfl

theorem tie_frame :
    Facts.c18_body_Sentinel_write = ["ret s.MarshalStream(data.NewWriter(w))"] ∧
    Facts.c18_body_Sentinel_read = ["ret s.UnmarshalStream(data.NewReader(r))"] ∧
    Facts.c18_body_Sentinel_Write =
      ["if c == nil || c.BlockSize() == 0 {", "ret s.write(w)", "}",
       "var ( k = make([]byte, c.BlockSize()) _, err = rand.Read(k) )", "if err != nil {", "ret err",
       "}", "n, err := w.Write(k)", "if err != nil {", "ret err", "}", "if n != c.BlockSize() {",
       "ret io.ErrShortWrite", "}", "o, err := crypto.NewBlockWriter(c, k, w)", "if err != nil {",
       "ret err", "}", "err = s.write(o)", "o.Close()", "ret err"] ∧
    Facts.c18_body_Sentinel_Read =
      ["if c == nil || c.BlockSize() == 0 {", "ret s.read(r)", "}",
       "var ( k = make([]byte, c.BlockSize()) n, err = io.ReadFull(r, k) )", "if err != nil {",
       "ret err", "}", "if n != c.BlockSize() {", "ret io.ErrUnexpectedEOF", "}",
       "i, err := crypto.NewBlockReader(c, k, r)", "if err != nil {", "ret err", "}",
       "err = s.read(i)", "i.Close()", "ret err"] := by
  and_intros <;> rfl

/-! ### Non-vacuity -/

/-- A non-trivial Process description (arguments, a non-empty filter, stdin) satisfies `WT` for
the schema extracted from the current source … -/
def sampleRec : Rec := fun n =>
  match n with
  | "Args" => .prim (.strs [[99, 109, 100], [47, 99]])
  | "Env" => .prim (.strs [])
  | "Dir" | "User" | "Domain" | "Pass" => .prim (.bytes [120])
  | "Stdin" | "Data" | "Path" => .prim (.bytes [1, 2, 3])
  | "Wait" | "Hide" => .prim (.bool true)
  | "Flags" => .prim (.u32 7)
  | "Timeout" => .prim (.u64 1000000000)
  | "Filter" => .filter (some ⟨[[97]], [], 4, true, 2, 0⟩)
  | _ => .prim (.bool false)

example : ∃ W, schemaOf Facts.c18_schema_Process_marshal = some W ∧ W.length = 12 ∧ WT W sampleRec :=
  ⟨_, rfl, by decide, by decide⟩

/-- … and the model really computes: the encoding of an Assembly description and its decoding. -/
example : ∃ W, schemaOf Facts.c18_schema_Assembly_marshal = some W ∧
    encS W sampleRec = [1, 0, 0, 0, 0, 59, 154, 202, 0, 1, 0, 0, 0, 4, 1, 2, 0, 1, 1, 1, 1, 97, 0, 1, 3, 1, 2, 3] ∧
    decS chunkPrim W (encS W sampleRec ++ [9]) = .ok (normRec W sampleRec, [9]) :=
  ⟨_, rfl, by decide, by rfl⟩

example : normPtr (some ⟨[], [], 0, true, 0, 0⟩) = none ∧ encFilter (some ⟨[], [], 0, true, 0, 0⟩) = [0] := by
  decide

example : encPath ⟨1, [97], [[98]]⟩ = [1, 1, 1, 97] ∧ encPath ⟨3, [97], [[98]]⟩ = [3, 1, 1, 97, 1, 1, 1, 1, 98] := by
  decide

/-- a constructible, well-formed launcher description and its file image under a toy keystream,
read back through three short reads (the first one shorter than the IV) -/
def sampleSentinel : Sentinel :=
  ⟨[⟨0, [42], []⟩, ⟨4, [97], [[98], []]⟩], ⟨[], [[99]], 0, false, 0, 2⟩⟩
def toyCipher : Cipher := ⟨2, fun iv i => UInt8.ofNat (iv.length + i)⟩

example : SentinelWF sampleSentinel ∧ Constructible sampleSentinel ∧
    sampleSentinel.paths.length ≤ maxPaths := by
  decide

example : sentinelWrite (some toyCipher) [7, 7] sampleSentinel =
    [7, 7, 3, 3, 4, 5, 6, 7, 8, 11, 10, 10, 13, 12, 15, 108, 16, 19, 18, 18, 21, 63, 18, 22, 25, 120,
     27, 25, 29, 28, 124, 31] := by decide

example : sentinelRead (some toyCipher) [[7], [7, 3], [3, 4, 5, 6, 7, 8, 11, 10, 10, 13, 12, 15, 108,
    16, 19, 18, 18, 21, 63, 18, 22, 25, 120, 27, 25, 29, 28, 124, 31]] = .ok (sampleSentinel, []) := by
  rfl

end XMT.Props.C18
