/-
  C01 — Packet wire format is lossless and self-delimiting; header fields are independent.
  Property theorems only. Models: XMT/Packet.lean (on XMT/Codec.lean and XMT/Chunk.lean),
  XMT/Flag.lean; lemmas: XMT/PacketLemmas.lean, XMT/PacketWire.lean, XMT/ChunkReadFrom.lean,
  XMT/FlagLemmas.lean, XMT/TieXlate.lean (the `src_*` theorems).
-/
import XMT.PacketWire
import XMT.FlagLemmas
import XMT.TieXlate
namespace XMT.Props.C01
open XMT.Codec XMT.Packet

variable (cf : Nat → Nat)

/-- read `n` packets one after the other from one stream -/
def unmarshalMany : Nat → Stream → Except PErr (List Packet.Packet × Stream)
  | 0, s => .ok ([], s)
  | n + 1, s =>
    match Packet.unmarshal cf s with
    | .error e => .error e
    | .ok (p, s) =>
      match unmarshalMany n s with
      | .error e => .error e
      | .ok (ps, s) => .ok (p :: ps, s)

/-- **Top-level wire form, lossless and exact**: any well-formed packet written with `Marshal` and
read back with `Unmarshal` is reproduced field for field and byte for byte, and reading consumes
exactly the bytes that writing produced — for every trailing data `rest`, every allocator behaviour
`cf` and **every** way the underlying stream splits the bytes into non-empty short reads. -/
theorem wire_roundtrip (p : Packet.Packet) (hp : WF p) (rest : Bytes) (s : Stream) (hne : NoEmpty s)
    (h : s.flatten = marshal p ++ rest) :
    ∃ s', Packet.unmarshal cf s = .ok (p, s') ∧ s'.flatten = rest :=
  forget_inv (unmarshal_marshal cf p hp rest s hne h)

/-- **Self-delimiting**: packets can be concatenated on one stream. -/
theorem wire_concat (ps : List Packet.Packet) (hp : ∀ p ∈ ps, WF p) (rest : Bytes) (s : Stream)
    (hne : NoEmpty s) (h : s.flatten = ps.flatMap marshal ++ rest) :
    ∃ s', unmarshalMany cf ps.length s = .ok (ps, s') ∧ s'.flatten = rest := by
  induction ps generalizing s with
  | nil => exact ⟨s, rfl, h⟩
  | cons p ps ih =>
    rw [List.flatMap_cons, List.append_assoc] at h
    obtain ⟨s1, e1, a1, i1⟩ := unmarshal_marshal cf p (hp p List.mem_cons_self) _ s hne h
    obtain ⟨s2, e2, a2⟩ := ih (fun q hq => hp q (List.mem_cons_of_mem _ hq)) s1 i1 a1
    exact ⟨s2, by simp [unmarshalMany, e1, e2], a2⟩

/-- the `Write` calls `Marshal` makes, concatenated, are the wire bytes (and `Marshal` succeeds on
well-formed packets) -/
theorem marshal_writes (p : Packet.Packet) (hp : WF p) :
    ∃ ws, marshalWrites p = .ok ws ∧ ws.flatten = marshal p := by
  have hnz : ¬ p.tags.any (· = 0) = true := by
    rw [List.any_eq_true]
    rintro ⟨t, ht, h0⟩
    have := (hp.tags t ht).1
    simp at h0; omega
  refine ⟨_, by rw [marshalWrites, if_neg (Nat.not_lt.mpr hp.ntags), if_neg hnz], ?_⟩
  simp [pieces_flatten, marshal, tagBytes, List.flatMap_def]

/-- **Nested stream form** (used inside batched packets), Chunk reader: lossless and exact. -/
theorem stream_roundtrip_chunk (p : Packet.Packet) (hp : WF p) (rest : Bytes) :
    unmarshalStream chunkPrim devReadChunk (marshalStream p ++ rest) = .ok (p, rest) :=
  unmarshalStream_chunk p hp rest

/-- Nested stream form, stream reader, for every chunking of the underlying reader. -/
theorem stream_roundtrip_stream (p : Packet.Packet) (hp : WF p) (rest : Bytes) (s : Stream)
    (hne : NoEmpty s) (h : s.flatten = marshalStream p ++ rest) :
    ∃ s', unmarshalStream streamPrim devReadStream s = .ok (p, s') ∧ s'.flatten = rest :=
  (unmarshalStream_ok stream_lawful devReadStream_lawful p hp).stream rest s hne h

/-! ### Header field independence (`com.Flag`) -/
open XMT.Flag

/-- `SetLen` sets the fragment count and changes nothing else, apart from marking the packet as a
fragment. -/
theorem setLen_fields (f n : Nat) (hn : n < 2^16) :
    len (setLen f n) = n ∧ position (setLen f n) = position f ∧ group (setLen f n) = group f ∧
    bits (setLen f n) = bits f ||| flagFrag ∧ setLen f n < 2^64 :=
  Flag.setLen_fields f n hn

theorem setPosition_fields (f n : Nat) (hn : n < 2^16) :
    position (setPosition f n) = n ∧ len (setPosition f n) = len f ∧
    group (setPosition f n) = group f ∧ bits (setPosition f n) = bits f ||| flagFrag ∧
    setPosition f n < 2^64 :=
  Flag.setPosition_fields f n hn

theorem setGroup_fields (f n : Nat) (hn : n < 2^16) (hf : f < 2^64) :
    group (setGroup f n) = n ∧ len (setGroup f n) = len f ∧
    position (setGroup f n) = position f ∧ bits (setGroup f n) = bits f ||| flagFrag ∧
    setGroup f n < 2^64 :=
  Flag.setGroup_fields f n hn hf

/-- `Clear` on a fragment drops the three fragment fields and the fragment mark and keeps the other
flag bits. -/
theorem clear_fields (f : Nat) (hfrag : bits f % 2 = 1) :
    len (clear f) = 0 ∧ position (clear f) = 0 ∧ group (clear f) = 0 ∧ clear f = bits f - flagFrag := by
  have hb := bits_lt f
  rw [clear_of_frag f hfrag, len_eq, position_eq, group_eq]
  refine ⟨?_, ?_, ?_, rfl⟩ <;> omega

/-- **The flag-bit operations leave the fragment fields alone**: `Flag.Set(n)` with a mask inside the
16 flag bits changes no fragment-count, -position or -group field and ors the mask into the flag
bits (it does not mark the packet as a fragment). -/
theorem flag_set_fields (f n : Nat) (hn : n < 2^16) :
    len (Flag.set f n) = len f ∧ position (Flag.set f n) = position f ∧ group (Flag.set f n) = group f ∧
    bits (Flag.set f n) = bits f ||| n := by
  obtain ⟨h1, h2, h3, h4⟩ := Flag.set_fields f n
  obtain ⟨n1, n2, n3, n4⟩ := fields_of_lt hn
  rw [h1, h2, h3, h4, n1, n2, n3, n4, Nat.or_zero, Nat.or_zero, Nat.or_zero]
  exact ⟨rfl, rfl, rfl, rfl⟩

/-- …and `Flag.Unset(n)` likewise: count, position and group are untouched, exactly the bits of the mask
that were set are cleared. -/
theorem flag_unset_fields (f n : Nat) (hn : n < 2^16) :
    len (unset f n) = len f ∧ position (unset f n) = position f ∧ group (unset f n) = group f ∧
    bits (unset f n) = bits f - (bits f &&& n) ∧ bits (unset f n) ≤ bits f := by
  obtain ⟨h1, h2, h3, h4⟩ := Flag.unset_fields f n
  obtain ⟨n1, n2, n3, n4⟩ := fields_of_lt hn
  rw [h1, h2, h3, h4, n1, n2, n3, n4, Nat.and_zero, Nat.and_zero, Nat.and_zero]
  exact ⟨rfl, rfl, rfl, rfl, Nat.sub_le _ _⟩

/-! Non-vacuity -/
def demo : Packet.Packet :=
  { id := 7, job := 513, flags := 0x0003000200010001, tags := [1, 0xFFFFFFFF],
    dev := 1 :: List.replicate 31 0, payload := [1, 2, 3] }
example : WF demo := by
  constructor <;> try decide
example : Packet.marshal demo = 1 :: List.replicate 31 0 ++
    [7, 2, 1, 0, 3, 0, 2, 0, 1, 0, 1, 0, 2, 1, 3, 0, 0, 0, 1, 255, 255, 255, 255, 1, 2, 3] := by decide
example : len (setLen 0x0003000200010001 5) = 5 ∧ position (setLen 0x0003000200010001 5) = 2 := by decide

/-! ### The same laws for the functions AS THE SOURCE HAS THEM NOW

`Facts.x_com_Flag_*` are regenerated on every run from the current `com/flag.go` by the Go→Lean
translator of the harness (`go/cmd/xmth/xlate.go`: Go's unsigned semantics written out naively, every
conversion / shift-left followed by `% 2^w`); `XMT/TieXlate.lean` proves each of them equal to the
hand-written model for all arguments. The field-independence laws are restated here for the
regenerated getters and setters: they are theorems about what the code says now, not about a model
that is only sampled against it. -/
section Src
open XMT.TieXlate

/-- `SetLen` of the current source: sets the count, keeps position, group and flag bits, only adds
`FlagFrag`; the result is a 64-bit word. -/
theorem src_setLen_fields (f n : Nat) (hn : n < 2^16) :
    Facts.x_com_Flag_Len (Facts.x_com_Flag_SetLen f n) = n ∧
    Facts.x_com_Flag_Position (Facts.x_com_Flag_SetLen f n) = Facts.x_com_Flag_Position f ∧
    Facts.x_com_Flag_Group (Facts.x_com_Flag_SetLen f n) = Facts.x_com_Flag_Group f ∧
    bits (Facts.x_com_Flag_SetLen f n) = bits f ||| Facts.flagFrag ∧ Facts.x_com_Flag_SetLen f n < 2^64 := by
  simp only [x_com_Flag_SetLen_eq, x_com_Flag_Len_eq, x_com_Flag_Position_eq, x_com_Flag_Group_eq]
  exact setLen_fields f n hn

/-- `SetPosition` of the current source. -/
theorem src_setPosition_fields (f n : Nat) (hn : n < 2^16) :
    Facts.x_com_Flag_Position (Facts.x_com_Flag_SetPosition f n) = n ∧
    Facts.x_com_Flag_Len (Facts.x_com_Flag_SetPosition f n) = Facts.x_com_Flag_Len f ∧
    Facts.x_com_Flag_Group (Facts.x_com_Flag_SetPosition f n) = Facts.x_com_Flag_Group f ∧
    bits (Facts.x_com_Flag_SetPosition f n) = bits f ||| Facts.flagFrag ∧
    Facts.x_com_Flag_SetPosition f n < 2^64 := by
  simp only [x_com_Flag_SetPosition_eq, x_com_Flag_Len_eq, x_com_Flag_Position_eq, x_com_Flag_Group_eq]
  exact setPosition_fields f n hn

/-- `SetGroup` of the current source (on a 64-bit word). -/
theorem src_setGroup_fields (f n : Nat) (hn : n < 2^16) (hf : f < 2^64) :
    Facts.x_com_Flag_Group (Facts.x_com_Flag_SetGroup f n) = n ∧
    Facts.x_com_Flag_Len (Facts.x_com_Flag_SetGroup f n) = Facts.x_com_Flag_Len f ∧
    Facts.x_com_Flag_Position (Facts.x_com_Flag_SetGroup f n) = Facts.x_com_Flag_Position f ∧
    bits (Facts.x_com_Flag_SetGroup f n) = bits f ||| Facts.flagFrag ∧
    Facts.x_com_Flag_SetGroup f n < 2^64 := by
  simp only [x_com_Flag_SetGroup_eq, x_com_Flag_Len_eq, x_com_Flag_Position_eq, x_com_Flag_Group_eq]
  exact setGroup_fields f n hn hf

/-- `Clear` of the current source, on a fragment: count, position and group become 0, the fragment
mark is dropped, the other flag bits stay. -/
theorem src_clear_fields (f : Nat) (hfrag : bits f % 2 = 1) :
    Facts.x_com_Flag_Len (Facts.x_com_Flag_Clear f) = 0 ∧ Facts.x_com_Flag_Position (Facts.x_com_Flag_Clear f) = 0 ∧
    Facts.x_com_Flag_Group (Facts.x_com_Flag_Clear f) = 0 ∧ Facts.x_com_Flag_Clear f = bits f - Facts.flagFrag := by
  simp only [x_com_Flag_Clear_eq, x_com_Flag_Len_eq, x_com_Flag_Position_eq, x_com_Flag_Group_eq]
  exact clear_fields f hfrag

/-- `Set` of the current source with a mask inside the 16 flag bits. -/
theorem src_flag_set_fields (f n : Nat) (hn : n < 2^16) :
    Facts.x_com_Flag_Len (Facts.x_com_Flag_Set f n) = Facts.x_com_Flag_Len f ∧
    Facts.x_com_Flag_Position (Facts.x_com_Flag_Set f n) = Facts.x_com_Flag_Position f ∧
    Facts.x_com_Flag_Group (Facts.x_com_Flag_Set f n) = Facts.x_com_Flag_Group f ∧
    bits (Facts.x_com_Flag_Set f n) = bits f ||| n := by
  simp only [x_com_Flag_Set_eq, x_com_Flag_Len_eq, x_com_Flag_Position_eq, x_com_Flag_Group_eq]
  exact flag_set_fields f n hn

/-- `Unset` of the current source (`*f &^ n`, on a 64-bit word) with a mask inside the 16 flag bits. -/
theorem src_flag_unset_fields (f n : Nat) (hn : n < 2^16) (hf : f < 2^64) :
    Facts.x_com_Flag_Len (Facts.x_com_Flag_Unset f n) = Facts.x_com_Flag_Len f ∧
    Facts.x_com_Flag_Position (Facts.x_com_Flag_Unset f n) = Facts.x_com_Flag_Position f ∧
    Facts.x_com_Flag_Group (Facts.x_com_Flag_Unset f n) = Facts.x_com_Flag_Group f ∧
    bits (Facts.x_com_Flag_Unset f n) = bits f - (bits f &&& n) ∧ bits (Facts.x_com_Flag_Unset f n) ≤ bits f := by
  simp only [x_com_Flag_Unset_eq f n hf, x_com_Flag_Len_eq, x_com_Flag_Position_eq, x_com_Flag_Group_eq]
  exact flag_unset_fields f n hn

/-- **The hand-written model of `com/flag.go` IS the current source**, function by function, for every
64-bit word and every argument (the statement the differential run only samples). -/
theorem src_flag_model (f n : Nat) (hf : f < 2^64) :
    Facts.x_com_Flag_Len f = len f ∧ Facts.x_com_Flag_Position f = position f ∧ Facts.x_com_Flag_Group f = group f ∧
    Facts.x_com_Flag_SetLen f n = setLen f n ∧ Facts.x_com_Flag_SetPosition f n = setPosition f n ∧
    Facts.x_com_Flag_SetGroup f n = setGroup f n ∧ Facts.x_com_Flag_Clear f = clear f ∧
    Facts.x_com_Flag_Set f n = Flag.set f n ∧ Facts.x_com_Flag_Unset f n = unset f n :=
  ⟨x_com_Flag_Len_eq f, x_com_Flag_Position_eq f, x_com_Flag_Group_eq f, x_com_Flag_SetLen_eq f n,
   x_com_Flag_SetPosition_eq f n, x_com_Flag_SetGroup_eq f n, x_com_Flag_Clear_eq f, x_com_Flag_Set_eq f n,
   x_com_Flag_Unset_eq f n hf⟩

/-! Non-vacuity: the regenerated functions compute (kernel evaluation), the hypotheses are met. -/
example : Facts.x_com_Flag_SetLen 0x0003000200010001 5 = 0x0005000200010001 := by decide
example : Facts.x_com_Flag_SetGroup 0x0003000200010008 0xFFFF = 0x00030002FFFF0009 := by decide
example : Facts.x_com_Flag_Clear 0x0003000200010009 = 8 ∧ bits 0x0003000200010009 % 2 = 1 := by decide
example : Facts.x_com_Flag_Unset 0xFFFFFFFFFFFFFFFF 0x8000 = 0xFFFFFFFFFFFF7FFF ∧ (0x8000 : Nat) < 2^16 ∧
    (0xFFFFFFFFFFFFFFFF : Nat) < 2^64 := by decide
example : Facts.x_com_Flag_SetPosition_src = "*f = Flag(f.Len())<<48 | Flag(n)<<32 | Flag(uint32(*f)) | FlagFrag" := by decide
end Src

end XMT.Props.C01
