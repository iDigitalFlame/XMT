/-
  C11 — The packet buffer behaves like a FIFO byte queue and never exceeds its limit.
  Property theorems only; the model is XMT/Chunk.lean with the op language of XMT/ChunkSeq.lean, the
  exact clauses for Seek / positional writes are in XMT/ChunkExact.lean, `room` / `refused` in
  XMT/ChunkRoom.lean, the panic-outcome model in XMT/ChunkPanic.lean and XMT/ChunkPanicGrow.lean, the
  method census in XMT/ChunkCensus.lean; lemmas are in XMT/ChunkLemmas.lean, XMT/ChunkOps.lean,
  XMT/ChunkReadFrom.lean.  All theorems hold for every allocator capacity function `cf` (Go's size
  classes are only used by the driver).

  Scope notes:
  * `QStep` says nothing for `seek` / positional writes beyond the invariant (`step_refines`); their
    effect on the bytes is `SeekX` / `PosX` inside `VStep` (`step_refines_exact`).
  * `write_exact` allows "accept nothing and report the limit" whenever a limit is set; the exact count
    is `write_count_exact`.  The code does refuse a write that does not fit the room left by UNREAD +
    READ bytes (`w40 r5 w3` under limit 40): the limit counts the buffer, not the queue, while the
    request fits the spare capacity; once `grow` slides or reallocates, the read bytes are reclaimed
    (`room`).
  * "no operation panics" is `no_op_panics` (every direct index / reslice of `c.buf` in the exported
    methods), `reservation_never_panics`, `observers_never_panic`, `neg_guard_needed`; WriteTo, Bytes(),
    ReadFrom / ReadDeadline are not in the panic-outcome model.
-/
import XMT.ChunkSeq
import XMT.ChunkReadFrom
import XMT.ChunkRoom
import XMT.ChunkExact
import XMT.ChunkPanic
import XMT.ChunkPanicGrow
import XMT.ChunkCensus
namespace XMT.Props.C11
open XMT.Chunk XMT.Chunk.Chunk

variable (cf : Nat → Nat)

/-- Every operation keeps the representation invariant and the limit setting, and moves the queue
of unread bytes exactly as the byte-queue model `QStep` says. -/
theorem step_refines (c : Chunk) (op : Op) (hb : ∀ p b, op = .pos p b → 0 < b.length) (h : c.Inv) :
    (step cf c op).1.Inv ∧ (step cf c op).1.limit = c.limit ∧
    QStep c.unread op (step cf c op).2 (step cf c op).1.unread := by
  cases op with
  | write b =>
    obtain ⟨h1, h2, h3, h4, h5, _⟩ := write_spec h (rfl : write cf c b = _)
    exact ⟨h1, h2, h3, h4, h5⟩
  | read k => exact read_spec c k h
  | fixed b => exact writeFixed_spec cf c b h
  | bytes b => exact writeBytes_spec cf c b h
  | readFixed k =>
    obtain ⟨h1, h2, h3⟩ := readFixed_spec c k h
    refine ⟨h1, h2, ?_⟩
    simp only [step]
    rcases h3 with ⟨a1, a2, a3⟩ | ⟨a1, a2, a3⟩ <;> rw [a2]
    · exact Or.inl ⟨a1, rfl, rfl, a3⟩
    · exact Or.inr ⟨a1, rfl, by rw [a3]⟩
  | truncate n => exact truncate_spec c n h
  | grow n => exact growOp_spec cf c n h
  | seek o w => exact ⟨(seek_spec c o w h).1, (seek_spec c o w h).2.1, trivial⟩
  | pos p b => exact ⟨(writePos_spec c p b (hb p b rfl) h).1, (writePos_spec c p b (hb p b rfl) h).2.1, trivial⟩
  | reset => exact reset_spec c h
  | clear => exact clear_spec c

/-- Positional writes have at least one byte (the Go methods write 1, 2, 4 or 8). -/
def OpsOK (ops : List Op) : Prop := ∀ op ∈ ops, ∀ p b, op = .pos p b → 0 < b.length

/-- **Limit**: from an empty buffer with limit `L`, after *any* sequence of operations the
invariant holds; in particular the buffer never holds more than the limit. -/
theorem never_exceeds_limit (L : Int) (ops : List Op) (hops : OpsOK ops) :
    (run cf (empty L) ops).1.Inv ∧ (L > 0 → ((run cf (empty L) ops).1.size : Int) ≤ L) := by
  have key : ∀ (ops : List Op) (c : Chunk), OpsOK ops → c.Inv → c.limit = L →
      (run cf c ops).1.Inv ∧ (run cf c ops).1.limit = L := by
    intro ops
    induction ops with
    | nil => intro c _ h hl; exact ⟨h, hl⟩
    | cons op ops ih =>
      intro c ho h hl
      obtain ⟨h1, h2, _⟩ := step_refines cf c op (ho op List.mem_cons_self) h
      exact ih _ (fun o hm => ho o (List.mem_cons_of_mem _ hm)) h1 (by rw [h2, hl])
  obtain ⟨h1, h2⟩ := key ops (empty L) hops (inv_empty L) rfl
  exact ⟨h1, fun hp => by have := h1.lim (by rw [h2]; exact hp); rw [h2] at this; exact this⟩

/-- Write/read operations only. -/
def IsRW : Op → Bool
  | .write _ | .read _ => true
  | _ => false

/-- bytes accepted by the writes / returned by the reads of a run -/
def accepted : List Op → List Out → Bytes
  | .write b :: ops, .wrote n _ :: outs => b.take n ++ accepted ops outs
  | _ :: ops, _ :: outs => accepted ops outs
  | _, _ => []
def returned : List Out → Bytes
  | .got g _ :: outs => g ++ returned outs
  | _ :: outs => returned outs
  | [] => []

/-- **FIFO**: for any interleaving of writes and reads, what the reads returned followed by what
is still unread is exactly what the writes accepted, in order — the bytes read are the bytes
written. -/
theorem fifo (c : Chunk) (h : c.Inv) (ops : List Op) (hrw : ∀ op ∈ ops, IsRW op = true) :
    c.unread ++ accepted ops (run cf c ops).2 =
      returned (run cf c ops).2 ++ (run cf c ops).1.unread := by
  induction ops generalizing c with
  | nil => simp [run, accepted, returned]
  | cons op ops ih =>
    have hop := hrw op List.mem_cons_self
    have hrest : ∀ o ∈ ops, IsRW o = true := fun o hm => hrw o (List.mem_cons_of_mem _ hm)
    cases op with
    | write b =>
      rcases hr : write cf c b with ⟨c1, n, e⟩
      obtain ⟨h1, _, _, h3, _⟩ := write_spec h hr
      simp only [run, step, hr, accepted, returned]
      rw [← ih c1 h1 hrest, h3, List.append_assoc]
    | read k =>
      obtain ⟨h1, _, h3, h4⟩ := read_spec c k h
      simp only [run, step, accepted, returned]
      rw [List.append_assoc, ← ih _ h1 hrest, h3, h4, ← List.append_assoc, List.take_append_drop]
    | _ => cases hop

/-- **Exact counts**: a write reports exactly how many bytes it accepted; it accepts everything
unless it reports an error, and a limit error is only ever reported when a limit is set. -/
theorem write_exact (c : Chunk) (b : Bytes) (h : c.Inv) (c' : Chunk) (n : Nat) (e : Option Err)
    (hw : write cf c b = (c', n, e)) :
    n ≤ b.length ∧ c'.unread = c.unread ++ b.take n ∧
    (e = none → n = b.length) ∧ (e = some .limit → c.limit > 0) :=
  (write_spec h hw).2.2

/-- **No panic in a positional write**: the only indexing a positional write does happens on the
branch that returns no error, and there every index the Go code uses (`c.buf[p] … c.buf[p+k]`) lies
inside the slice. The branches that refuse are covered by `pos_negative_refused` (a negative position:
`ErrInvalidIndex`, the chunk untouched — before the repair the Go code indexed `c.buf[p]` and
panicked) and by the `eof` / `limit` returns of `writePos`, which index nothing. -/
theorem pos_in_bounds (c : Chunk) (p : Int) (b : Bytes) (hb : 0 < b.length) (h : c.Inv)
    (c' : Chunk) (hok : writePos c p b = (c', none)) : 0 ≤ p ∧ p.toNat + b.length ≤ c.len :=
  by
  rw [writePos_eq c p b hb h] at hok
  split at hok
  · cases hok
  · split at hok
    · cases hok
    · omega

/-- a negative position is refused before anything is indexed; the chunk is untouched -/
theorem pos_negative_refused (c : Chunk) (p : Int) (b : Bytes) (hp : p < 0) :
    writePos c p b = (c, some .invalidIndex) := by
  unfold writePos
  simp [hp]

/-- **`ReadFrom` under a limit reads exactly up to the limit** (this is what `Packet.readBody`
relies on, C01): for every limit `0 < L ≤ MaxSlice`, every chunk at cursor 0, every stream and every
way it is split into non-empty short reads, with `k = min (room under the limit) (bytes available)`
exactly `k` bytes are appended, `k` is the count reported, the stream is advanced by exactly `k`
bytes and the chunk holds at most `L` bytes. -/
theorem readFrom_reads_up_to_limit (L : Int) (hL : 0 < L) (hLm : L ≤ Facts.maxSlice) (c : Chunk)
    (s : Codec.Stream) (h : c.Inv) (hl : c.limit = L) (hr : c.rpos = 0) (hne : Codec.NoEmpty s) :
    ∃ c' s', c.readFrom cf s = (c', min (L.toNat - c.len) s.flatten.length, s') ∧ c'.Inv ∧
      c'.unread = c.unread ++ s.flatten.take (min (L.toNat - c.len) s.flatten.length) ∧
      s'.flatten = s.flatten.drop (min (L.toNat - c.len) s.flatten.length) ∧ (c'.len : Int) ≤ L := by
  obtain ⟨c', s', e, i, l, _, u, _, f, _⟩ := readFrom_spec cf hL hLm h hl hr hne
  refine ⟨c', s', e, i, u, f, ?_⟩
  have := i.lim (by rw [l]; exact hL); rw [l] at this; exact this

/-! Non-vacuity: the op sequence on which `grow` exceeded the limit before its repair (limit 10: w5 w5
r5 w100 held 15 bytes); the model keeps it within the limit and accepts exactly 5 bytes. -/
example : OpsOK [.write [1,2,3,4,5], .write [1,2,3,4,5], .read 5, .write (List.replicate 100 9)] := by
  intro op hm p b hp; subst hp; simp at hm
example :
    let r := run (fun n => n) (empty 10) [.write [1,2,3,4,5], .write [6,7,8,9,10], .read 5,
      .write (List.replicate 100 9)]
    r.1.size = 10 ∧ r.1.unread = [6,7,8,9,10,9,9,9,9,9] := by decide

/-- **Seek, exactly** (all three whence values, out-of-range targets): the retained bytes never change;
with `aim = o` (whence 0), `o + cursor` (1), `o + len` (2) the cursor becomes `aim` and `aim` is
returned iff `whence ≤ 2 ∧ 0 ≤ aim ≤ len`; a whence above 2 is the whence error, any other target
`ErrInvalidIndex`, both with result 0 and nothing changed. -/
theorem seek_exact (c : Chunk) (o : Int) (w : Nat) (h : c.Inv) :
    SeekX c.view c.rpos o w (c.seek o w).2.1 (c.seek o w).2.2 (c.seek o w).1.view (c.seek o w).1.rpos :=
  Chunk.seek_exact c o w h

/-- **Seek then Read**: after a successful `Seek` to offset `t`, `Read(k)` returns the retained bytes
`[t, t+k)` (as far as they exist) — bytes that were read before are readable again. -/
theorem seek_then_read (c : Chunk) (o : Int) (w : Nat) (k : Nat) (h : c.Inv)
    (hok : (c.seek o w).2.2 = none) :
    ((c.seek o w).1.read k).2.1 = (c.view.drop (c.seek o w).2.1.toNat).take k := by
  obtain ⟨hv, hcase⟩ := Chunk.seek_exact c o w h
  rw [(read_spec _ k (seek_spec c o w h).1).2.2.1]
  rw [unread_eq_view_drop, hv]
  rcases hcase with ⟨_, _, _, _, ht, hrr⟩ | ⟨_, he, _⟩ | ⟨_, _, he, _⟩
  · rw [show (c.seek o w).2.1.toNat = (c.seek o w).1.rpos by omega]
  · rw [hok] at he; cases he
  · rw [hok] at he; cases he

/-- **Positional writes, exactly** (WriteBoolPos, WriteUint8Pos, WriteUint16Pos, WriteUint32Pos,
WriteUint64Pos; `b` = the big-endian image of the value, 1/2/4/8 bytes): the cursor and the length
never change; the error is `ErrInvalidIndex` exactly for `p < 0`, `io.EOF` exactly when
`p + |b| > len`, and otherwise there is no error and the retained bytes become
`v[..p] ++ b ++ v[p+|b|..]`. (`ErrLimit` cannot be returned while `len ≤ Limit`.) -/
theorem pos_write_exact (c : Chunk) (p : Int) (b : Bytes) (hb : 0 < b.length) (h : c.Inv) :
    PosX c.view c.rpos p b (c.writePos p b).2 (c.writePos p b).1.view (c.writePos p b).1.rpos :=
  Chunk.pos_exact c p b hb h

/-- element-wise form of `pos_write_exact`: after a successful positional write every retained byte
outside `[p, p+|b|)` is unchanged and the bytes inside are the image; the number of unread bytes is
unchanged whatever the outcome. -/
theorem pos_write_bytes (c : Chunk) (p : Int) (b : Bytes) (hb : 0 < b.length) (h : c.Inv) :
    (c.writePos p b).1.unread.length = c.unread.length ∧
    ((c.writePos p b).2 = none → ∀ i : Nat,
      (c.writePos p b).1.view[i]? =
        if i < p.toNat then c.view[i]? else if i < p.toNat + b.length then b[i - p.toNat]? else c.view[i]?) ∧
    ((c.writePos p b).2 ≠ none → (c.writePos p b).1 = c) := by
  obtain ⟨hr, hl, hx⟩ := Chunk.pos_exact c p b hb h
  refine ⟨?_, fun hn i => ?_, fun hn => ?_⟩
  · rw [unread_eq_view_drop, unread_eq_view_drop, List.length_drop, List.length_drop, hr, hl]
  · rcases hx with ⟨_, hp, _, hv⟩ | ⟨_, he, _⟩ | ⟨_, _, he, _⟩
    · rw [hv]; exact splice_get c.view b p.toNat hp i
    · rw [hn] at he; cases he
    · rw [hn] at he; cases he
  · rw [writePos_eq c p b hb h] at hn ⊢
    split
    · rfl
    · split
      · rfl
      · rw [if_neg ‹_›, if_neg ‹_›] at hn; exact absurd rfl hn

/-- **Every operation, exactly**: the refinement of `step_refines` with the exact clauses for `seek`
and positional writes (`VStep` on retained bytes + cursor; `QStep` on the queue for all others). -/
theorem step_refines_exact (c : Chunk) (op : Op) (hb : ∀ p b, op = .pos p b → 0 < b.length) (h : c.Inv) :
    (step cf c op).1.Inv ∧ (step cf c op).1.limit = c.limit ∧
    VStep c.view c.rpos op (step cf c op).2 (step cf c op).1.view (step cf c op).1.rpos := by
  obtain ⟨h1, h2, h3⟩ := step_refines cf c op hb h
  refine ⟨h1, h2, ?_⟩
  cases op with
  | seek o w => exact Chunk.seek_exact c o w h
  | pos p b => exact Chunk.pos_exact c p b (hb p b rfl) h
  | _ => exact h3

/-- **Exact acceptance count of `Write`**: for every state satisfying
the invariant and sizes below `max int` / `MaxSlice` (`NoHuge`: no `ErrTooLarge`), `Write(b)` accepts
all of `b` without a limit, and under a limit exactly `n = min |b| (room c |b|)` bytes, `room` being
what the code leaves under `Limit` in that state (XMT/ChunkRoom.lean); the only error is `ErrLimit`,
returned exactly when not everything was accepted or the request was `refused`. -/
theorem write_count_exact (c : Chunk) (b : Bytes) (h : c.Inv) (hh : NoHuge c b.length)
    (c' : Chunk) (n : Nat) (e : Option Err) (hw : write cf c b = (c', n, e)) :
    c'.unread = c.unread ++ b.take n ∧
    (c.limit ≤ 0 → n = b.length ∧ e = none) ∧
    (c.limit > 0 → n = min b.length (room c b.length) ∧
      (e = some .limit ↔ n < b.length ∨ refused c b.length) ∧ (e = none ∨ e = some .limit)) :=
  ⟨(write_spec h hw).2.2.2.1, write_count h hh hw⟩

/-- for a non-empty `b`: **`ErrLimit` iff fewer than `|b|` bytes were accepted.** -/
theorem write_limit_iff_short (c : Chunk) (b : Bytes) (hb : 0 < b.length) (h : c.Inv)
    (hh : NoHuge c b.length) (hl : c.limit > 0) (c' : Chunk) (n : Nat) (e : Option Err)
    (hw : write cf c b = (c', n, e)) : e = some .limit ↔ n < b.length := by
  obtain ⟨hn, hi, _⟩ := (write_count h hh hw).2 hl
  rw [hi]
  refine ⟨fun hor => ?_, Or.inl⟩
  rcases hor with h1 | h1
  · exact h1
  · rw [hn, room_refused c b.length h1]; omega

/-- a request that fits under the limit counting the WHOLE buffer is accepted completely -/
theorem write_fits_accepted (c : Chunk) (b : Bytes) (h : c.Inv) (hh : NoHuge c b.length)
    (hl : c.limit > 0) (hfit : (c.len : Int) + b.length ≤ c.limit) (hb : 0 < b.length)
    (c' : Chunk) (n : Nat) (e : Option Err) (hw : write cf c b = (c', n, e)) : n = b.length ∧ e = none := by
  obtain ⟨hn, hi, hor⟩ := (write_count h hh hw).2 hl
  obtain ⟨hnr, hroom⟩ := fits_room c b.length hfit hb
  refine ⟨by omega, ?_⟩
  rcases hor with h0 | h0
  · exact h0
  · rcases hi.1 h0 with h1 | h1
    · omega
    · exact absurd h1 hnr

/-- The plain "`ErrLimit` iff `n < |b|`" is FALSE for the empty write: on a full, unread chunk
(`Limit` 5 holding 5 bytes) `Write(nil)` accepts 0 of 0 bytes and still reports `ErrLimit`
(`grow`: `x >= c.Limit`).  Reproduced on the real code by the harness group `exact` (corpus case). -/
theorem write_empty_on_full_reports_limit :
    ((run (fun n => n) (empty 5) [.write [1,2,3,4,5]]).1.write (fun n => n) []).2 = (0, some .limit) := by
  decide

/-- **No operation panics**: from any state satisfying the invariant, every operation sequence (typed
widths ≥ 1 byte) runs through the panic-outcome model `runP` (XMT/ChunkPanic.lean: every direct index /
reslice of `c.buf` in the exported methods is a bounds check that may panic) without a panic, and
yields exactly the results of the total model. -/
theorem no_op_panics (c : Chunk) (h : c.Inv) (ops : List Op) (hops : ∀ op ∈ ops, OpOKP op) :
    runP cf c ops = .ok (run cf c ops) := by
  induction ops generalizing c with
  | nil => rfl
  | cons op ops ih =>
    have ho := hops op List.mem_cons_self
    have h1 := (step_refines cf c op ho.1 h).1
    have := ih (step cf c op).1 h1 (fun o hm => hops o (List.mem_cons_of_mem _ hm))
    simp only [runP, run, stepP_ok cf c op ho h, PRes.ok_bind, this]
    rfl

/-- **The reservation code does not panic either** (XMT/ChunkPanicGrow.lean: `reslice`, `grow` with its
rewind / slide / reallocation reslices, `quickSlice`, `checkWriteSize`, and `WriteBytes` with its header
indexing and roll-back, every index and reslice of the source as a bounds check): from a state
satisfying the invariant each of them returns exactly what the total model returns, so `no_op_panics`
loses nothing by reserving through the total functions; the reslice of `reslice` is in range in EVERY
state (its own capacity test suffices). -/
theorem reservation_never_panics (c : Chunk) (h : c.Inv) (n : Nat) (b : Bytes) :
    growP cf c n = .ok (grow cf c n) ∧ quickSliceP cf c n = .ok (quickSlice cf c n) ∧
    checkWriteSizeP cf c n = .ok (checkWriteSize cf c n) ∧ writeBytesP cf c b = .ok (writeBytes cf c b) ∧
    (∀ (c' : Chunk) (k : Nat), resliceP c' k = .ok (reslice c' k)) :=
  ⟨growP_ok cf c n h, quickSliceP_ok cf c n h, checkWriteSizeP_ok cf c n h, writeBytesP_ok cf c b h,
    resliceP_ok⟩

-- the guards of the reservation model can fail: a cursor beyond the length (outside `Inv`) makes the
-- reallocation of `grow` panic at `trySlice(c.buf[c.rpos:], …)`
example : (growP (fun n => n) { arr := [1], len := 1, rpos := 2, limit := 0, isNil := false } 1).isPanic = true := by
  decide

/-- the observers that index `c.buf` (Payload, String, MarshalStream's argument) do not panic either -/
theorem observers_never_panic (c : Chunk) (h : c.Inv) :
    (payloadP c).isPanic = false ∧ (stringP c).isPanic = false ∧ marshalArgP c = .ok c.unread :=
  ⟨by rw [payloadP_ok c h]; rfl, by rw [stringP_ok c]; rfl, marshalArgP_ok c h⟩

/-- **The negative-position guard (fix 6edbaf9) is needed and sufficient**: without it a positional
write at `p = -1` on a non-empty chunk indexes `c.buf[-1]` and panics; with it the same call returns
`ErrInvalidIndex` and leaves the chunk untouched; and with the guard NO positional write panics, in
any state whatsoever (the position checks alone keep every index inside the slice). -/
theorem neg_guard_needed :
    (∃ c : Chunk, c.Inv ∧ (writePosP false c (-1) [7]).isPanic = true ∧
      writePosP true c (-1) [7] = .ok (c, some .invalidIndex)) ∧
    (∀ (c : Chunk) (p : Int) (b : Bytes), 0 < b.length → writePosP true c p b = .ok (c.writePos p b)) :=
  ⟨⟨ofBytes [1, 2, 3], inv_ofBytes _, by decide, by decide⟩, fun c p b hb => writePosP_ok c p b hb⟩

/-- **Method census** (regenerated from the source by go/parser on every run): every exported method
of `*data.Chunk` in the files compiled here is either in the model's op table or in the explicit
"not modelled, because …" list, and neither list names a method that does not exist — a new method
cannot appear unnoticed.  The positional writers are exactly the five modelled ones and each of them
starts with the `if p < 0 { return ErrInvalidIndex }` guard. -/
theorem method_census :
    Facts.c11_chunkMethods.all (fun m => Census.modelled.any (·.1 == m) || Census.notModelled.any (·.1 == m)) = true ∧
    (Census.modelled ++ Census.notModelled).all (fun p => Facts.c11_chunkMethods.contains p.1) = true ∧
    Facts.c11_posWriters = ["WriteBoolPos", "WriteUint16Pos", "WriteUint32Pos", "WriteUint64Pos", "WriteUint8Pos"] ∧
    Facts.c11_posGuardNeg = 5 := by
  -- the kernel alone compares the tables; the elaborator's own run of `decide` would do it a second time
  decide +kernel

example : (ofBytes [1, 2, 3, 4]).Inv ∧ NoHuge (ofBytes [1, 2, 3, 4]) 3 := by
  refine ⟨inv_ofBytes _, ?_, ?_⟩
  · simp [Chunk.cap, ofBytes, maxInt]
  · simp [ofBytes, Facts.maxSlice]
-- seek: whence 2 (from the end), then a 2-byte positional write, then read: exact bytes
example :
    let r := run (fun n => n) (ofBytes [1, 2, 3, 4]) [.read 3, .seek (-3) 2, .pos 2 (be16 0xAABB), .read 9]
    r.2.length = 4 ∧ r.1.view = [1, 2, 0xAA, 0xBB] := by decide
-- room: limit 40, 40 written, 5 read: a 3-byte write is refused although 5 bytes were read …
example : refused (run (fun n => max n 64) (empty 40) [.write (List.replicate 40 1), .read 5]).1 3 := by decide
-- … while limit 100, w60 r50 w30 reclaims the read bytes (room 90 > Limit - len = 40)
set_option maxRecDepth 8000 in
example : room (run (fun n => max n 64) (empty 100) [.write (List.replicate 60 1), .read 50]).1 30 = 90 := by decide
example : OpOKP (.pos 2 (be16 7)) :=
  ⟨fun p b h => by cases h; decide, ⟨fun b h => Op.noConfusion h, fun k h => Op.noConfusion h⟩⟩

end XMT.Props.C11
