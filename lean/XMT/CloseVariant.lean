/-
  XMT.CloseVariant — the variant behind "close returns" (C16): once the Closing flag is set, every
  enabled atomic action strictly decreases `measure` (`var_act`), the flag is never cleared
  (`act_closing`), hence a closing Session executes at most `measure` further actions under any
  schedule (`measure_run_add_effSteps_le`, which also keeps what the state after the schedule still has;
  `effSteps_le_measure`). The property theorems are in XMT/Props/C16.lean.

  `Moves s t k s'` is what the variant needs of an action of thread `t` at pc `k`; `act_moves` is the
  table of the model read off action by action: the successor pcs of every pc, each of smaller `rank`.

  How `measure = 2 * Σ rank + delReq` is made: `rank b pc` bounds the actions a thread at `pc` still has
  to execute in a closing Session, so it drops by at least one along every edge such a Session takes.
  The factor 2 pays for the two actions that ADD a removal request while moving on (4 and 51:
  rank −1, delReq +1); 92 consumes a request and stays where it is. The listen pcs 64–66 have two
  ranks: with the Shutdown flag up the next turn enters shutdown, with it down one more round
  through 60–63 is possible, and 63 is where the flag goes up (by `rank_mono` no other thread's rank
  grows when it does). The edge 61 → 64 would go up; a Session whose Closing flag is set does not
  take it (`act_moves`, case 61).
-/
import XMT.Close
namespace XMT.Close

variable {cfg : Cfg} {n : Nat} {s s' : St} {t k : Nat}

theorem rank_mono (pc : Nat) : rank true pc ≤ rank false pc := by
  unfold rank
  split <;> first | exact Nat.le_refl _ | decide

theorem rank_le {b b' : Bool} (h : b = true → b' = true) (pc : Nat) : rank b' pc ≤ rank b pc := by
  cases b <;> cases b'
  · exact Nat.le_refl _
  · exact rank_mono pc
  · cases h rfl
  · exact Nat.le_refl _

theorem rank_fin_lt {b : Bool} {m : Nat} (h : m < rank b k) : rank b fin < rank b k :=
  Nat.lt_of_le_of_lt (Nat.zero_le m) h

/-- if no other thread's term grows, the sum changes by at most what the term of thread `t` changes -/
theorem sumRank_le {b b' : Bool} {loc loc' : Nat → Loc}
    (h : ∀ u, u ≠ t → rank b' (loc' u).pc ≤ rank b (loc u).pc) (n : Nat) :
    (n ≤ t → sumRank b' loc' n ≤ sumRank b loc n) ∧
    (t < n → sumRank b' loc' n + rank b (loc t).pc ≤ sumRank b loc n + rank b' (loc' t).pc) := by
  induction n with
  | zero => exact ⟨fun _ => Nat.le_refl _, fun h => absurd h (Nat.not_lt_zero _)⟩
  | succ k ih =>
    unfold sumRank
    by_cases hk : k = t
    · subst hk; omega
    · have := h k hk; omega

/-- An action of thread `t`, at pc `k`, as the variant sees it: the other threads stay where they are,
nobody's return address changes, the Shutdown flag is not cleared, and twice the rank of `t` plus the
pending removal requests goes down. -/
structure Moves (s : St) (t k : Nat) (s' : St) : Prop where
  others : ∀ u, u ≠ t → s'.loc u = s.loc u
  cont : ∀ u, (s'.loc u).cont = (s.loc u).cont
  shutdown : s.shutdown = true → s'.shutdown = true
  lt : 2 * rank s'.shutdown (s'.loc t).pc + s'.delReq < 2 * rank s.shutdown k + s.delReq

theorem Moves.measure_lt (m : Moves s t (s.loc t).pc s') (ht : t < n) : measure n s' < measure n s := by
  have := (sumRank_le (loc := s.loc) (loc' := s'.loc)
    (fun u hu => by rw [m.others u hu]; exact rank_le m.shutdown _) n).2 ht
  have := m.lt
  unfold measure
  omega

/-- of what `measure` reads, `s'` differs from `s` by at most one more removal request -/
structure Agree (s s' : St) : Prop where
  loc : s'.loc = s.loc
  shutdown : s'.shutdown = s.shutdown
  delReq : s'.delReq ≤ s.delReq + 1

variable {l : Loc} {c : Prop} [Decidable c] {x y : St}

/- Every action ends in `setLoc s' t l` (through `goto`, `finish`, `die`, `enterSd`), `s'` being `s` with
some shared fields written and `l` the location of `t` with its new pc `k'`. The side conditions that
hold by unfolding are default arguments. -/

theorem Moves.setLoc (k' : Nat) (h : 2 * rank s'.shutdown k' + s'.delReq < 2 * rank s.shutdown k + s.delReq)
    (hb : s.shutdown = true → s'.shutdown = true := by exact id) (hl : l.pc = k' := by rfl)
    (hc : l.cont = (s'.loc t).cont := by rfl) (hloc : s'.loc = s.loc := by rfl) :
    Moves s t k (setLoc s' t l) := by
  refine ⟨fun u hu => ?_, ?_, hb, ?_⟩
  · rw [setLoc_loc_other _ _ hu, hloc]
  · exact forall_setLoc (P := fun u l => l.cont = (s.loc u).cont) (fun u _ => by rw [hloc]) (by rw [hc, hloc])
  · rw [setLoc_loc_same, hl]
    exact h

/-- the usual case: to a pc `k'` of smaller rank (a look-up in the table `rank`); the shared fields
written are none of `measure`'s, unless the default for `e` is overridden -/
theorem Moves.move (k' : Nat) (h : ∀ b, rank b k' < rank b k := by decide) (hl : l.pc = k' := by rfl)
    (hc : l.cont = (s'.loc t).cont := by rfl) (e : Agree s s' := by exact ⟨rfl, rfl, Nat.le_succ _⟩) :
    Moves s t k (Close.setLoc s' t l) :=
  .setLoc k' (by have := h s.shutdown; have := e.delReq; rw [e.shutdown]; omega) (e.shutdown ▸ id) hl hc e.loc

theorem Moves.ite' (hx : c → Moves s t k x) (hy : ¬c → Moves s t k y) : Moves s t k (if c then x else y) :=
  iteInduction hx hy

theorem Moves.ite (hx : Moves s t k x) (hy : Moves s t k y) : Moves s t k (if c then x else y) :=
  .ite' (fun _ => hx) fun _ => hy

/-- `ret` continues at 4, 8 or `fin`, of rank at most 25 -/
theorem Moves.ret (hcont : (s.loc t).cont = 4 ∨ (s.loc t).cont = 8 ∨ (s.loc t).cont = 99)
    (h : ∀ b, 25 < rank b k := by decide) (e : Agree s s' := by exact ⟨rfl, rfl, Nat.le_succ _⟩) :
    Moves s t k (Close.ret s' t) := by
  have hr : ∀ b, rank b (s.loc t).cont ≤ 25 := by rcases hcont with c | c | c <;> rw [c] <;> decide
  unfold Close.ret
  rw [e.loc]
  exact .ite (.move fin (fun b => rank_fin_lt (h b)) (e := e))
    (.move _ (fun b => Nat.lt_of_le_of_lt (hr b) (h b)) (e := e))

theorem Moves.sendSend (hcont : (s.loc t).cont = 4 ∨ (s.loc t).cont = 8 ∨ (s.loc t).cont = 99)
    (h : ∀ b, 25 < rank b k := by decide) : Moves s t k (Close.sendSend s t) :=
  .ite (.move fin fun b => rank_fin_lt (h b)) (.ret hcont h)

/-- `afterWake` continues at 28, of rank 1, or at `fin` -/
theorem Moves.afterWake (h : ∀ b, 1 < rank b k := by decide)
    (e : Agree s s' := by exact ⟨rfl, rfl, Nat.le_succ _⟩) : Moves s t k (Close.afterWake s' t) :=
  .ite (.move 28 h (e := e)) (.move fin (fun b => rank_fin_lt (h b)) (e := e))

theorem Moves.wakeSend (h : ∀ b, 1 < rank b k := by decide) : Moves s t k (Close.wakeSend s t) :=
  .ite (.move fin fun b => rank_fin_lt (h b)) (.afterWake h)

/-- The successors of every pc, action by action. Three actions touch what `measure` reads besides the
pc: 4 and 51 add a removal request, 63 raises the Shutdown flag; 92 stays where it is and consumes a
request. The hypotheses are used at 1–3 (`ret`), 61 and 65 (the branch to a pc of larger rank is not
taken by a closing Session), 92 (enabled: a request is pending) and 94 (the event thread returns). -/
theorem act_moves (hev : cfg.evReturns = true) (hc : s.closing = true) (he : enabled cfg n s t = true)
    (hcont : (s.loc t).cont = 4 ∨ (s.loc t).cont = 8 ∨ (s.loc t).cont = 99) :
    Moves s t (s.loc t).pc (act cfg s t) := by
  unfold act
  generalize hp : (s.loc t).pc = k
  split
  -- receiveSingle, 1‥8
  · exact .ite (.ret hcont) (.move 2)  -- 1
  · exact .ite (.ret hcont) (.ite (.sendSend hcont) (.move 3))  -- 2
  · exact .sendSend hcont  -- 3
  · exact .move 5 (e := ⟨rfl, rfl, removeReq_le s⟩)  -- 4
  · exact .move 20  -- 5
  · exact .ite (.move fin) (.move 20)  -- 6
  · exact .move 1  -- 7
  · exact .move 4  -- 8
  -- close, 20‥28
  · exact .ite (.move fin) (.move 21)  -- 20
  · exact .ite (.move 22) (.move 25)  -- 21
  · exact .move 23  -- 22
  · exact .ite (.move fin) (.move 24)  -- 23
  · exact .move fin  -- 24
  · exact .ite (.move fin) (.ite (.move 26) (.move 40))  -- 25
  · exact .ite .afterWake (.ite .wakeSend (.move 27))  -- 26
  · exact .wakeSend  -- 27
  · exact .move fin  -- 28
  -- shutdown, 40‥54
  · exact .move 41  -- 40
  · exact .ite (.move 44) (.move 42)  -- 41
  · exact .move 43  -- 42
  · exact .ite (.move fin) (.move 44)  -- 43
  · exact .ite (.move 47) (.move 45)  -- 44
  · exact .move 46  -- 45
  · exact .ite (.move fin) (.move 47)  -- 46
  · exact .ite (.move 48) (.move 50)  -- 47
  · exact .move 49  -- 48
  · exact .ite (.move fin) (.move 50)  -- 49
  · unfold a50  -- 50
    split
    · exact .move 52
    · exact .move 51
  · exact .move 52 (e := ⟨rfl, rfl, removeReq_le s⟩)  -- 51
  · exact .ite (.ite (.move fin) (.move 53)) (.move 53)  -- 52
  · exact .move 54  -- 53
  · exact .ite (.move fin) (.move fin)  -- 54
  -- listen, 60‥66
  · exact .ite (.move 61) (.ite (.move 61) (.move 61))  -- 60
  · exact .ite' (fun _ => .move 62) fun hn => absurd (by rw [hc, Bool.or_true]) hn  -- 61
  · exact .move 63  -- 62
  · exact .setLoc 64 (Nat.add_lt_add_right ((by decide : ∀ b, 2 * rank true 64 < 2 * rank b 63) _) _) fun _ => rfl  -- 63
  · exact .ite (.move 66) (.move 65)  -- 64
  · -- 65: the next round (60) only while the Shutdown flag is down; there `rank` is 26 at 65 and 66
    refine .ite' (fun _ => .move 40) fun hn => .ite (.setLoc 60 ?_) (.move 40)
    split at hn
    · rw [(Bool.or_eq_false_iff.1 (eq_false_of_ne_true hn)).2]
      exact Nat.add_lt_add_right (by decide) _
    · exact absurd (by rw [hc, Bool.or_true]) hn
  · refine .ite' (fun _ => .move 40) fun hn => .setLoc 60 ?_  -- 66
    rw [(Bool.or_eq_false_iff.1 (eq_false_of_ne_true hn)).2]
    exact Nat.add_lt_add_right (by decide) _
  -- next, 70‥73
  · exact .ite (.move 71) (.move 72)  -- 70
  · exact .move 72  -- 71
  · exact .ite (.move fin) (.move 73)  -- 72
  · exact .move fin  -- 73
  -- Wait 80, chanWake 86‥89, cancellation 90, the Server loop 92, eventer.listen 94
  · exact .move fin  -- 80
  · exact .ite (.move 87) (.move 87)  -- 86
  · exact .ite (.move 89) (.move 88)  -- 87
  · exact .ite (.move fin) (.move 89)  -- 88
  · exact .move fin  -- 89
  · exact .move fin  -- 90
  · have hd : 0 < s.delReq := by simpa [enabled_at_srvLoop hp] using he  -- 92
    exact .setLoc 92 (by show 2 * rank s.shutdown 92 + (s.delReq - 1) < _; omega)
  · exact .ite (.move 20) (.ite' (fun _ => .move fin) fun hn => absurd hev hn)  -- 94
  · -- no action at this pc: it is not enabled
    simp only [imp_false] at *
    have hv := validPc_of_enabled he
    simp only [validPc, List.contains_cons, List.contains_nil, Bool.or_false, Bool.or_eq_true,
      beq_iff_eq, *, or_self] at hv

theorem var_act (hev : cfg.evReturns = true) (ht : t < n) (hc : s.closing = true)
    (he : enabled cfg n s t = true)
    (hcont : (s.loc t).cont = 4 ∨ (s.loc t).cont = 8 ∨ (s.loc t).cont = 99) :
    measure n (act cfg s t) < measure n s :=
  (act_moves hev hc he hcont).measure_lt ht

/-- the Closing flag is never cleared: no action writes `closing := false` -/
theorem act_closing (h : s.closing = true) : (act cfg s t).closing = true := by
  unfold act
  -- an action without a branch unfolds to `setLoc _ t _`; for the others push `.closing` through the `if`s
  split <;> first | exact h | simp only [a1, a2, a3, a6, a20, a21, a23, a25, a26, a27, a41, a43, a44, a46, a47,
    a49, a52, a54, a60, a61, a64, a65, a66, a70, a72, a86, a87, a88, a94, sendSend, wakeSend, afterWake, ret,
    goto, finish, die, enterSd, setLoc, tell, apply_ite St.closing, h, ite_self]

theorem step_closing (h : s.closing = true) : (step cfg n s t).closing = true :=
  iteInduction (motive := fun x : St => x.closing = true) (fun _ => act_closing h) fun _ => h

/-- number of schedule entries that actually execute an action -/
def effSteps (cfg : Cfg) (n : Nat) : St → List Nat → Nat
  | _, [] => 0
  | s, t :: ts => (if t < n ∧ enabled cfg n s t = true then 1 else 0) + effSteps cfg n (step cfg n s t) ts

/-- From ANY state with the Closing flag set, the actions a schedule executes are paid for out of `measure`:
what the state after the schedule still has, plus their number, is at most what the state had. Of the state
only the return addresses are constrained (as `initLoc` sets them). -/
theorem measure_run_add_effSteps_le (hev : cfg.evReturns = true) (sched : List Nat) (hc : s.closing = true)
    (hcont : ∀ t, (s.loc t).cont = 4 ∨ (s.loc t).cont = 8 ∨ (s.loc t).cont = 99) :
    measure n (run cfg n s sched) + effSteps cfg n s sched ≤ measure n s := by
  induction sched generalizing s with
  | nil => exact Nat.le_refl _
  | cons t ts ih =>
    have ih := ih (s := step cfg n s t) (step_closing hc)
    show measure n (run cfg n (step cfg n s t) ts) + effSteps cfg n s (t :: ts) ≤ _
    unfold effSteps
    split
    next h =>
      have m := act_moves hev hc h.2 (hcont t)
      rw [step_of_enabled h.1 h.2] at ih ⊢
      have := ih fun u => m.cont u ▸ hcont u
      have := m.measure_lt h.1
      omega
    next h =>
      rw [step_of_not_enabled h] at ih ⊢
      have := ih hcont
      omega

theorem effSteps_le_measure (hev : cfg.evReturns = true) (sched : List Nat) (hc : s.closing = true)
    (hcont : ∀ t, (s.loc t).cont = 4 ∨ (s.loc t).cont = 8 ∨ (s.loc t).cont = 99) :
    effSteps cfg n s sched ≤ measure n s :=
  Nat.le_trans (Nat.le_add_left _ _) (measure_run_add_effSteps_le hev sched hc hcont)

end XMT.Close
