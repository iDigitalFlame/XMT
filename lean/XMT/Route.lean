/-
  XMT.Route — executable model of the per-device routing of packets in package c2 (property C15).

  Mirrors (after the `fix:` commits of C15, see known/C15.json):
    device/id.go      ID.Empty, ID.Hash (FNV-1, 32 bit)
    c2/server.go      Server.Session, Server.Remove, the sessions table  map[uint32]*Session
    c2/listener.go    Listener.talk, Listener.talkSub, Listener.notify, Listener.resolve
    c2/channel.go     conn.process, processSingle, processMultiple, conn.resolve (tags)
    c2/vars.go        receive (device test, Multi unpacking), isPacketNoP
    c2/proxy.go       Proxy.accept, Proxy.talk, Proxy.talkSub (second half of this file)

  The hash is a PARAMETER (`hash : ID → Nat`) of every function: the theorems in Props/C15.lean hold
  for every hash function, in particular for non-injective ones (colliding device IDs).  The
  driver instantiates it with `idHash`, the model of the real FNV-1 function.

  Side effects on a Session are explicit events (`Ev`), in program order.  What is NOT modelled:
  fragment reassembly (C02), the contents of payloads (C01/C12), keys (C06); a packet is its
  routing-relevant header + "is the payload empty" + "does the payload parse as hello info".
  Core-only (no Mathlib): the driver is a compiled lean_exe.
-/
import XMT.Base
import XMT.Generated.Facts
namespace XMT.Route

/-! ### device.ID -/

abbrev ID := Bytes

/-- `ID.Empty()`: `i[0] == 0` (an ID is a 32-byte array; the model also calls `[]` empty). -/
def idEmpty : ID → Bool
  | [] => true
  | b :: _ => b == 0

/-- `ID.Hash()`: `h := uint32(basis); for x := range i { h *= prime; h ^= uint32(i[x]) }`. -/
def idHash (i : ID) : Nat :=
  i.foldl (fun h b => ((h * Facts.c15FnvPrime) % 2 ^ Facts.c15HashBits) ^^^ b.toNat) Facts.c15FnvBasis

/-! ### constants (regenerated from the source on every run) -/

def svHello := Facts.c15SvHello
def svRegister := Facts.c15SvRegister
def svComplete := Facts.c15SvComplete
def svShutdown := Facts.c15SvShutdown
def mvRefresh := Facts.c15MvRefresh
def flagFrag := Facts.c15FlagFrag
def flagMulti := Facts.c15FlagMulti
def flagProxy := Facts.c15FlagProxy
def flagOneshot := Facts.c15FlagOneshot
def flagMultiDevice := Facts.c15FlagMultiDevice
def flagCrypt := Facts.c15FlagCrypt
def packetMaxTags := Facts.c15PacketMaxTags

/-- `f & bit != 0` -/
def hasFlag (f bit : Nat) : Bool := f &&& bit != 0

/-- `Flag.Len()`: `uint16(f >> 48)` -/
def flagLen (f : Nat) : Nat := (f >>> 48) % 2 ^ 16

/-! ### packets -/

/-- A packet without nested content: what routing looks at. -/
structure Sub where
  dev : ID
  pid : Nat
  job : Nat
  flags : Nat
  /-- `Packet.Empty()` -/
  empty : Bool
  /-- the payload parses as hello device info (`readDeviceInfo(infoHello, n)` succeeds) -/
  info : Bool
deriving DecidableEq, Repr, Inhabited

/-- A top-level packet: header, tags, and — for a `FlagMulti` container — the packets marshalled
in its payload, in order. -/
structure Pkt where
  hd : Sub
  tags : List Nat
  subs : List Sub
deriving DecidableEq, Repr, Inhabited

/-- `isPacketNoP`: `n.ID < 2 && n.Empty() && (n.Flags == 0 || n.Flags == FlagProxy)` -/
def nop (n : Sub) : Bool := n.pid < 2 && n.empty && (n.flags == 0 || n.flags == flagProxy)

/-- An outbound packet as far as routing is concerned. -/
structure Leaf where
  dev : ID
  pid : Nat
  job : Nat
  /-- the packet carries key material (`FlagCrypt`): only the `SvComplete` answer to a hello does
  (`keyHostSync`); such a packet is never packed with others (`Session.next`, `nextPacket`) -/
  crypt : Bool := false
deriving DecidableEq, Repr, Inhabited

/-- what one `Session.next` call takes from a non-empty queue (budgets aside): a packet carrying
key material goes out alone, and packing stops in front of one (it is carried over) -/
def takeOwn : List Leaf → List Leaf × List Leaf
  | [] => ([], [])
  | l :: ls =>
    if l.crypt then ([l], ls)
    else (l :: ls.takeWhile (fun x => !x.crypt), ls.dropWhile (fun x => !x.crypt))

/-! ### server state -/

/-- A server side Session: its device ID and its send queue (every queued packet names `id`,
see `Session.queue` / `verifyPacket`). -/
structure Sess where
  id : ID
  q : List Leaf
deriving DecidableEq, Repr, Inhabited

/-- `Server.sessions  map[uint32]*Session` as an association list with unique keys. -/
abbrev Tbl := List (Nat × Sess)

def Tbl.get (t : Tbl) (h : Nat) : Option Sess :=
  match t with
  | [] => none
  | (k, s) :: r => if k = h then some s else Tbl.get r h

def Tbl.del (t : Tbl) (h : Nat) : Tbl := t.filter (fun e => e.1 != h)

def Tbl.set (t : Tbl) (h : Nat) (s : Sess) : Tbl := (h, s) :: Tbl.del t h

/-! ### events and errors -/

inductive Ev
  /-- `s.host.Set(a); s.Last = now` on Session `sid` while handling a packet that names `pdev` -/
  | touch (sid pdev : ID)
  /-- `keyCryptAndUpdate` replaced key material of Session `sid` from a packet that names `pdev` -/
  | key (sid pdev : ID)
  /-- `receive` accepted the packet for Session `sid` (reaches `receiveSingle` → handler) -/
  | recv (sid pdev : ID) (pid job : Nat)
  /-- a new Session for `sid` was created and stored for a hello packet naming `pdev` -/
  | reg (sid pdev : ID)
  /-- `Listener.oneshot` -/
  | oneshot (pdev : ID)
  /-- `conn.resolve`: `v.update(a)` on the Session found under tag `tag` -/
  | tagTouch (sid : ID) (tag : Nat)
  /-- `conn.resolve`: the queue of Session `sid` (found under `tag`) was drained into the
  connection whose host is `host` -/
  | tagOut (host sid : ID) (tag : Nat)
deriving DecidableEq, Repr

inductive Err
  | closed | short | malformed | info | badtag | count | unmarshal | mismatch | unmodelled
deriving DecidableEq, Repr

/-! ### receive (c2/vars.go), server side: `l != nil`, `s.proxy == nil` -/

/-- `receive(s, l, n)` for a packet without modelled nested content. `s = none` is the call
`receive(nil, l, n)` made for oneshot packets. -/
def receiveSub (s : Option Sess) (n : Sub) : List Ev × Except Err Unit :=
  if idEmpty n.dev || nop n then ([], .ok ())
  else if (match s with
      | some s => !(hasFlag n.flags flagMultiDevice) && s.id != n.dev
      | none => false) then ([], .error .mismatch)
  else if hasFlag n.flags flagOneshot then ([.oneshot n.dev], .ok ())
  else match s with
    | none => ([], .ok ())
    | some s =>
      if n.pid == svComplete && !(hasFlag n.flags flagCrypt) then ([], .ok ())
      else if hasFlag n.flags flagMulti then
        -- a container whose payload is not modelled (always empty here): Len 0 is refused,
        -- otherwise the first UnmarshalStream fails
        if flagLen n.flags == 0 then ([], .error .count) else ([], .error .unmarshal)
      else if hasFlag n.flags flagFrag then ([], .error .unmodelled)
      -- receiveSingle: SvComplete carrying key data (FlagCrypt is set here) → keySessionSync
      -- replaces the key material of a Session that has no shared secret yet
      else if n.pid == svComplete && !n.empty then ([.key s.id n.dev], .ok ())
      else ([.recv s.id n.dev n.pid n.job], .ok ())

/-- the unpack loop of the `FlagMulti` arm of `receive`: `x` packets are expected. -/
def receiveAll (s : Sess) : Nat → List Sub → List Ev × Except Err Unit
  | 0, _ => ([], .ok ())
  | _ + 1, [] => ([], .error .unmarshal)
  | x + 1, v :: vs =>
    if idEmpty v.dev then ([], .error .unmarshal)   -- ID.Read refuses an empty ID
    else match receiveSub (some s) v with
      | (e, .error r) => (e, .error r)
      | (e, .ok ()) => let (e', r) := receiveAll s x vs; (e ++ e', r)

/-- `receive(s, l, n)` for a top-level packet. -/
def receive (s : Sess) (n : Pkt) : List Ev × Except Err Unit :=
  let h := n.hd
  if idEmpty h.dev || nop h then ([], .ok ())
  else if !(hasFlag h.flags flagMultiDevice) && s.id != h.dev then ([], .error .mismatch)
  else if hasFlag h.flags flagOneshot then ([.oneshot h.dev], .ok ())
  else if h.pid == svComplete && !(hasFlag h.flags flagCrypt) then ([], .ok ())
  else if hasFlag h.flags flagMulti then
    if flagLen h.flags == 0 then ([], .error .count) else receiveAll s (flagLen h.flags) n.subs
  else if hasFlag h.flags flagFrag then ([], .error .unmodelled)
  else if h.pid == svComplete && !h.empty then ([.key s.id h.dev], .ok ())
  else ([.recv s.id h.dev h.pid h.job], .ok ())

/-- `keyCryptAndUpdate`: key material is replaced iff `FlagCrypt` is set and the payload is not empty. -/
def keyEv (s : Sess) (n : Sub) : List Ev :=
  if hasFlag n.flags flagCrypt && !n.empty then [.key s.id n.dev] else []

/-- `Listener.notify(h, n)` with a non-nil host: `keyCryptAndUpdate(n, false)` then `receive`. -/
def notifySub (s : Sess) (n : Sub) : List Ev × Except Err Unit :=
  let (e, r) := receiveSub (some s) n
  (keyEv s n ++ e, r)

/-! ### Session.next (server side, not in channel mode) as far as routing is concerned -/

/-- `next(false)`: everything queued, or a keep-alive naming the Session. -/
def nextAll (s : Sess) : List Leaf :=
  if s.q.isEmpty then [{ dev := s.id, pid := 0, job := 0 }] else (takeOwn s.q).1

/-- the Session after that call: what was not taken stays queued -/
def Sess.kept (s : Sess) : Sess := { s with q := (takeOwn s.q).2 }

@[simp] theorem Sess.kept_id (s : Sess) : s.kept.id = s.id := rfl

/-! ### Server.Session / Server.Remove (c2/server.go) -/

/-- `Server.Session(i)` -/
def lookup (hash : ID → Nat) (t : Tbl) (i : ID) : Option Sess :=
  if idEmpty i then none
  else match t.get (hash i) with
    | some s => if s.id != i then none else some s
    | none => none

/-- `Server.Remove(i, false)` followed by the `delSession` arm of `Server.listen`. -/
def remove (hash : ID → Nat) (t : Tbl) (i : ID) : Tbl :=
  match t.get (hash i) with
  | some s => if s.id = i then t.del (hash i) else t
  | none => t

/-- queue a packet on the Session registered for `i` (what `Session.Task`/`Send` do). -/
def enqueue (hash : ID → Nat) (t : Tbl) (i : ID) (l : Leaf) : Tbl :=
  match t.get (hash i) with
  | some s => if s.id = i then t.set (hash i) { s with q := s.q ++ [l] } else t
  | none => t

/-! ### the hash-keyed lookup with the full-ID comparison (the repaired sites) -/

/-- Result of `s, ok = sessions[hash(dev)]` followed by the full-ID test added by the fix:
a Session stored under the same hash for ANOTHER device is never used. -/
inductive Found
  | own (s : Sess)
  | absent
  | collide
deriving Repr

def find (hash : ID → Nat) (t : Tbl) (d : ID) : Found :=
  match t.get (hash d) with
  | none => .absent
  | some s => if s.id != d then .collide else .own s

/-! ### Listener.talkSub -/

structure SubOut where
  /-- the connHost returned (`k`), by ID -/
  host : Option ID
  /-- the hash returned (`q`) -/
  key : Nat
  /-- the packet returned (`r`), flattened -/
  reply : List Leaf
deriving Repr, DecidableEq

def registerReply (n : Sub) : Leaf := { dev := n.dev, pid := svRegister, job := 0 }

/-- the Session created for a hello packet: `s.write(true, keyHostSync(l, n))` queues the
`SvComplete` answer unless the packet came through a proxy (`FlagProxy`). -/
def newSess (n : Sub) : Sess :=
  if hasFlag n.flags flagProxy then { id := n.dev, q := [] }
  else { id := n.dev, q := [{ dev := n.dev, pid := svComplete, job := n.job, crypt := true }] }

/-- `Listener.talkSub(a, n, o)`. Returns the new table, the events and the result. -/
def talkSub (hash : ID → Nat) (closing : Bool) (t : Tbl) (n : Sub) (o : Bool) :
    Tbl × List Ev × Except Err SubOut :=
  if idEmpty n.dev || closing then (t, [], .error .short) else
  let i := hash n.dev
  match find hash t n.dev with
  | .collide =>
    if n.pid == svHello then (t, [], .error .malformed)
    else (t, [], .ok { host := none, key := 0, reply := [registerReply n] })
  | .absent =>
    if n.pid != svHello then (t, [], .ok { host := none, key := 0, reply := [registerReply n] })
    else if !n.info then (t, [], .error .info)
    else
      let s := newSess n
      let ev := [Ev.reg s.id n.dev, Ev.touch s.id n.dev]
      let (e, r) := receiveSub (some s) n
      match r with
      | .error x => (t.set i s, ev ++ e, .error x)
      | .ok () =>
        if o then (t.set i s, ev ++ e, .ok { host := some s.id, key := i, reply := [] })
        else (t.set i s.kept, ev ++ e, .ok { host := some s.id, key := i, reply := (takeOwn s.q).1 })
  | .own s =>
    let ev := [Ev.touch s.id n.dev] ++ keyEv s n
    let (e, r) := receiveSub (some s) n
    match r with
    | .error x => (t, ev ++ e, .error x)
    | .ok () =>
      if o then (t, ev ++ e, .ok { host := some s.id, key := i, reply := [] })
      else (t.set i s.kept, ev ++ e, .ok { host := some s.id, key := i, reply := (takeOwn s.q).1 })

/-! ### conn.resolve (tags) -/

structure Conn where
  /-- `c.add`, flattened -/
  add : List Leaf
  /-- keys of `c.subs` that are `true` -/
  subs : List Nat
deriving Repr, DecidableEq

/-- the loop of `conn.resolve(l, s, h, a, t, false)`; `idx` is the loop index `i`. -/
def resolveLoop (host : ID) : Nat → List Nat → Tbl → Conn → Tbl × List Ev × Except Err Conn
  | _, [], t, c => (t, [], .ok c)
  | idx, tag :: rest, t, c =>
    if tag == 0 then (t, [], .error .badtag)
    else if idx > packetMaxTags then (t, [], .ok c)
    else if c.subs.contains tag then resolveLoop host (idx + 1) rest t c
    else match t.get tag with
      | none => resolveLoop host (idx + 1) rest t c
      | some v =>
        if v.id == host then resolveLoop host (idx + 1) rest t c
        else
          let c := { c with subs := c.subs ++ [tag] }
          if v.q.isEmpty then
            let (t', e, r) := resolveLoop host (idx + 1) rest t c
            (t', Ev.tagTouch v.id tag :: e, r)
          else
            let (t', e, r) := resolveLoop host (idx + 1) rest (t.set tag v.kept)
              { c with add := c.add ++ (takeOwn v.q).1 }
            (t', Ev.tagTouch v.id tag :: Ev.tagOut host v.id tag :: e, r)

/-! ### conn.processMultiple

`c.host` is a POINTER to the Session object in the Go code; the model carries that object as a
value (`hs`) through `process` and writes it back into its slot at the end of `talk`.  Nothing in
between reads more than the `id` of the slot's entry (`talkSub` only for a different device, which
can at most collide with it; `resolve` skips the host), so the two views coincide. -/

/-- the loop of `processMultiple` (o = false): `x` packets are expected; `hs` is the connection's
host Session. Returns table, host, events, and the leaves packed into `c.next` plus the hashes
added to `c.subs`. -/
def multiLoop (hash : ID → Nat) (closing : Bool) :
    Nat → List Sub → Sess → Tbl → Tbl × Sess × List Ev × Except Err (List Leaf × List Nat)
  | 0, _, hs, t => (t, hs, [], .ok ([], []))
  | _ + 1, [], hs, t => (t, hs, [], .error .unmarshal)
  | x + 1, v :: vs, hs, t =>
    if idEmpty v.dev then (t, hs, [], .error .unmarshal)
    else if hasFlag v.flags flagMulti || hasFlag v.flags flagMultiDevice then
      multiLoop hash closing x vs hs t
    else if hasFlag v.flags flagOneshot then
      -- fix: h.notify(nil, &v)
      let (e, _) := receiveSub none v
      let (t', hs', e', r) := multiLoop hash closing x vs hs t
      (t', hs', e ++ e', r)
    else if hs.id == v.dev then
      let (e, _) := notifySub hs v              -- errors are logged and ignored
      let out := nextAll hs
      let (t', hs', e', r) := multiLoop hash closing x vs hs.kept t
      (t', hs', e ++ e', match r with
        | .ok (l, k) => .ok (out ++ l, k)
        | .error z => .error z)
    else
      match talkSub hash closing t v false with
      | (t1, e, .error z) => (t1, hs, e, .error z)
      | (t1, e, .ok so) =>
        let (t', hs', e', r) := multiLoop hash closing x vs hs t1
        (t', hs', e ++ e', match r with
          | .ok (l, k) => .ok (so.reply ++ l, (if so.host.isSome then [so.key] else []) ++ k)
          | .error z => .error z)

/-! ### Listener.talk -/

structure Reply where
  /-- the `ok` result: the Session existed before this packet -/
  ok : Bool
  /-- `conn.host`, by ID (`none`: the re-registration reply has no host) -/
  host : Option ID
  /-- `conn.next`, containers flattened, in order -/
  next : List Leaf
  /-- `conn.subs` (true entries) -/
  subs : List Nat
deriving Repr, DecidableEq

/-- `conn.process(l, h, a, n, false)` on the connection whose host is `hs`. -/
def process (hash : ID → Nat) (closing : Bool) (hs : Sess) (t : Tbl) (n : Pkt) (c : Conn) :
    Tbl × Sess × List Ev × Except Err (List Leaf × List Nat) :=
  if hasFlag n.hd.flags flagMultiDevice then
    let x := flagLen n.hd.flags
    if x == 0 then (t, hs, [], .error .count)
    else match multiLoop hash closing x n.subs hs t with
      | (t', hs', e, .error z) => (t', hs', e, .error z)
      | (t', hs', e, .ok (l, k)) =>
        let all := l ++ c.add
        (t', hs', e, .ok (if all.isEmpty then [{ dev := hs.id, pid := 0, job := 0 }] else all, c.subs ++ k))
  else
    -- processSingle: h.notify(c.host, n); v := c.host.next(false)
    let (e, r) := receive hs n
    let e := keyEv hs n.hd ++ e
    match r with
    | .error z => (t, hs, e, .error z)
    | .ok () => (t, hs.kept, e, .ok (nextAll hs ++ c.add, c.subs))

/-- everything `talk` does once it holds the Session `s` of the sender (`ok`: it existed before);
`t` already contains `s` in slot `i`. -/
def talkWith (hash : ID → Nat) (closing : Bool) (i : Nat) (s : Sess) (ok : Bool) (t : Tbl) (n : Pkt) :
    Tbl × List Ev × Except Err Reply :=
  match (if n.tags.isEmpty then (t, [], .ok { add := [], subs := [] })
         else resolveLoop s.id 0 n.tags t { add := [], subs := [] }) with
  | (t1, e1, .error z) => (t1, e1, .error z)
  | (t1, e1, .ok c) =>
    -- KeyCrypt: decrypt / re-key only for a Session that existed before
    let ek := if ok then keyEv s n.hd else []
    match process hash closing s t1 n c with
    | (t2, s', e2, .error z) => (t2.set i s', e1 ++ ek ++ e2, .error z)
    | (t2, s', e2, .ok (l, k)) =>
      (t2.set i s', e1 ++ ek ++ e2, .ok { ok := ok, host := some s.id, next := l, subs := k })

/-- the `!ok` branch of `Listener.talk`: the sender has no Session. -/
def talkNew (hash : ID → Nat) (closing : Bool) (t : Tbl) (n : Pkt) : Tbl × List Ev × Except Err Reply :=
  let h := n.hd
  if h.empty && h.pid == svHello then (t, [], .error .malformed)
  else if h.pid != svHello then
    (t, [], .ok { ok := false, host := none, next := [registerReply h], subs := [] })
  else if !h.info then (t, [], .error .info)
  else
    let s := newSess h
    let (t', e, r) := talkWith hash closing (hash h.dev) s false (t.set (hash h.dev) s) n
    (t', [Ev.reg s.id h.dev, Ev.touch s.id h.dev] ++ e, r)

/-- `Listener.talk(a, n)`. -/
def talk (hash : ID → Nat) (closing : Bool) (t : Tbl) (n : Pkt) : Tbl × List Ev × Except Err Reply :=
  let h := n.hd
  if idEmpty h.dev || closing then (t, [], .error .closed) else
  match find hash t h.dev with
  | .collide =>
    -- fix: the slot belongs to another device; a hello cannot be registered, anything else is
    -- answered like a packet from an unregistered device
    if h.pid == svHello then (t, [], .error .malformed) else talkNew hash closing t n
  | .absent => talkNew hash closing t n
  | .own s =>
    let (t', e, r) := talkWith hash closing (hash h.dev) s true t n
    (t', [Ev.touch s.id h.dev] ++ e, r)

/-! ### histories -/

inductive Op
  | talk (n : Pkt)
  | talkSub (n : Sub) (o : Bool)
  | lookup (i : ID)
  | remove (i : ID)
  | queue (i : ID) (l : Leaf)
deriving Repr

/-- one step of a history: new table and the events of the step. -/
def step (hash : ID → Nat) (t : Tbl) : Op → Tbl × List Ev
  | .talk n => let (t', e, _) := talk hash false t n; (t', e)
  | .talkSub n o => let (t', e, _) := talkSub hash false t n o; (t', e)
  | .lookup _ => (t, [])
  | .remove i => (remove hash t i, [])
  | .queue i l => (enqueue hash t i l, [])

/-- run a history from a table; all events in order. -/
def run (hash : ID → Nat) : Tbl → List Op → Tbl × List Ev
  | t, [] => (t, [])
  | t, op :: ops =>
    let (t1, e1) := step hash t op
    let (t2, e2) := run hash t1 ops
    (t2, e1 ++ e2)

end XMT.Route
