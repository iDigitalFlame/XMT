/-
  XMT.CbkStream — the CBK stream wrapper (c2/wrapper/crypto.go CBK over data/crypto/cbk.go) is
  lossless: for every key, every block size `newSource` accepts, every chunking of the writes
  (then `Close`), every way the wire bytes are handed to the reader and every sequence of `Read`
  sizes, the reader gives back exactly the bytes written, then EOF.

  The wire format (`Full`, `Wire`); the writer: `Write`s in any chunking followed by `Close` put a
  complete CBK stream on the wire that carries exactly the concatenation of the writes; `readInput`
  and the copy loop of `Read` on any input (XMT/CbkHostile.lean goes on from there); `Read` on a
  complete CBK stream; sequences of `Read`s, `io.ReadAll`, and the layer statement
  `LGood (cbkLayer s0)` that `stack_roundtrip` asks for — both from any fresh state (`stream_fresh`,
  `cbkLayer_good`); the `cbk_stream…` theorems are their instances at the state `newSource` builds.
  Core-only.
-/
import XMT.CbkLemmas
import XMT.WrapLemmas
import XMT.CodecLemmas
namespace XMT.Cbk

/-- `Full k n i ds w j`: `w` is the concatenation of the encrypted *full* blocks (count byte `n`)
carrying the `n`-byte pieces `ds`; the block index is `i` before the first and `j` after the last. -/
inductive Full (k : Key) (n : Nat) : UInt8 → List Bytes → Bytes → UInt8 → Prop
  | nil (i : UInt8) : Full k n i [] [] i
  | cons {i j : UInt8} {d : Bytes} {ds : List Bytes} {c w : Bytes} :
      d.length = n → encBlock k (bump i) (d ++ [byteOf n]) = some c → c.length = n + 1 →
      Full k n (bump i) ds w j → Full k n i (d :: ds) (c ++ w) j

/-- `Wire k n i ds w`: `w` is a complete CBK stream (block index `i` before the first block)
carrying the data pieces `ds`: every block is the encryption of `d ++ junk ++ [len d]` with
`1 ≤ len d ≤ n`, and only the last block may be short (`len d < n`). -/
inductive Wire (k : Key) (n : Nat) : UInt8 → List Bytes → Bytes → Prop
  | nil (i : UInt8) : Wire k n i [] []
  | cons {i : UInt8} {d junk : Bytes} {ds : List Bytes} {c w : Bytes} :
      0 < d.length → d.length + junk.length = n → (d.length < n → ds = []) →
      encBlock k (bump i) (d ++ junk ++ [byteOf d.length]) = some c → c.length = n + 1 →
      Wire k n (bump i) ds w → Wire k n i (d :: ds) (c ++ w)

theorem Full.append {k : Key} {n : Nat} {i j l : UInt8} {ds ds' : List Bytes} {w w' : Bytes}
    (h : Full k n i ds w j) (h' : Full k n j ds' w' l) : Full k n i (ds ++ ds') (w ++ w') l := by
  induction h with
  | nil i => exact h'
  | cons hd he hc _ ih =>
    rw [List.cons_append, List.append_assoc]
    exact Full.cons hd he hc (ih h')

variable {k : Key} {n : Nat} {s : St} {r : Codec.Stream}

theorem Full.wire {i j : UInt8} {ds ds' : List Bytes} {w w' : Bytes}
    (hn : 0 < n) (h : Full k n i ds w j) (h' : Wire k n j ds' w') : Wire k n i (ds ++ ds') (w ++ w') := by
  induction h with
  | nil i => exact h'
  | @cons _ _ d _ _ _ hd he hc _ ih =>
    rw [List.cons_append, List.append_assoc]
    refine Wire.cons (junk := []) (by omega) (by simpa using hd) (fun h => by omega) ?_ hc (ih h')
    simpa [hd] using he

theorem Wire.length_le {i : UInt8} {ds : List Bytes} {w : Bytes}
    (h : Wire k n i ds w) : ds.flatten.length ≤ w.length := by
  induction h with
  | nil i => simp
  | cons h0 hl _ _ hc _ ih =>
    simp only [List.flatten_cons, List.length_append]
    omega

/-- Writer state: `p` are the bytes buffered so far; `total` is still `-1` before the first `Write`. -/
structure WInv (k : Key) (n : Nat) (s : St) (p : Bytes) : Prop where
  key : s.key = k
  len : s.buf.length = n + 1
  pos : s.pos = p.length
  pre : s.buf.take p.length = p
  le : p.length ≤ n
  total : s.total = n ∨ (s.total = -1 ∧ p = [])

theorem WInv.nil (hk : s.key = k) (hl : s.buf.length = n + 1) (hp : s.pos = 0)
    (ht : s.total = n ∨ s.total = -1) : WInv k n s [] :=
  ⟨hk, hl, hp, rfl, Nat.zero_le _, ht.imp_right fun h => ⟨h, rfl⟩⟩

theorem flushOutput_idle (h : s.pos = 0) : flushOutput s = some (s, []) := by
  unfold flushOutput; rw [if_pos h]

theorem flushOutput_block {p : Bytes} (hn : 16 ≤ n) (h : WInv k n s p) (hp : 0 < p.length) :
    ∃ c junk, flushOutput s = some ({ s with buf := c, index := bump s.index, pos := 0 }, [c]) ∧
      c.length = n + 1 ∧ p.length + junk.length = n ∧
      encBlock k (bump s.index) (p ++ junk ++ [byteOf p.length]) = some c := by
  obtain ⟨hk, hl, hpos, hpre, hle, ht⟩ := h
  have ht : s.total = n := ht.resolve_right fun h => by rw [h.2] at hp; exact Nat.lt_irrefl 0 hp
  generalize hj : (s.buf.drop p.length).take (n - p.length) = junk
  have lj : p.length + junk.length = n := by rw [← hj, List.length_take, List.length_drop]; omega
  have hb : s.buf.set s.total.toNat (byteOf s.pos.toNat) = p ++ junk ++ [byteOf p.length] := by
    have e4 : s.buf.take n = s.buf.take p.length ++ (s.buf.drop p.length).take (n - p.length) := by
      conv => lhs; rw [show n = p.length + (n - p.length) by omega, List.take_add]
    rw [show s.total.toNat = n by omega, show s.pos.toNat = p.length by omega,
      List.set_eq_take_append_cons_drop, if_pos (by omega), List.drop_of_length_le (by omega), e4, hpre, hj]
  have lb : (p ++ junk ++ [byteOf p.length]).length = n + 1 := by
    rw [List.length_append, List.length_append, lj]; rfl
  obtain ⟨c, ec, lc, _⟩ := decBlock_encBlock k (bump s.index) _ (by rw [lb]; omega)
  refine ⟨c, junk, ?_, lc.trans lb, lj, ec⟩
  unfold flushOutput
  rw [if_neg (by omega), if_neg (by omega)]
  simp only [hb, hk, ec, Option.bind_eq_bind, Option.bind_some]

theorem flushOutput_pos {s s' : St} {o : List Bytes} (h : flushOutput s = some (s', o)) : s'.pos = 0 := by
  unfold flushOutput at h
  split at h
  · rename_i h0; cases h; exact h0
  · split at h
    · cases h
    · simp only [Option.bind_eq_bind, Option.bind_eq_some_iff] at h
      obtain ⟨b, _, e⟩ := h
      cases e; rfl

/-- The `if pos >= total { flushOutput }` at the top of the `Write` loop (and at its end), in front of
any continuation `F`: at most one full block goes out and fewer than `n` bytes stay buffered. -/
theorem flush_if_full {p : Bytes} (hn : 16 ≤ n) (h : WInv k n s p) (ht : s.total = n) :
    ∃ s' o ds p', (∀ {α} (F : St × List Bytes → Option α),
        (if s.pos ≥ s.total then (flushOutput s).bind F else (some (s, [])).bind F) = F (s', o)) ∧
      WInv k n s' p' ∧ s'.total = n ∧ p'.length < n ∧ Full k n s.index ds o.flatten s'.index ∧
      p = ds.flatten ++ p' := by
  have := h.pos; have := h.le
  by_cases hc : s.pos ≥ s.total
  · have hpn : p.length = n := by omega
    obtain ⟨c, junk, e, lc, lj, ec⟩ := flushOutput_block hn h (by omega)
    obtain rfl : junk = [] := List.eq_nil_of_length_eq_zero (by omega)
    refine ⟨{ s with buf := c, index := bump s.index, pos := 0 }, [c], [p], [],
      fun F => by rw [if_pos hc, e, Option.bind_some],
      .nil h.key lc rfl (.inl ht), ht, by simp; omega, ?_, by simp⟩
    simpa using Full.cons (k := k) (i := s.index) hpn (by simpa [hpn] using ec) lc (Full.nil (bump s.index))
  · exact ⟨s, [], [], p, fun F => by rw [if_neg hc, Option.bind_some], h, ht, by omega, Full.nil _, by simp⟩

theorem writeLoop_spec (hn : 16 ≤ n) :
    ∀ (fuel : Nat) (s : St) (p rest : Bytes) (out : List Bytes), WInv k n s p → s.total = n →
      rest.length < fuel →
    ∃ s' o ds p', writeLoop fuel s rest out = some (s', out ++ o) ∧ WInv k n s' p' ∧ s'.total = n ∧
      Full k n s.index ds o.flatten s'.index ∧ p ++ rest = ds.flatten ++ p' := by
  intro fuel
  induction fuel with
  | zero => intro s p rest out _ _ hf; omega
  | succ fuel ih =>
    intro s p rest out h ht hf
    rw [writeLoop]
    by_cases hr : rest = []
    · subst hr; exact ⟨s, [], [], p, by simp, h, ht, Full.nil _, by simp⟩
    · have hrl : 0 < rest.length := List.length_pos_iff.mpr hr
      obtain ⟨s1, o1, ds1, p1, e1, ⟨hk, hl, hpos, hpre, hle, -⟩, ht1, l1, f1, q1⟩ := flush_if_full hn h ht
      rw [if_neg (by simpa using hr)]
      simp only [Option.bind_eq_bind]
      rw [e1]
      simp only []
      rw [if_neg (by omega), show (s1.total - s1.pos).toNat = n - p1.length by omega,
        show s1.pos.toNat = p1.length by omega]
      generalize hI : min (n - p1.length) rest.length = i
      have hX : (rest.take i).length = i := List.length_take_of_le (by omega)
      have h2 : WInv k n { s1 with buf := s1.buf.take p1.length ++ rest.take i ++ s1.buf.drop (p1.length + i),
                                   pos := s1.pos + i } (p1 ++ rest.take i) :=
        ⟨hk, by rw [List.length_append, List.length_append, hX, List.length_take, List.length_drop]; omega,
          by show s1.pos + (i : Int) = _; rw [List.length_append, hX]; omega,
          by rw [hpre]; exact List.take_left' rfl,
          by rw [List.length_append, hX]; omega, .inl ht1⟩
      obtain ⟨s', o', ds', p', e2, h2, ht2, f2, q2⟩ := ih _ _ (rest.drop i) (out ++ o1) h2 ht1
        (by simp only [List.length_drop]; omega)
      refine ⟨s', o1 ++ o', ds1 ++ ds', p', by rw [e2, List.append_assoc], h2, ht2, ?_, ?_⟩
      · rw [List.flatten_append]; exact Full.append f1 f2
      · rw [q1, List.flatten_append, List.append_assoc, List.append_assoc, ← q2, List.append_assoc,
          List.take_append_drop]

theorem write_spec {p : Bytes} (hn : 16 ≤ n) (h : WInv k n s p) (c : Bytes) :
    ∃ s' o ds p', write s c = some (s', o) ∧ WInv k n s' p' ∧
      Full k n s.index ds o.flatten s'.index ∧ p ++ c = ds.flatten ++ p' := by
  obtain ⟨s0, e0, h0, ht0, hi0⟩ : ∃ s0,
      (if s.total = -1 then { s with total := (s.buf.length : Int) - 1 } else s) = s0 ∧
      WInv k n s0 p ∧ s0.total = n ∧ s0.index = s.index := by
    rcases h.total with ht | ⟨ht, -⟩
    · exact ⟨s, if_neg (by omega), h, ht, rfl⟩
    · have ht' : (s.buf.length : Int) - 1 = n := by have := h.len; omega
      exact ⟨_, if_pos ht, ⟨h.key, h.len, h.pos, h.pre, h.le, .inl ht'⟩, ht', rfl⟩
  obtain ⟨s2, o2, ds2, p2, e2, h2, ht2, f2, q2⟩ := writeLoop_spec hn (c.length + 1) s0 p c [] h0 ht0 (by omega)
  obtain ⟨s3, o3, ds3, p3, e3, h3, -, l3, f3, q3⟩ := flush_if_full hn h2 ht2
  rw [hi0] at f2
  refine ⟨s3, o2 ++ o3, ds2 ++ ds3, p3, ?_, h3, ?_, ?_⟩
  · unfold write
    simp only [e0, e2, Option.bind_eq_bind, Option.bind_some, List.nil_append]
    have := e3 (fun y => some (y.1, o2 ++ y.2))
    by_cases hlt : s2.pos < s2.total
    · rw [if_neg (by omega)] at this
      rw [if_pos hlt]; simpa using this
    · rw [if_pos (by omega)] at this
      rw [if_neg hlt]; exact this
  · rw [List.flatten_append]; exact Full.append f2 f3
  · rw [q2, q3, List.flatten_append, List.append_assoc]

theorem close_spec {p : Bytes} (hn : 16 ≤ n) (h : WInv k n s p) :
    ∃ s' o ds, flushOutput s = some (s', o) ∧ Wire k n s.index ds o.flatten ∧ ds.flatten = p := by
  by_cases hp : p = []
  · subst hp
    exact ⟨s, [], [], flushOutput_idle (by simpa using h.pos), Wire.nil _, rfl⟩
  · obtain ⟨c, junk, e, lc, lj, ec⟩ := flushOutput_block hn h (List.length_pos_iff.mpr hp)
    refine ⟨_, [c], [p], e, ?_, by simp⟩
    simpa using Wire.cons (k := k) (i := s.index) (ds := []) (List.length_pos_iff.mpr hp) lj
      (fun _ => rfl) ec lc (Wire.nil _)

theorem writeAll_spec (hn : 16 ≤ n) (ws : List Bytes) :
    ∀ {s : St} {p : Bytes}, WInv k n s p →
    ∃ out ds, writeAll s ws = some out ∧ Wire k n s.index ds out.flatten ∧ ds.flatten = p ++ ws.flatten := by
  induction ws with
  | nil =>
    intro s p h
    obtain ⟨s', o, ds, e, hw, hd⟩ := close_spec hn h
    exact ⟨o, ds, by simp [writeAll, e], hw, by simpa using hd⟩
  | cons c cs ih =>
    intro s p h
    obtain ⟨s1, o1, ds1, p1, e1, h1, f1, q1⟩ := write_spec hn h c
    obtain ⟨o2, ds2, e2, w2, q2⟩ := ih h1
    refine ⟨o1 ++ o2, ds1 ++ ds2, by simp [writeAll, e1, e2], ?_, ?_⟩
    · rw [List.flatten_append]; exact Full.wire (by omega) f1 w2
    · rw [List.flatten_append, q2, List.flatten_cons, ← List.append_assoc, ← List.append_assoc, q1]

/-- The only facts `Read` needs in order not to panic: the buffer has the size `newSource` gave it
(block size + count byte, block size ≥ 16) and the read position is not negative.  Nothing is
assumed about `total` (it is the attacker's count byte). -/
structure HInv (n : Nat) (s : St) : Prop where
  len : s.buf.length = n + 1
  pos : 0 ≤ s.pos

/-- The decrypted bytes of the current block not yet delivered: `buf[pos:total]`. -/
def cur (s : St) : Bytes := (s.buf.drop s.pos.toNat).take (s.total - s.pos).toNat

theorem cur_nil (h : s.total ≤ s.pos) : cur s = [] := by
  have : (s.total - s.pos).toNat = 0 := by omega
  simp [cur, this]

theorem cur_length (h : HInv n s) (ht : s.total ≤ n) : (cur s).length = (s.total - s.pos).toNat := by
  have := h.len
  have := h.pos
  simp only [cur, List.length_take, List.length_drop]
  omega

theorem cur_step {i : Nat} (hp : 0 ≤ s.pos) (hi : i ≤ (s.total - s.pos).toNat) :
    cur s = (s.buf.drop s.pos.toNat).take i ++ cur { s with pos := s.pos + i } := by
  have e1 : (s.total - s.pos).toNat = i + ((s.total - (s.pos + i)).toNat) := by omega
  have e2 : (s.pos + (i : Int)).toNat = s.pos.toNat + i := by omega
  simp only [cur]
  rw [e1, List.take_add, List.drop_drop, e2]

theorem HInv.advance (h : HInv n s) (i : Nat) : HInv n { s with pos := s.pos + i } :=
  ⟨h.len, Int.add_nonneg h.pos (Int.natCast_nonneg i)⟩

theorem readLoop_stop (hl : s.buf.length = n + 1) (fuel : Nat) (r : Codec.Stream) {kk : Nat} {acc : Bytes}
    (hC : ¬ (acc.length < kk ∧ s.pos < s.total ∧ s.total ≤ n)) :
    readLoop (fuel + 1) s r kk acc = some (s, r, acc, if s.total > n + 1 then some .eof else none) := by
  rw [readLoop, if_neg (by omega)]
  by_cases hT : s.total > n + 1
  · rw [if_pos (by omega), if_pos hT]
  · rw [if_neg (by omega), if_neg hT]

/-- One turn of the copy loop of `Read` that has room and data: the next `i ≥ 1` bytes `X` of the
current block are delivered; when that uses up a full block the next one is read, and a hard error
there ends the `Read` (with the bytes of the earlier turns only). -/
theorem readLoop_copy (h : HInv n s) (fuel : Nat) (r : Codec.Stream) {kk : Nat} {acc : Bytes}
    (h1 : acc.length < kk) (h2 : s.pos < s.total) (h3 : s.total ≤ n) :
    ∃ (i : Nat) (X : Bytes), 0 < i ∧ X.length = i ∧ acc.length + i ≤ kk ∧ s.pos + i ≤ s.total ∧
      cur s = X ++ cur { s with pos := s.pos + i } ∧
      readLoop (fuel + 1) s r kk acc =
        if s.pos + i = s.total ∧ s.total = n then
          (readInput { s with pos := s.pos + i } r).bind fun x =>
            if x.2.2.2.isSome ∧ x.2.2.2 ≠ some .eof then some (x.1, x.2.1, acc, x.2.2.2)
            else readLoop fuel x.1 x.2.1 kk (acc ++ X)
        else readLoop fuel { s with pos := s.pos + i } r kk (acc ++ X) := by
  obtain ⟨hl, hp0⟩ := h
  refine ⟨min (kk - acc.length) (s.total - s.pos).toNat, _, by omega, ?_, by omega, by omega,
    cur_step hp0 (Nat.min_le_right _ _), ?_⟩
  · simp only [List.length_take, List.length_drop]; omega
  · rw [readLoop, if_pos ⟨h1, h2, by omega⟩, if_neg (by omega), if_neg (by omega)]
    simp only []
    generalize hI : min (kk - acc.length) (s.total - s.pos).toNat = i
    by_cases hA : s.pos + (i : Int) = s.total ∧ s.total = n
    · rw [if_pos hA, if_pos (by omega)]; rfl
    · rw [if_neg hA, if_neg (by omega)]

/-- `readInput` by what is left of the stream: nothing (EOF), less than a block
(`ErrUnexpectedEOF`), or a block, which decrypts to `b ++ [c]` with the count byte `c` anything in
`0..255` (`c = 0`: EOF, `c > len b`: `ErrShortBuffer`, else success). -/
theorem readInput_cases (s : St) (r : Codec.Stream) :
    (r.flatten = [] → ∃ r', r'.flatten = [] ∧
      readInput s r = some ({ s with total := 0 }, r', 0, some .eof)) ∧
    (r.flatten ≠ [] → r.flatten.length < s.buf.length → ∃ b r', b.length = s.buf.length ∧
      r'.flatten = [] ∧ readInput s r = some ({ s with buf := b }, r', 0, some .unexpectedEOF)) ∧
    (∀ b c, s.buf.length ≤ r.flatten.length → s.buf.length ≠ 0 →
      decBlock s.key (bump s.index) (r.flatten.take s.buf.length) = some (b ++ [c]) →
      ∃ r', r'.flatten = r.flatten.drop s.buf.length ∧
        readInput s r = some ({ s with buf := b ++ [c], index := bump s.index, total := c.toNat, pos := 0 }, r',
          if c.toNat = 0 then 0 else s.buf.length,
          if c.toNat = 0 then some .eof else if c.toNat > b.length then some .shortBuffer else none)) := by
  unfold readInput
  have h1 := Codec.readFull_fst s.buf.length r
  have h2 := Codec.readFull_snd s.buf.length r
  generalize Codec.readFull s.buf.length r = q at h1 h2
  obtain ⟨got, r'⟩ := q
  simp only at h1 h2 ⊢
  subst h1
  have hgl : (r.flatten.take s.buf.length).length = min s.buf.length r.flatten.length := List.length_take
  refine ⟨fun h0 => ⟨r', by rw [h2, h0, List.drop_nil], by rw [if_pos (by rw [h0, List.take_nil]; rfl)]⟩,
    fun h0 h3 => ?_, fun b c h3 h4 hd => ?_⟩
  · have := List.length_pos_iff.mpr h0
    rw [if_neg (by omega), if_pos (by omega)]
    refine ⟨_, r', ?_, List.eq_nil_of_length_eq_zero (by rw [h2, List.length_drop]; omega), rfl⟩
    simp only [List.length_append, List.length_drop]; omega
  · refine ⟨r', h2, ?_⟩
    rw [if_neg (by omega), if_neg (by omega)]
    simp only [hd, Option.bind_eq_bind, Option.bind_some, List.length_append, List.length_singleton,
      Nat.add_sub_cancel, List.getElem?_concat_length, hgl, Nat.min_eq_left h3]
    by_cases c0 : c.toNat = 0
    · rw [if_pos (by omega), if_pos c0, if_pos c0]
    · rw [if_neg (by omega), if_neg c0, if_neg c0]
      by_cases c1 : c.toNat > b.length
      · rw [if_pos (by omega), if_pos c1]
      · rw [if_neg (by omega), if_neg c1]

/-- `Read` when the current block has more than the `kk` bytes asked for. -/
theorem read_fast {kk : Nat} (h : s.total - s.pos > kk) (hp : 0 ≤ s.pos) (hl : s.pos + kk ≤ s.buf.length) :
    ∃ X, X.length = kk ∧ cur s = X ++ cur { s with pos := s.pos + kk } ∧
      Cbk.read s r kk = some ({ s with pos := s.pos + kk }, r, X, none) := by
  refine ⟨_, ?_, cur_step hp (by omega), ?_⟩
  · simp only [List.length_take, List.length_drop]; omega
  · unfold Cbk.read
    rw [if_pos h, if_neg (by omega), if_neg (by omega)]

/-- `Read` when the count says more than `kk` bytes are left but the buffer ends before them (a count
byte beyond the buffer, met only by a consumer that reads on after `ErrShortBuffer`). -/
theorem read_short {kk : Nat} (h : s.total - s.pos > kk) (hl : s.pos + kk > s.buf.length) :
    Cbk.read s r kk = some (s, r, [], some .shortBuffer) := by
  unfold Cbk.read
  rw [if_pos h, if_pos hl]

/-- `Read` when the current block is used up: the next one is read first; an error there, or EOF with
nothing read, ends the `Read`. -/
theorem read_next {s2 : St} {r' : Codec.Stream} {kk o : Nat} {e : Option RErr} (h : ¬ s.total - s.pos > kk)
    (hp : s.pos ≥ s.total) (hr : readInput s r = some (s2, r', o, e)) :
    Cbk.read s r kk = if e.isSome ∧ (e ≠ some .eof ∨ o = 0) then some (s2, r', [], e)
      else readLoop (kk + 1) s2 r' kk [] := by
  unfold Cbk.read
  rw [if_neg h]
  simp only [if_pos hp, hr, Option.bind_eq_bind, Option.bind_some]
  split
  · next hc => obtain ⟨x, rfl⟩ := Option.isSome_iff_exists.mp hc.1; rfl
  · rfl

theorem read_cont {kk : Nat} (h : ¬ s.total - s.pos > kk) (hp : ¬ s.pos ≥ s.total) :
    Cbk.read s r kk = readLoop (kk + 1) s r kk [] := by
  unfold Cbk.read
  rw [if_neg h]
  simp only [if_neg hp, Option.bind_eq_bind, Option.bind_some]

/-- Reader state `s` in front of the rest `r` of a complete CBK stream, with `data` still to deliver:
the rest of the current block, then the blocks `ds` not read yet; a short block is the last one. -/
structure RSt (k : Key) (n : Nat) (s : St) (r : Codec.Stream) (data : Bytes) : Prop where
  inv : HInv n s
  key : s.key = k
  total : s.total ≤ n
  rest : ∃ ds, Wire k n s.index ds r.flatten ∧ data = cur s ++ ds.flatten ∧
    (s.pos < s.total → s.total < n → ds = [])

theorem RSt.start {ds : List Bytes} (h : HInv n s) (hk : s.key = k) (ht : s.total ≤ n)
    (hp : s.total ≤ s.pos) (hw : Wire k n s.index ds r.flatten) : RSt k n s r ds.flatten :=
  ⟨h, hk, ht, ds, hw, by rw [cur_nil hp]; rfl, fun hlt => absurd hlt (Int.not_lt.mpr hp)⟩

/-- `readInput` once the current block is used up: EOF exactly when nothing is left, otherwise the
next block becomes the current one; what is still to deliver stays the same. -/
theorem readInput_spec {data : Bytes} (hn : 16 ≤ n) (hb : n < 256) (h : RSt k n s r data)
    (hp : s.total ≤ s.pos) :
    ∃ s' r' o, readInput s r = some (s', r', o, if data = [] then some .eof else none) ∧
      (data = [] → o = 0) ∧ RSt k n s' r' data ∧ (s'.total ≤ s'.pos → data = []) := by
  obtain ⟨⟨hl, hp0⟩, hk, ht, ds, hw, hdata, -⟩ := h
  rw [cur_nil hp, List.nil_append] at hdata
  obtain ⟨heof, -, hblk⟩ := readInput_cases s r
  generalize hf : r.flatten = w at hw
  cases hw with
  | nil =>
    obtain ⟨r', h2, e⟩ := heof hf
    subst hdata
    exact ⟨_, r', 0, e, fun _ => rfl,
      RSt.start (ds := []) ⟨hl, hp0⟩ hk (Int.natCast_nonneg n) hp0 (h2 ▸ Wire.nil _), fun _ => rfl⟩
  | @cons _ d junk ds' c w' h0 hdj hj he hc' hw' =>
    obtain ⟨c', ec, _, dc⟩ := decBlock_encBlock k (bump s.index) (d ++ junk ++ [byteOf d.length])
      (by simp; omega)
    rw [he] at ec; cases ec
    obtain ⟨r', h3, e⟩ := hblk (d ++ junk) (byteOf d.length)
      (by rw [hl, hf, List.length_append, hc']; omega) (by rw [hl]; omega)
      (by rw [hl, hf, List.take_left' hc', hk]; exact dc)
    have hdn : d.length ≤ n := hdj ▸ Nat.le_add_right _ _
    have hne : data ≠ [] := by
      rw [hdata, List.flatten_cons]
      exact fun e0 => Nat.ne_of_gt h0 (List.length_eq_zero_iff.mpr (List.append_eq_nil_iff.mp e0).1)
    rw [byteOf_toNat_of_lt (by omega), if_neg (Nat.ne_of_gt h0), if_neg (Nat.ne_of_gt h0),
      if_neg (by rw [List.length_append]; omega), ← if_neg hne (t := some RErr.eof) (e := none)] at e
    rw [hl, hf, List.drop_left' hc'] at h3
    refine ⟨_, r', _, e, fun e0 => absurd e0 hne,
      ⟨⟨by simp; omega, Int.le_refl 0⟩, hk, Int.ofNat_le.mpr hdn, ds', by rw [h3]; exact hw', ?_, ?_⟩, ?_⟩
    · rw [hdata, List.flatten_cons]
      show _ = ((d ++ junk ++ [byteOf d.length]).drop (0 : Int).toNat).take ((d.length : Int) - 0).toNat ++ _
      rw [List.append_assoc]; simp
    · exact fun _ (hlt : (d.length : Int) < n) => hj (by omega)
    · intro (hle : (d.length : Int) ≤ 0)
      omega

theorem take_drop_prefix (X Y : Bytes) {m : Nat} (h : X.length ≤ m) :
    (X ++ Y).take m = X ++ Y.take (m - X.length) ∧ (X ++ Y).drop m = Y.drop (m - X.length) := by
  rw [List.take_append, List.drop_append, List.take_of_length_le h, List.drop_of_length_le h]
  simp

/-- The copy loop of `Read`: it delivers the next `kk - len acc` bytes of what is left (all of it if
there is less), crossing block boundaries as needed. -/
theorem readLoop_spec (hn : 16 ≤ n) (hb : n < 256) (kk : Nat) :
    ∀ (fuel : Nat) (s : St) (r : Codec.Stream) (acc data : Bytes), RSt k n s r data →
      (s.total ≤ s.pos → data = []) → acc.length ≤ kk → kk - acc.length < fuel →
    ∃ s' r', readLoop fuel s r kk acc = some (s', r', acc ++ data.take (kk - acc.length), none) ∧
      RSt k n s' r' (data.drop (kk - acc.length)) := by
  intro fuel
  induction fuel with
  | zero => intro s r acc data _ _ _ hf; omega
  | succ fuel ih =>
    intro s r acc data h hq hacc hf
    obtain ⟨hinv, hk, htn, ds, hw, hdata, hpart⟩ := id h
    by_cases hC : acc.length < kk ∧ s.pos < s.total ∧ s.total ≤ n
    · obtain ⟨hC1, hC2, -⟩ := hC
      obtain ⟨i, X, hi0, hX, hik, hit, hcur, e⟩ := readLoop_copy hinv fuel r hC1 hC2 htn
      rw [hcur, List.append_assoc] at hdata
      generalize hd1 : cur { s with pos := s.pos + i } ++ ds.flatten = data1 at hdata
      have h1 : RSt k n { s with pos := s.pos + i } r data1 :=
        ⟨hinv.advance i, hk, htn, ds, hw, hd1.symm, fun _ => hpart hC2⟩
      -- `X` is delivered, `data1` is left: the goal in the terms of the next turn
      obtain ⟨t1, t2⟩ := take_drop_prefix X data1 (m := kk - acc.length) (by omega)
      have hm : kk - (acc ++ X).length = kk - acc.length - X.length := by
        rw [List.length_append]; omega
      have hacc' : (acc ++ X).length ≤ kk := by rw [List.length_append]; omega
      rw [e, hdata, t1, t2, ← List.append_assoc, ← hm]
      by_cases hA : s.pos + (i : Int) = s.total ∧ s.total = n
      · obtain ⟨s2, r2, o, e2, _, h2, hq2⟩ := readInput_spec hn hb h1 (Int.le_of_eq hA.1.symm)
        rw [if_pos hA, e2, Option.bind_some, if_neg (by split <;> simp)]
        exact ih s2 r2 (acc ++ X) _ h2 hq2 hacc' (by omega)
      · rw [if_neg hA]
        refine ih _ r (acc ++ X) _ h1 (fun (hge : s.total ≤ s.pos + (i : Int)) => ?_) hacc' (by omega)
        rw [← hd1, cur_nil hge, hpart hC2 (by omega)]; rfl
    · rw [readLoop_stop hinv.len fuel r hC, if_neg (by omega)]
      have ht : data.take (kk - acc.length) = [] ∧ data.drop (kk - acc.length) = data := by
        by_cases hm : acc.length < kk
        · rw [hq (by omega)]; simp
        · rw [show kk - acc.length = 0 by omega]; simp
      rw [ht.1, ht.2, List.append_nil]
      exact ⟨s, r, rfl, h⟩

/-- **One `Read` of any size `kk`** in any reader state on a complete CBK stream: it delivers the
next `kk` bytes of the data still to come (all of it if there is less), and reports EOF exactly when
nothing is left. -/
theorem read_spec {data : Bytes} (hn : 16 ≤ n) (hb : n < 256) (h : RSt k n s r data) (kk : Nat) :
    ∃ s' r', Cbk.read s r kk = some (s', r', data.take kk, if data = [] then some .eof else none) ∧
      RSt k n s' r' (data.drop kk) := by
  obtain ⟨hinv, hk, htn, ds, hw, hdata, hpart⟩ := id h
  have hcl := cur_length hinv htn
  obtain ⟨hl, hp0⟩ := id hinv
  have hne : s.pos < s.total → data ≠ [] := by
    intro hlt e
    have := congrArg List.length e
    rw [hdata, List.length_append, hcl] at this
    simp at this; omega
  by_cases hfast : s.total - s.pos > kk
  · obtain ⟨X, hX, hcur, e⟩ := read_fast (r := r) hfast hp0 (by omega)
    rw [e, if_neg (hne (by omega)), hdata, hcur, List.append_assoc, List.take_left' hX, List.drop_left' hX]
    exact ⟨_, r, rfl, hinv.advance kk, hk, htn, ds, hw, rfl, fun _ => hpart (by omega)⟩
  · by_cases hge : s.pos ≥ s.total
    · obtain ⟨s2, r2, o, e, ho, h2, hq2⟩ := readInput_spec hn hb h hge
      rw [read_next hfast hge e]
      by_cases hd : data = []
      · rw [if_pos hd, if_pos ⟨rfl, .inr (ho hd)⟩, hd, List.take_nil, List.drop_nil]
        exact ⟨s2, r2, rfl, hd ▸ h2⟩
      · rw [if_neg hd, if_neg (by simp)]
        simpa using readLoop_spec hn hb kk (kk + 1) s2 r2 [] data h2 hq2 (by simp) (by simp)
    · rw [read_cont hfast hge, if_neg (hne (by omega))]
      simpa using readLoop_spec hn hb kk (kk + 1) s r [] data h (fun h => absurd h (by omega)) (by simp) (by simp)

/-- What a consumer issuing `Read`s of sizes `ks` must see on a stream carrying `data`: each `Read`
delivers the next `k` bytes (fewer only when fewer are left), and the first `Read` with nothing
left delivers nothing and reports EOF. -/
def seqSpec : Bytes → List Nat → List Bytes × Option RErr
  | _, [] => ([], none)
  | data, k :: ks =>
    if data = [] then ([[]], some .eof)
    else (data.take k :: (seqSpec (data.drop k) ks).1, (seqSpec (data.drop k) ks).2)

theorem seqSpec_flatten (data : Bytes) (ks : List Nat) :
    (seqSpec data ks).1.flatten = data.take ks.sum := by
  induction ks generalizing data with
  | nil => simp [seqSpec]
  | cons k ks ih =>
    unfold seqSpec
    by_cases h : data = []
    · simp [h]
    · rw [if_neg h]
      simp only [List.flatten_cons, ih, List.sum_cons, List.take_add]

theorem seqSpec_err (data : Bytes) (ks : List Nat) :
    (seqSpec data ks).2 = none ∨
      ((seqSpec data ks).2 = some .eof ∧ (seqSpec data ks).1.flatten = data) := by
  induction ks generalizing data with
  | nil => simp [seqSpec]
  | cons k ks ih =>
    unfold seqSpec
    by_cases h : data = []
    · simp [h]
    · rw [if_neg h]
      rcases ih (data.drop k) with e | ⟨e, f⟩
      · exact Or.inl e
      · exact Or.inr ⟨e, by simp only [List.flatten_cons, f, List.take_append_drop]⟩

theorem seqSpec_eof (data : Bytes) (ks : List Nat) (hk : ∀ k ∈ ks, 0 < k) (hl : data.length < ks.length) :
    (seqSpec data ks).2 = some .eof := by
  induction ks generalizing data with
  | nil => simp at hl
  | cons k ks ih =>
    unfold seqSpec
    by_cases h : data = []
    · simp [h]
    · rw [if_neg h]
      have hk0 : 0 < k := hk k (by simp)
      have hd : 0 < data.length := List.length_pos_iff.mpr h
      exact ih (data.drop k) (fun k' hk' => hk k' (by simp [hk'])) (by
        simp only [List.length_drop, List.length_cons] at hl ⊢; omega)

theorem readSeq_spec (hn : 16 ≤ n) (hb : n < 256) (ks : List Nat) :
    ∀ {s : St} {r : Codec.Stream} {data : Bytes}, RSt k n s r data →
      readSeq s r ks = some (seqSpec data ks) := by
  induction ks with
  | nil => intro s r data _; rfl
  | cons kk ks ih =>
    intro s r data h
    obtain ⟨s', r', e, h'⟩ := read_spec hn hb h kk
    unfold readSeq seqSpec
    by_cases hd : data = []
    · rw [if_pos hd] at e
      simp [e, hd]
    · rw [if_neg hd] at e
      simp [e, hd, ih h']

/-- **`io.ReadAll`** on a complete CBK stream: all the data, no error, given one unit of fuel per
byte (every 512-byte `Read` before the last delivers at least one byte). -/
theorem readAll_spec (hn : 16 ≤ n) (hb : n < 256) :
    ∀ (fuel : Nat) {s : St} {r : Codec.Stream} {data : Bytes}, RSt k n s r data →
      data.length < fuel → readAll fuel s r = some (data, none) := by
  intro fuel
  induction fuel with
  | zero => intro s r data _ hf; omega
  | succ fuel ih =>
    intro s r data h hf
    obtain ⟨s', r', e, h'⟩ := read_spec hn hb h 512
    unfold readAll
    by_cases hd : data = []
    · rw [if_pos hd] at e
      simp [e, hd]
    · rw [if_neg hd] at e
      have hlen : 0 < data.length := List.length_pos_iff.mpr hd
      simp [e, ih h' (by rw [List.length_drop]; omega)]

theorem newSource_spec {a b c d sz : UInt8} {s0 : St} (h : newSource a b c d sz = some s0) :
    ∃ n, 16 ≤ n ∧ n < 256 ∧ s0.buf.length = n + 1 ∧ s0.pos = 0 ∧ s0.total = -1 ∧ s0.index = 0 := by
  unfold newSource at h
  simp only [Option.map_eq_some_iff] at h
  obtain ⟨n, hn, rfl⟩ := h
  refine ⟨n, ?_, ?_, by simp, rfl, rfl, rfl⟩
  all_goals
    split at hn
    · cases hn; decide
    · split at hn
      · rename_i h4
        cases hn
        rcases h4 with h4 | h4 | h4 | h4 <;> subst h4 <;> decide
      · cases hn

theorem layer_write (s0 : St) {s s1 : St} {c : Bytes} {o : List Bytes} (h : write s c = some (s1, o)) :
    (cbkLayer s0).write (some s) c = (some s1, o) := by
  simp [cbkLayer, h]

theorem layer_close (s0 : St) {s s1 : St} {o : List Bytes} (h : flushOutput s = some (s1, o)) :
    (cbkLayer s0).close (some s) = (some s1, o) := by
  simp [cbkLayer, h]

theorem layer_dec (s0 : St) {wire b : Bytes} (h : readAll (wire.length + 2) s0 [wire] = some (b, none)) :
    (cbkLayer s0).dec wire = some b := by
  simp [cbkLayer, h]

theorem layer_run (s0 : St) (ws : List Bytes) :
    ∀ (s : St) (out : List Bytes), writeAll s ws = some out →
      ∃ s', ((cbkLayer s0).close ((cbkLayer s0).writes (some s) ws).1).1 = some s' ∧ s'.pos = 0 ∧
        ((cbkLayer s0).writes (some s) ws).2 ++
          ((cbkLayer s0).close ((cbkLayer s0).writes (some s) ws).1).2 = out := by
  induction ws with
  | nil =>
    intro s out h
    simp only [writeAll, Option.map_eq_some_iff] at h
    obtain ⟨⟨s', o⟩, e, rfl⟩ := h
    have hc := layer_close s0 e
    exact ⟨s', congrArg Prod.fst hc, flushOutput_pos e, congrArg Prod.snd hc⟩
  | cons c cs ih =>
    intro s out h
    simp only [writeAll, Option.bind_eq_bind, Option.bind_eq_some_iff] at h
    obtain ⟨⟨s1, o⟩, e1, rest, e2, e3⟩ := h
    cases e3
    obtain ⟨s', f1, f2, f3⟩ := ih s1 rest e2
    simp only [Wrap.Layer.writes, layer_write s0 e1, List.append_assoc]
    exact ⟨s', f1, f2, by rw [f3]⟩

/-- The stream round trip from any fresh state: a buffer of one block plus the count byte, nothing
written or read yet (`total = -1` is the writer's "not started").  The key and the block index are
arbitrary; writer and reader start from the same ones. -/
theorem stream_fresh {n : Nat} (hn : 16 ≤ n) (hb : n < 256) {s0 : St} (hl : s0.buf.length = n + 1)
    (hp : s0.pos = 0) (ht : s0.total = -1) (ws : List Bytes) :
    ∃ out, writeAll s0 ws = some out ∧
      ∀ cs : Codec.Stream, cs.flatten = out.flatten →
        (∀ fuel, out.flatten.length < fuel → readAll fuel s0 cs = some (ws.flatten, none)) ∧
        (∀ ks, readSeq s0 cs ks = some (seqSpec ws.flatten ks)) := by
  obtain ⟨out, ds, e, hw, hd⟩ := writeAll_spec hn ws (WInv.nil rfl hl hp (.inr ht))
  rw [List.nil_append] at hd
  refine ⟨out, e, fun cs hcs => ?_⟩
  have hr : RSt s0.key n s0 cs ws.flatten :=
    hd ▸ RSt.start ⟨hl, by omega⟩ rfl (by omega) (by omega) (hcs ▸ hw)
  exact ⟨fun fuel hf => readAll_spec hn hb fuel hr (by rw [← hd]; exact Nat.lt_of_le_of_lt hw.length_le hf),
    fun ks => readSeq_spec hn hb ks hr⟩

theorem cbk_stream_chunked (a b c d sz : UInt8) (s0 : St) (h : newSource a b c d sz = some s0)
    (ws : List Bytes) :
    ∃ out, writeAll s0 ws = some out ∧
      ∀ cs : Codec.Stream, cs.flatten = out.flatten →
        (∀ fuel, out.flatten.length < fuel → readAll fuel s0 cs = some (ws.flatten, none)) ∧
        (∀ ks, readSeq s0 cs ks = some (seqSpec ws.flatten ks)) := by
  obtain ⟨n, hn, hb, hl, hp, ht, _⟩ := newSource_spec h
  exact stream_fresh hn hb hl hp ht ws

/-- `cbk_stream_chunked` in words of the pieces delivered: together they are the first `sum ks` bytes written;
the only possible error is EOF, reported only once everything was delivered; and it is reported as
soon as the non-empty `Read`s outnumber the bytes. -/
theorem cbk_stream_reads (a b c d sz : UInt8) (s0 : St) (h : newSource a b c d sz = some s0)
    (ws : List Bytes) (out : List Bytes) (hout : writeAll s0 ws = some out) (cs : Codec.Stream)
    (hcs : cs.flatten = out.flatten) (ks : List Nat) :
    ∃ pieces e, readSeq s0 cs ks = some (pieces, e) ∧ pieces.flatten = ws.flatten.take ks.sum ∧
      (e = none ∨ (e = some .eof ∧ pieces.flatten = ws.flatten)) ∧
      ((∀ k ∈ ks, 0 < k) → ws.flatten.length < ks.length → e = some .eof) := by
  obtain ⟨out', e', hall⟩ := cbk_stream_chunked a b c d sz s0 h ws
  rw [hout] at e'; cases e'
  exact ⟨_, _, (hall cs hcs).2 ks, seqSpec_flatten _ _, seqSpec_err _ _, seqSpec_eof _ _⟩

/-- The CBK wrapper started from any fresh state (as in `stream_fresh`) is a lossless layer of the
wrapper stack. -/
theorem cbkLayer_good {n : Nat} (hn : 16 ≤ n) (hb : n < 256) {s0 : St} (hl : s0.buf.length = n + 1)
    (hp : s0.pos = 0) (ht : s0.total = -1) : Wrap.LGood (cbkLayer s0) := by
  refine ⟨fun σ => ∃ s, σ = some s ∧ s.pos = 0, ?_, ?_⟩
  · rintro σ ⟨s, rfl, hp⟩
    rw [layer_close s0 (flushOutput_idle hp)]
    exact ⟨rfl, s, rfl, hp⟩
  · intro ws
    obtain ⟨out, e, hall⟩ := stream_fresh hn hb hl hp ht ws
    obtain ⟨s', f1, f2, f3⟩ := layer_run s0 ws s0 out e
    refine ⟨⟨s', f1, f2⟩, ?_⟩
    rw [show (cbkLayer s0).run ws = out from f3]
    exact layer_dec s0 ((hall [out.flatten] (by simp)).1 _ (by omega))

theorem cbk_stream (a b c d sz : UInt8) (s0 : St) (h : newSource a b c d sz = some s0) :
    Wrap.LGood (cbkLayer s0) := by
  obtain ⟨n, hn, hb, hl, hp, ht, _⟩ := newSource_spec h
  exact cbkLayer_good hn hb hl hp ht

end XMT.Cbk
