/-
  Lemmas for XMT.Flag: the getters as div / mod; each setter builds `word l p g b` with its own field
  new, `FlagFrag` set and the other fields kept (`set*_word`), which gives the field laws and that the
  flag bits above `FlagFrag` stay (`testBit_of_bits_frag`); `Set` and `Unset` act on each field as on a
  word of its own (`set_fields`, `unset_fields`); `Clear` on a fragment takes `FlagFrag` off the flag
  bits (`clear_of_frag`, from `x ^^^ 1` on an odd `x`).
-/
import XMT.Flag
namespace XMT.Flag

theorem len_eq (f : Nat) : len f = f / 2^48 % 2^16 := by rw [len, u16, Nat.shiftRight_eq_div_pow]
theorem position_eq (f : Nat) : position f = f / 2^32 % 2^16 := by
  rw [position, u16, Nat.shiftRight_eq_div_pow]
theorem group_eq (f : Nat) : group f = f / 2^16 % 2^16 := by
  rw [group, u16, Nat.shiftRight_eq_div_pow]
theorem bits_eq (f : Nat) : bits f = f % 2^16 := rfl

theorem len_lt (f : Nat) : len f < 2^16 := Nat.mod_lt _ (by decide)
theorem position_lt (f : Nat) : position f < 2^16 := Nat.mod_lt _ (by decide)
theorem group_lt (f : Nat) : group f < 2^16 := Nat.mod_lt _ (by decide)
theorem bits_lt (f : Nat) : bits f < 2^16 := Nat.mod_lt _ (by decide)

/-- What every setter builds: three fields that do not overlap, or-ed together with `FlagFrag`. The
word is handed over as a variable `r` with its half and its low bit, so that `omega` in the callers
sees `x + y + z` and never the `|||` term. -/
theorem or3_frag {x y z k1 k2 : Nat} (hx : x % 2^k1 = 0) (hy : y < 2^k1) (hxy : (x + y) % 2^k2 = 0)
    (hz : z < 2^k2) (h64 : x + y + z < 2^64) :
    ∃ r, u64 (x ||| y ||| z ||| flagFrag) = r ∧ r / 2 = (x + y + z) / 2 ∧ r % 2 = 1 := by
  rw [or_eq_add x y k1 hx hy, or_eq_add (x + y) z k2 hxy hz]
  have h3 := or_one_eq (x + y + z)
  unfold u64 flagFrag
  refine ⟨_, rfl, ?_, ?_⟩ <;> omega

/-- the flag word |len:16|pos:16|group:16|bits:16| -/
def word (l p g b : Nat) : Nat := l * 2^48 + p * 2^32 + g * 2^16 + b

theorem word_fields {l p g b : Nat} (hl : l < 2^16) (hp : p < 2^16) (hg : g < 2^16) (hb : b < 2^16) :
    len (word l p g b) = l ∧ position (word l p g b) = p ∧ group (word l p g b) = g ∧
    bits (word l p g b) = b ∧ word l p g b < 2^64 := by
  simp only [len_eq, position_eq, group_eq, bits_eq, word]
  refine ⟨?_, ?_, ?_, ?_, ?_⟩ <;> omega

theorem bits_frag_lt (f : Nat) : bits f ||| flagFrag < 2^16 :=
  Nat.or_lt_two_pow (bits_lt f) (by decide)

/-- `SetLen` and `SetPosition` are one expression: the new value in one of the two upper fields, the other
as it was. -/
theorem lenPos_word (f l p : Nat) (hl : l < 2^16) (hp : p < 2^16) :
    u64 ((l <<< 48) ||| (p <<< 32) ||| u32 f ||| flagFrag) = word l p (group f) (bits f ||| flagFrag) := by
  have hf : f % 2^32 < 2^32 := Nat.mod_lt _ (by decide)
  obtain ⟨r, hr, h1, h2⟩ := or3_frag (x := l * 2^48) (y := p * 2^32) (k1 := 48) (k2 := 32)
    (by omega) (by omega) (by omega) hf (by omega)
  have h3 := or_one_eq (f % 2^16)
  rw [u32, Nat.shiftLeft_eq, Nat.shiftLeft_eq, hr, word, group_eq, bits_eq, flagFrag]
  omega

theorem setLen_word (f n : Nat) (hn : n < 2^16) :
    setLen f n = word n (position f) (group f) (bits f ||| flagFrag) :=
  lenPos_word f n (position f) hn (position_lt f)

theorem setPosition_word (f n : Nat) (hn : n < 2^16) :
    setPosition f n = word (len f) n (group f) (bits f ||| flagFrag) :=
  lenPos_word f (len f) n (len_lt f) hn

theorem setGroup_word (f n : Nat) (hn : n < 2^16) (hf64 : f < 2^64) :
    setGroup f n = word (len f) (position f) n (bits f ||| flagFrag) := by
  have hf : f % 2^16 < 2^16 := Nat.mod_lt _ (by decide)
  obtain ⟨r, hr, h1, h2⟩ := or3_frag (x := f / 2^32 * 2^32) (y := n * 2^16) (k1 := 32) (k2 := 16)
    (by omega) (by omega) (by omega) hf (by omega)
  have h3 := or_one_eq (f % 2^16)
  rw [setGroup, u16, Nat.shiftLeft_eq, Nat.shiftLeft_eq, Nat.shiftRight_eq_div_pow, hr, word, len_eq, position_eq,
    bits_eq, flagFrag]
  omega

theorem setLen_fields (f n : Nat) (hn : n < 2^16) :
    len (setLen f n) = n ∧ position (setLen f n) = position f ∧ group (setLen f n) = group f ∧
    bits (setLen f n) = bits f ||| flagFrag ∧ setLen f n < 2^64 := by
  rw [setLen_word f n hn]
  exact word_fields hn (position_lt f) (group_lt f) (bits_frag_lt f)

theorem setPosition_fields (f n : Nat) (hn : n < 2^16) :
    position (setPosition f n) = n ∧ len (setPosition f n) = len f ∧
    group (setPosition f n) = group f ∧ bits (setPosition f n) = bits f ||| flagFrag ∧
    setPosition f n < 2^64 := by
  rw [setPosition_word f n hn]
  obtain ⟨h1, h2, h3⟩ := word_fields (len_lt f) hn (group_lt f) (bits_frag_lt f)
  exact ⟨h2, h1, h3⟩

theorem setGroup_fields (f n : Nat) (hn : n < 2^16) (hf : f < 2^64) :
    group (setGroup f n) = n ∧ len (setGroup f n) = len f ∧
    position (setGroup f n) = position f ∧ bits (setGroup f n) = bits f ||| flagFrag ∧
    setGroup f n < 2^64 := by
  rw [setGroup_word f n hn hf]
  obtain ⟨h1, h2, h3, h4⟩ := word_fields (len_lt f) (position_lt f) hn (bits_frag_lt f)
  exact ⟨h3, h1, h2, h4⟩

/-- the hypothesis is what `set*_fields` says of each setter -/
theorem testBit_of_bits_frag {f g k : Nat} (h : bits g = bits f ||| flagFrag) (h0 : 0 < k) (hk : k < 16) :
    g.testBit k = f.testBit k := by
  have h := congrArg (·.testBit k) h
  simpa only [bits_eq, flagFrag, Nat.testBit_or, Nat.testBit_mod_two_pow, hk, decide_true, Bool.true_and,
    testBit_of_lt (by decide : 1 < 2^1) h0, Bool.or_false] using h

theorem testBit_setLen (f n : Nat) (hn : n < 2^16) {k : Nat} (h0 : 0 < k) (hk : k < 16) :
    (setLen f n).testBit k = f.testBit k :=
  testBit_of_bits_frag (setLen_fields f n hn).2.2.2.1 h0 hk

theorem field_or (f n k : Nat) : u16 ((f ||| n) >>> k) = u16 (f >>> k) ||| u16 (n >>> k) := by
  rw [u16, u16, u16, Nat.shiftRight_or_distrib, Nat.or_mod_two_pow]

theorem field_andNot (f n k : Nat) :
    u16 ((f - (f &&& n)) >>> k) = u16 (f >>> k) - (u16 (f >>> k) &&& u16 (n >>> k)) := by
  apply Nat.eq_of_testBit_eq; intro i
  simp only [u16, testBit_sub_and, Nat.testBit_mod_two_pow, Nat.testBit_shiftRight]
  cases decide (i < 16) <;> simp

theorem set_fields (f n : Nat) :
    len (Flag.set f n) = len f ||| len n ∧ position (Flag.set f n) = position f ||| position n ∧
    group (Flag.set f n) = group f ||| group n ∧ bits (Flag.set f n) = bits f ||| bits n :=
  ⟨field_or f n 48, field_or f n 32, field_or f n 16, field_or f n 0⟩

theorem unset_fields (f n : Nat) :
    len (unset f n) = len f - (len f &&& len n) ∧
    position (unset f n) = position f - (position f &&& position n) ∧
    group (unset f n) = group f - (group f &&& group n) ∧
    bits (unset f n) = bits f - (bits f &&& bits n) :=
  ⟨field_andNot f n 48, field_andNot f n 32, field_andNot f n 16, field_andNot f n 0⟩

/-- a mask inside the 16 flag bits -/
theorem fields_of_lt {n : Nat} (hn : n < 2^16) :
    len n = 0 ∧ position n = 0 ∧ group n = 0 ∧ bits n = n := by
  simp only [len_eq, position_eq, group_eq, bits_eq]
  refine ⟨?_, ?_, ?_, ?_⟩ <;> omega

theorem xor_one_eq (x : Nat) : x ^^^ 1 = x + 1 - 2 * (x % 2) := by
  apply Nat.eq_of_testBit_eq
  intro i
  rw [Nat.testBit_xor]
  cases i with
  | zero => rcases Nat.mod_two_eq_zero_or_one x with h | h <;> simp [Nat.testBit_zero, h] <;> omega
  | succ i =>
    have h1 : Nat.testBit 1 (i + 1) = false := by simp [Nat.testBit_succ]
    rw [h1, Bool.xor_false]
    simp only [Nat.testBit_succ]
    congr 1
    omega

theorem xor_one_of_odd (x : Nat) (h : x % 2 = 1) : x ^^^ 1 = x - 1 := by
  rw [xor_one_eq, h]; omega

theorem xor_one_of_even (x : Nat) (h : x % 2 = 0) : x ^^^ 1 = x + 1 := by
  rw [xor_one_eq, h]; rfl

/-- `Clear` on a fragment: the flag bits without `FlagFrag`; the three fragment fields are gone with
the upper 48 bits. -/
theorem clear_of_frag (f : Nat) (h : bits f % 2 = 1) : clear f = bits f - flagFrag :=
  xor_one_of_odd _ h

end XMT.Flag
