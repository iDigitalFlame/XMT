/-
  XMT.PacketAlloc — the parts of `Packet.Unmarshal` (top-level wire form) on ARBITRARY bytes: what each
  read hands on was taken off the stream (`readExact_len`, `readTags_len`, `readLen_len`,
  `readPayload_len`), whatever length the header announces (also ≥ 2^63, which becomes "no limit"),
  and the loop of `readBody` ends by its own condition (`bodyLoop_fuel`: the fuel of the model is never
  what stops it; for the loop of `ReadFrom` inside it: `Took`, `readFromLoop_bound`, `readFromLoop_fuel`
  in XMT/ChunkReadFrom.lean).  Props/C04 `packetUnmarshal_*` puts them together.
-/
import XMT.Packet
import XMT.ChunkReadFrom
namespace XMT.Packet
open XMT.Codec
variable (cf : Nat → Nat)

theorem bodyLoop_bound : ∀ (fuel : Nat) (c : Chunk.Chunk) (s : Stream) (t len : Nat), c.Inv →
    Chunk.Chunk.Took c s t (bodyLoop cf fuel c s t len) := by
  intro fuel
  induction fuel with
  | zero => intro c s t len h; exact .refl h s t
  | succ fuel ih =>
    intro c s t len h
    unfold bodyLoop
    split
    · obtain ⟨r1, r2, _, r4, r5⟩ := Chunk.Chunk.readFrom_bound cf c s h
      simp only [Nat.sub_zero] at r4 r5
      have step : Chunk.Chunk.Took c s t ((c.readFrom cf s).1, t + (c.readFrom cf s).2.1, (c.readFrom cf s).2.2) :=
        ⟨r1, r2, Nat.le_add_right .., by dsimp only; omega, by dsimp only; omega⟩
      simp only
      split
      · exact ⟨r1, r2, Nat.le_refl _, by dsimp only; omega, by dsimp only; omega⟩
      · exact step.trans (ih _ _ _ len r1)
    · exact .refl h s t

theorem bodyLoop_fuel : ∀ (fuel : Nat) (c : Chunk.Chunk) (s : Stream) (t len : Nat), c.Inv →
    s.flatten.length + 1 ≤ fuel → bodyLoop cf (fuel + 1) c s t len = bodyLoop cf fuel c s t len := by
  intro fuel
  induction fuel with
  | zero => intro c s t len _ hf; omega
  | succ fuel ih =>
    intro c s t len h hf
    conv => lhs; unfold bodyLoop
    conv => rhs; unfold bodyLoop
    by_cases hlt : t < len
    · rw [if_pos hlt, if_pos hlt]
      obtain ⟨r1, _, _, r4⟩ := Chunk.Chunk.readFrom_bound cf c s h
      simp only
      by_cases h0 : (c.readFrom cf s).2.1 = 0
      · rw [if_pos h0, if_pos h0]
      · rw [if_neg h0, if_neg h0]
        exact ih _ _ _ len r1 (by omega)
    · rw [if_neg hlt, if_neg hlt]

theorem readExact_len {k : Nat} {s s' : Stream} {b : Bytes} (h : readExact k s = .ok (b, s')) :
    b.length = k ∧ k + s'.flatten.length = s.flatten.length := by
  unfold readExact at h
  simp only at h
  split at h
  · rename_i hk
    injection h with h
    have h1 := readFull_fst k s
    have h2 := readFull_snd k s
    rw [h] at hk h1 h2
    simp only at hk h1 h2
    refine ⟨hk, ?_⟩
    rw [h2, List.length_drop]
    have : (s.flatten.take k).length = k := by rw [← h1]; exact hk
    rw [List.length_take] at this
    omega
  · split at h <;> cases h

theorem readTags_len {n : Nat} {s s' : Stream} {ts : List Nat} (h : readTags n s = .ok (ts, s')) :
    ts.length = n ∧ 4 * n + s'.flatten.length = s.flatten.length := by
  induction n generalizing s ts with
  | zero => simp only [readTags] at h; injection h with h; cases h; simp
  | succ n ih =>
    unfold readTags at h
    split at h
    · cases h
    · rename_i b0 b1 b2 b3 s1 he
      obtain ⟨_, e2⟩ := readExact_len he
      dsimp only at h
      split at h
      · cases h
      · split at h
        · cases h
        · rename_i ts1 s2 hr
          injection h with h
          cases h
          obtain ⟨i1, i2⟩ := ih hr
          exact ⟨by simp [i1], by omega⟩
    · cases h

/-- every arm hands the stream on as it is or after one `readExact` -/
theorem readLen_len {cls : UInt8} {s s' : Stream} {len : Nat} (h : readLen cls s = .ok (len, s')) :
    s'.flatten.length ≤ s.flatten.length := by
  unfold readLen at h
  repeat' split at h
  all_goals first
    | (injection h with h; cases h; omega)
    | (rename_i he; cases h; have := (readExact_len he).2; omega)
    | (cases h; done)

/-- `bodyLoop_bound` from the empty chunk; an announced length below 2^63 is the chunk's limit, which the
invariant keeps the bytes held under. -/
theorem readPayload_len {len : Nat} {s s' : Stream} {pay : Bytes} (h : readPayload cf len s = .ok (pay, s')) :
    len ≤ pay.length ∧ pay.length + s'.flatten.length ≤ s.flatten.length ∧ (len < 2^63 → pay.length = len) := by
  unfold readPayload at h
  split at h
  · rename_i h0; injection h with h; cases h; subst h0; simp
  · dsimp only at h
    generalize hlim : (if len < 2^63 then (len : Int) else (len : Int) - 2^64) = lim at h
    split at h
    · cases h
    · rename_i hge
      injection h with h
      injection h with hp hs
      obtain ⟨b1, b2, _, b4, b5⟩ := bodyLoop_bound cf (s.flatten.length + 2) (Chunk.empty lim) s 0 len
        (Chunk.Chunk.inv_empty lim)
      rw [Chunk.Chunk.unread_empty, List.length_nil] at b4
      simp only [Nat.zero_add, Nat.sub_zero] at b4 b5
      rw [← hp, ← hs]
      refine ⟨by omega, by omega, fun hl => ?_⟩
      have hlpos : (Chunk.empty lim).limit = (len : Int) := by
        simp only [Chunk.empty]; rw [← hlim, if_pos hl]
      have hul := Chunk.Chunk.unread_length b1
      have := b1.lim (by rw [b2, hlpos]; omega)
      rw [b2, hlpos] at this
      omega

end XMT.Packet
