/-
  XMT.BatchDrain — `Session.next` call by call until the queue drains. `next` / `nextM` as equations on
  what the session holds (`nextM_nil`, `nextM_cons`); what one call does with it (`nextM_spec`, for
  every merge function and with or without an abandoned fragment group pending); from it that draining
  loses, duplicates and reorders nothing (`drain_spec`, over `drainM mg`; `drainM mergeTags` is the
  model's `drain`) and that every transmission marshals when the queued tag lists fit together
  (`drainM_marshals`). The skip loop for an abandoned group is characterised in both directions
  (`skipGroup_spec`, `skipGroup_of_split`).
-/
import XMT.BatchNext
namespace XMT.Batch
open XMT.Packet

/-- everything a session still has to send: the carried-over packet, then the queue -/
def content (st : St) : List Pkt := st.peek.toList ++ st.q

theorem pick_spec (st : St) :
    (content st = [] ∧ pick st = (none, [])) ∨ ∃ n q, content st = n :: q ∧ pick st = (some n, q) := by
  unfold pick content
  cases st.peek with
  | some n => exact Or.inr ⟨n, st.q, rfl, rfl⟩
  | none =>
    cases st.q with
    | nil => exact Or.inl ⟨rfl, rfl⟩
    | cons h t => exact Or.inr ⟨h, t, rfl, rfl⟩

theorem content_eq_nil {st : St} (h : content st = []) : st.peek = none ∧ st.q = [] :=
  let ⟨hp, hq⟩ := List.append_eq_nil_iff.mp h
  ⟨Option.toList_eq_nil_iff.mp hp, hq⟩

theorem nextM_nil (mg : List Nat → List Nat → List Nat) (P F : Nat) {st : St} (i : Bytes)
    (h : content st = []) : nextM mg P F st i = (none, st) := by
  obtain ⟨hp, hq⟩ := content_eq_nil h
  obtain ⟨q, pk, l⟩ := st
  subst hp hq
  rfl

theorem nextM_cons (mg : List Nat → List Nat → List Nat) (P F : Nat) {st : St} (i : Bytes) {n : Pkt}
    {q : List Pkt} (h : content st = n :: q) : nextM mg P F st i = nextFromM mg P F st.last i n q := by
  rcases pick_spec st with ⟨h0, _⟩ | ⟨n', q', hc, hp⟩
  · exact nomatch h0.symm.trans h
  · obtain ⟨rfl, rfl⟩ := List.cons.inj (hc.symm.trans h)
    unfold nextM; rw [hp]

/-- the skip loop drops a prefix of packets that all belong to the abandoned group -/
theorem skipGroup_spec (last : Nat) (n : Pkt) (q : List Pkt) :
    ∃ dropped, n :: q = dropped ++ (skipGroup last n q).1 :: (skipGroup last n q).2 ∧
      (∀ d ∈ dropped, Flag.group d.flags = last) ∧
      (Flag.group (skipGroup last n q).1.flags = last → (skipGroup last n q).2 = []) := by
  induction q generalizing n with
  | nil => exact ⟨[], rfl, by simp, fun _ => rfl⟩
  | cons h tl ih =>
    unfold skipGroup
    split
    · rename_i hg
      obtain ⟨dr, h1, h2, h3⟩ := ih h
      refine ⟨n :: dr, by rw [List.cons_append, ← h1], ?_, h3⟩
      intro d hd
      rcases List.mem_cons.mp hd with rfl | hd
      · exact hg
      · exact h2 d hd
    · rename_i hg
      exact ⟨[], rfl, by simp, fun h => absurd h hg⟩

/-- conversely, a list that splits into packets of the abandoned group and a rest that the loop stops
at is skipped down to that rest -/
theorem skipGroup_of_split (last : Nat) : ∀ (dr : List Pkt) (n a : Pkt) (q qs : List Pkt),
    n :: q = dr ++ a :: qs → (∀ d ∈ dr, Flag.group d.flags = last) →
    (Flag.group a.flags = last → qs = []) → skipGroup last n q = (a, qs)
  | [], n, a, q, qs, h, _, ha => by
    obtain ⟨rfl, rfl⟩ := List.cons.inj h
    cases q with
    | nil => rfl
    | cons b t => rw [skipGroup, if_neg fun hg => nomatch ha hg]
  | d :: dr, n, a, q, qs, h, hd, ha => by
    rw [List.cons_append] at h
    obtain ⟨rfl, rfl⟩ := List.cons.inj h
    obtain ⟨b, t, he⟩ : ∃ b t, dr ++ a :: qs = b :: t := by cases dr <;> exact ⟨_, _, rfl⟩
    rw [he, skipGroup, if_pos (hd _ List.mem_cons_self)]
    exact skipGroup_of_split last dr b a t qs he.symm (fun x hx => hd x (List.mem_cons_of_mem _ hx)) ha

theorem dropped_nil {last : Nat} {dr : List Pkt} (hl : last = 0)
    (h : ∀ d ∈ dr, 0 < last ∧ Flag.group d.flags = last) : dr = [] :=
  List.eq_nil_iff_forall_not_mem.mpr fun d hd => absurd (h d hd).1 (by omega)

/-- outcome `r` = (transmission `o`, new state) of one `Session.next` call on a session that held the
packets `l`, the first with tag list `t`, with the fragment group `last` to abandon (0: none): a
prefix `dropped` of packets of that group was skipped, the prefix `pre` of what follows was consumed
and the new state holds the rest, nothing pending any more; the peer unpacks — keep-alives and tag
lists aside — `pre`; the tag list handed out is `t` or the merge with `t` of the tag lists of
`taken` (packets of `pre`, in order), possibly followed by `t`. -/
structure NextOut (mg : List Nat → List Nat → List Nat) (last : Nat) (l : List Pkt) (t : List Nat)
    (r : Option Pkt × St) (o : Pkt) (dropped pre taken : List Pkt) : Prop where
  out : r.1 = some o
  split : l = dropped ++ pre ++ content r.2
  cleared : r.2.last = 0
  skipped : ∀ d ∈ dropped, 0 < last ∧ Flag.group d.flags = last
  ne : dropped ++ pre ≠ []
  obs : ∃ obs, unpack 3 o = .ok obs ∧ (keepF obs).map core = (keepF pre).map core
  sub : taken.Sublist pre
  tags : o.tags = t ∨ o.tags = mg (tagsOf taken) t ∨ o.tags = mg (tagsOf taken ++ t) t

section
variable (mg : List Nat → List Nat → List Nat) (P F : Nat)

theorem nextFromM_spec (hP : P < Facts.fragMax) (last : Nat) (i : Bytes) (n : Pkt) (q : List Pkt)
    (hq : ∀ a ∈ n :: q, QWF a) :
    ∃ o dropped pre taken, NextOut mg last (n :: q) n.tags (nextFromM mg P F last i n q) o dropped pre taken := by
  have hn := hq n List.mem_cons_self
  -- the batching branches, after a prefix `dr` of the abandoned group was skipped
  have batch : ∀ dr n' q', n :: q = dr ++ n' :: q' → (∀ d ∈ dr, 0 < last ∧ Flag.group d.flags = last) →
      ∃ o dropped pre taken, NextOut mg last (n :: q) n.tags
        ((nextPacket P F q' (some n') i n.tags).1.map fun o => { o with tags := mg o.tags n.tags },
         { q := (nextPacket P F q' (some n') i n.tags).2.2,
           peek := (nextPacket P F q' (some n') i n.tags).2.1, last := 0 }) o dropped pre taken := by
    intro dr n' q' hsplit hdr
    obtain ⟨o, pre, taken, hs⟩ := nextPacket_spec P F hP i n.tags (some n') q'
      (fun a ha => hq a (by rw [hsplit]; exact List.mem_append_right _ ha)) (List.cons_ne_nil _ _)
    obtain ⟨obs, hu, hk⟩ := hs.obs (mg o.tags n.tags)
    refine ⟨_, dr, pre, taken, by rw [hs.out]; rfl, ?_, rfl, hdr, by simp [hs.ne],
      ⟨obs, hu, by rw [hk, hs.keep]⟩, hs.sub, ?_⟩
    · rw [hsplit, List.append_assoc]; exact congrArg _ hs.split
    · rcases hs.tags with h | h
      · exact Or.inr (Or.inl (congrArg (mg · n.tags) h))
      · exact Or.inr (Or.inr (congrArg (mg · n.tags) h))
  by_cases halone : (q = [] ∨ isRekey n = true) ∧ (verify n i).2 = true
  · rw [nextFromM_alone mg P F last i halone, qwf_verify hn i]
    exact ⟨n, [], [n], [n], rfl, rfl, rfl, by simp, by simp, ⟨[n], unpack_plain 2 hn.plain, rfl⟩, .refl _,
      Or.inl rfl⟩
  · unfold nextFromM
    rw [if_neg halone]
    by_cases hl : last > 0
    · rw [if_pos hl]
      obtain ⟨dr, hd1, hd2, hd3⟩ := skipGroup_spec last n q
      by_cases hg : Flag.group (skipGroup last n q).1.flags = last
      · -- everything that was left belonged to the abandoned group: a keep-alive goes out
        rw [if_pos hg, hd3 hg]
        obtain ⟨h1, h2⟩ := idle_spec { id := 0, job := 0, flags := 0, tags := n.tags, dev := i, payload := [] }
          rfl rfl rfl
        refine ⟨_, n :: q, [], [], rfl, by simp [content], rfl, fun d hd => ⟨hl, ?_⟩, by simp,
          ⟨_, h1, congrArg _ h2⟩, .slnil, Or.inl rfl⟩
        rw [hd1, hd3 hg] at hd
        rcases List.mem_append.mp hd with h | h
        · exact hd2 d h
        · rw [List.mem_singleton.mp h]; exact hg
      · rw [if_neg hg]
        exact batch dr _ _ hd1 fun d hd => ⟨hl, hd2 d hd⟩
    · rw [if_neg hl]
      obtain rfl : last = 0 := by omega
      exact batch [] n q rfl (by simp)

/-- **`Session.next`, one call**, for every merge function, with or without an abandoned group
pending: nothing goes out only when the session holds nothing (the state stays); otherwise see `NextOut`. -/
theorem nextM_spec (hP : P < Facts.fragMax) (i : Bytes) (st : St) (hq : ∀ a ∈ content st, QWF a) :
    (content st = [] ∧ nextM mg P F st i = (none, st)) ∨
    ∃ n q, content st = n :: q ∧
      ∃ o dropped pre taken, NextOut mg st.last (n :: q) n.tags (nextM mg P F st i) o dropped pre taken := by
  cases hc : content st with
  | nil => exact Or.inl ⟨rfl, nextM_nil mg P F i hc⟩
  | cons n q =>
    rw [nextM_cons mg P F i hc]
    exact Or.inr ⟨n, q, rfl, nextFromM_spec mg P F hP st.last i n q (hc ▸ hq)⟩

end

theorem NextOut.rest {mg : List Nat → List Nat → List Nat} {last : Nat} {l : List Pkt} {t : List Nat}
    {r : Option Pkt × St} {o : Pkt} {dr pre taken : List Pkt} (h : NextOut mg last l t r o dr pre taken) :
    content r.2 <:+ l ∧ (content r.2).length < l.length := by
  refine ⟨⟨dr ++ pre, h.split.symm⟩, ?_⟩
  rw [h.split, List.length_append]
  have := List.length_pos_iff.mpr h.ne
  omega

/-- what goes out marshals when the tag lists of everything held fit `PacketMaxTags` together -/
theorem NextOut.marshals {mg : List Nat → List Nat → List Nat} (hmg : ∀ a b, IsMerge a b (mg a b))
    {last : Nat} {n : Pkt} {q : List Pkt} {r : Option Pkt × St} {o : Pkt} {dr pre taken : List Pkt}
    (hq : ∀ a ∈ n :: q, QWF a) (h : NextOut mg last (n :: q) n.tags r o dr pre taken) :
    o.tags.length ≤ tagSum (n :: q) ∧ ∀ t ∈ o.tags, t ≠ 0 := by
  have hnz := tagsOf_ne_zero hq
  have hnt : ∀ x ∈ n.tags, x ∈ tagsOf (n :: q) := mem_tagsOf_of_mem List.mem_cons_self
  have hnl : n.tags.length ≤ tagSum (n :: q) := tags_length_le_of_mem List.mem_cons_self
  have htk : (tagsOf taken).Sublist (tagsOf (n :: q)) := tagsOf_sublist <| by
    rw [h.split]; exact h.sub.trans ((List.sublist_append_right _ _).trans (List.sublist_append_left _ _))
  -- a merge with `n.tags` of tags from the pool
  have merged : ∀ T : List Nat, (∀ x ∈ T, x ∈ tagsOf (n :: q)) →
      (n.tags = [] → T.length ≤ tagSum (n :: q)) → o.tags = mg T n.tags →
      o.tags.length ≤ tagSum (n :: q) ∧ ∀ t ∈ o.tags, t ≠ 0 := by
    intro T h1 h2 ht
    obtain ⟨hb, hm⟩ := merge_bound (tagsOf (n :: q)) T n.tags _ h1 hnt h2 hnl (hmg T n.tags)
    rw [ht]; exact ⟨hb, fun t ht => hnz t (hm t ht)⟩
  rcases h.tags with h | h | h
  · rw [h]; exact ⟨hnl, fun t ht => hnz t (hnt t ht)⟩
  · exact merged _ htk.subset (fun _ => htk.length_le) h
  · refine merged _ (fun x hx => (List.mem_append.mp hx).elim (htk.subset ·) (hnt x)) (fun h0 => ?_) h
    rw [h0, List.append_nil]; exact htk.length_le

section
variable (P F : Nat)

/-- **`Session.next`, one call, no abandoned group pending**: nothing goes out only when the session
holds nothing (the state stays); otherwise a non-empty prefix `pre` of what it holds is consumed, the peer
unpacks — keep-alives and tag lists aside — exactly `pre`, and the session keeps the rest. -/
theorem next_spec (hP : P < Facts.fragMax) (i : Bytes) (st : St) (hl : st.last = 0)
    (hq : ∀ a ∈ content st, QWF a) :
    (content st = [] ∧ next P F st i = (none, st)) ∨
    ∃ o pre obs, (next P F st i).1 = some o ∧ content st = pre ++ content (next P F st i).2 ∧ pre ≠ [] ∧
      (next P F st i).2.last = 0 ∧ unpack 3 o = .ok obs ∧ (keepF obs).map core = (keepF pre).map core := by
  rcases nextM_spec mergeTags P F hP i st hq with h | ⟨n, q, hc, o, dr, pre, _, h⟩
  · exact Or.inl h
  · obtain rfl := dropped_nil hl h.skipped
    obtain ⟨obs, hu⟩ := h.obs
    exact Or.inr ⟨o, pre, obs, h.out, hc.trans h.split, h.ne, h.cleared, hu⟩

/-- successive transmissions until there is nothing left to send -/
def drain (i : Bytes) : Nat → St → List Pkt
  | 0, _ => []
  | fuel + 1, st =>
    match (next P F st i).1 with
    | none => []
    | some o => o :: drain i fuel (next P F st i).2

/-- what the peer's handlers observe over a sequence of transmissions (depth 3: a transmission, the
packets batched in it, one more level; for a batch of `Plain` packets any depth from 2 on unpacks the
same, `unpack_carries`) -/
def observe : List Pkt → Except PErr (List Pkt)
  | [] => .ok []
  | o :: os =>
    match unpack 3 o with
    | .error e => .error e
    | .ok obs => match observe os with
      | .error e => .error e
      | .ok rest => .ok (obs ++ rest)

theorem observe_cons_ok {o : Pkt} {os a b : List Pkt} (h1 : unpack 3 o = .ok a) (h2 : observe os = .ok b) :
    observe (o :: os) = .ok (a ++ b) := by
  unfold observe; rw [h1, h2]

end

section
variable (mg : List Nat → List Nat → List Nat) (P F : Nat)

/-- successive transmissions, any merge function -/
def drainM (i : Bytes) : Nat → St → List Pkt
  | 0, _ => []
  | fuel + 1, st =>
    match (nextM mg P F st i).1 with
    | none => []
    | some o => o :: drainM i fuel (nextM mg P F st i).2

theorem drainM_mergeTags (i : Bytes) : ∀ (fuel : Nat) (st : St),
    drainM mergeTags P F i fuel st = drain P F i fuel st
  | 0, _ => rfl
  | fuel + 1, st => by
    rw [drainM, drain, nextM_mergeTags]
    cases (next P F st i).1 with
    | none => rfl
    | some o => exact congrArg (o :: ·) (drainM_mergeTags i fuel _)

/-- call by call from `nextM_spec`; the first call clears `last` (`NextOut.cleared`), so no later call
skips anything (`dropped_nil`) -/
theorem drain_spec (hP : P < Facts.fragMax) (i : Bytes) :
    ∀ (fuel : Nat) (st : St), (content st).length < fuel → (∀ a ∈ content st, QWF a) →
      ∃ dropped rest, content st = dropped ++ rest ∧
        (∀ d ∈ dropped, 0 < st.last ∧ Flag.group d.flags = st.last) ∧
        ∃ obs, observe (drainM mg P F i fuel st) = .ok obs ∧ (keepF obs).map core = (keepF rest).map core := by
  intro fuel
  induction fuel with
  | zero => intro st h; omega
  | succ fuel ih =>
    intro st hf hq
    unfold drainM
    rcases nextM_spec mg P F hP i st hq with ⟨h0, hn⟩ | ⟨n, q, hc, o, dr, pre, _, h⟩
    · rw [hn]; exact ⟨[], [], h0, by simp, [], rfl, rfl⟩
    · rw [← hc] at h
      obtain ⟨hsuf, hlt⟩ := h.rest
      obtain ⟨obs, hu, hk⟩ := h.obs
      obtain ⟨dr2, rest2, h1, h2, obs2, ho2, hk2⟩ := ih (nextM mg P F st i).2 (by omega)
        fun a ha => hq a (hsuf.subset ha)
      obtain rfl := dropped_nil h.cleared h2
      rw [h.out]
      exact ⟨dr, pre ++ rest2, by rw [h.split, h1, List.append_assoc]; rfl, h.skipped, obs ++ obs2,
        observe_cons_ok hu ho2, keepF_core_append hk hk2⟩

theorem drainM_marshals (hmg : ∀ a b, IsMerge a b (mg a b)) (hP : P < Facts.fragMax) (i : Bytes) :
    ∀ (fuel : Nat) (st : St), (∀ a ∈ content st, QWF a) →
      ∀ o ∈ drainM mg P F i fuel st, o.tags.length ≤ tagSum (content st) ∧ ∀ t ∈ o.tags, t ≠ 0 := by
  intro fuel
  induction fuel with
  | zero => intro st _ o ho; cases ho
  | succ fuel ih =>
    intro st hq o ho
    unfold drainM at ho
    rcases nextM_spec mg P F hP i st hq with ⟨_, hn⟩ | ⟨n, q, hc, o1, _, _, _, h⟩
    · rw [hn] at ho; cases ho
    · rw [hc] at hq ⊢
      rw [h.out] at ho
      rcases List.mem_cons.mp ho with rfl | ho
      · exact h.marshals hmg hq
      · have hsub := h.rest.1.sublist
        have := ih (nextM mg P F st i).2 (fun a ha => hq a (hsub.subset ha)) o ho
        exact ⟨Nat.le_trans this.1 (tagSum_sublist hsub), this.2⟩

end
end XMT.Batch
