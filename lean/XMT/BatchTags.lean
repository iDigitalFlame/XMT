/-
  XMT.BatchTags — the tag list of a transmission.

  `writeUnpack(o, n, true, true)` appends the tag list of every packed packet to the batch
  (`dst.Tags = append(dst.Tags, src.Tags...)`, c2/vars.go), `Session.next` then stamps
  `mergeTags(n.Tags, t)` (t = tag list of the packet that was picked first) on what goes out, and
  `(*Packet).Marshal` (com/packet.go writeHeader) refuses a packet with more than `PacketMaxTags`
  tags ("tags list is too large"): AFTER the packets were dequeued.

  This file holds the vocabulary: the tags of a list of packets (`tagsOf`), `mergeTags` as a
  specification (`IsMerge`), `Session.next` over any merge function (`nextM`) and when `Marshal`
  accepts a packet. What the tag list of a transmission is and when it marshals is proved with the
  rest of `nextPacket` / `next` (XMT/BatchNext.lean, XMT/BatchDrain.lean); the queue whose batch
  `Marshal` refuses is in XMT/BatchTagsWitness.lean.

  `mergeTags` builds the union through a Go map: the order of the result is unspecified. The
  theorems therefore quantify over EVERY merge function that satisfies `IsMerge` (the three
  short-cuts of the Go function literally, else: no duplicates, the union as a set).
-/
import XMT.BatchLemmas
namespace XMT.Batch
open XMT.Packet

/-- all tags of a list of packets, in order -/
def tagsOf (l : List Pkt) : List Nat := (l.map (·.tags)).flatten

def tagSum (l : List Pkt) : Nat := (tagsOf l).length

theorem tagsOf_nil : tagsOf [] = [] := rfl
theorem tagsOf_cons (a : Pkt) (l : List Pkt) : tagsOf (a :: l) = a.tags ++ tagsOf l := rfl
theorem tagsOf_append (a b : List Pkt) : tagsOf (a ++ b) = tagsOf a ++ tagsOf b := by
  simp [tagsOf]

theorem tagsOf_sublist {a b : List Pkt} (h : a.Sublist b) : (tagsOf a).Sublist (tagsOf b) := by
  induction h with
  | slnil => exact List.Sublist.refl _
  | cons x _ ih => rw [tagsOf_cons]; exact ih.trans (List.sublist_append_right _ _)
  | cons_cons x _ ih => rw [tagsOf_cons, tagsOf_cons]; exact List.Sublist.append (List.Sublist.refl _) ih

theorem tagSum_sublist {a b : List Pkt} (h : a.Sublist b) : tagSum a ≤ tagSum b :=
  (tagsOf_sublist h).length_le

theorem mem_tagsOf_of_mem {a : Pkt} {l : List Pkt} (h : a ∈ l) : ∀ x ∈ a.tags, x ∈ tagsOf l :=
  fun _ hx => List.mem_flatten.mpr ⟨a.tags, List.mem_map.mpr ⟨a, h, rfl⟩, hx⟩

theorem tags_length_le_of_mem {a : Pkt} {l : List Pkt} (h : a ∈ l) : a.tags.length ≤ tagSum l := by
  have := tagSum_sublist (List.singleton_sublist.mpr h)
  rwa [tagSum, tagsOf_cons, tagsOf_nil, List.append_nil] at this

theorem tagsOf_ne_zero {l : List Pkt} (h : ∀ a ∈ l, QWF a) : ∀ x ∈ tagsOf l, x ≠ 0 := by
  intro x hx
  unfold tagsOf at hx
  obtain ⟨ts, hts, hx⟩ := List.mem_flatten.mp hx
  obtain ⟨a, ha, rfl⟩ := List.mem_map.mp hts
  have := ((h a ha).wf.tags x hx).1
  omega

/-- what `mergeTags(one, two)` may return: the three short-cuts literally, otherwise the union as a
set, without duplicates, in ANY order (the Go code ranges over a map) -/
def IsMerge (one two r : List Nat) : Prop :=
  if one = [] ∧ two = [] then r = []
  else if one = [] then r = two
  else if two = [] then r = one
  else r.Nodup ∧ ∀ x, x ∈ r ↔ (x ∈ one ∨ x ∈ two)

instance (one two r : List Nat) : Decidable (IsMerge one two r) := by
  unfold IsMerge
  by_cases h1 : one = [] ∧ two = []
  · rw [if_pos h1]; infer_instance
  · rw [if_neg h1]
    by_cases h2 : one = []
    · rw [if_pos h2]; infer_instance
    · rw [if_neg h2]
      by_cases h3 : two = []
      · rw [if_pos h3]; infer_instance
      · rw [if_neg h3]
        exact decidable_of_iff (r.Nodup ∧ (∀ x ∈ r, x ∈ one ∨ x ∈ two) ∧ (∀ x ∈ one, x ∈ r) ∧ (∀ x ∈ two, x ∈ r))
          ⟨fun ⟨a, b, c, d⟩ => ⟨a, fun x => ⟨b x, fun h => h.elim (c x) (d x)⟩⟩,
           fun ⟨a, b⟩ => ⟨a, fun x hx => (b x).mp hx, fun x hx => (b x).mpr (Or.inl hx),
             fun x hx => (b x).mpr (Or.inr hx)⟩⟩

/-- a reference merge function (keeps the last occurrence of every tag): shows `IsMerge` is
satisfiable for all arguments -/
def dedup : List Nat → List Nat
  | [] => []
  | x :: xs => if x ∈ dedup xs then dedup xs else x :: dedup xs

theorem mem_dedup (x : Nat) : ∀ l : List Nat, x ∈ dedup l ↔ x ∈ l := by
  intro l
  induction l with
  | nil => simp [dedup]
  | cons y ys ih =>
    unfold dedup
    by_cases h : y ∈ dedup ys
    · rw [if_pos h, List.mem_cons, ih]
      constructor
      · exact Or.inr
      · rintro (rfl | h')
        · exact ih.mp h
        · exact h'
    · rw [if_neg h, List.mem_cons, List.mem_cons, ih]

theorem nodup_dedup : ∀ l : List Nat, (dedup l).Nodup := by
  intro l
  induction l with
  | nil => simp [dedup]
  | cons y ys ih =>
    unfold dedup
    by_cases h : y ∈ dedup ys
    · rw [if_pos h]; exact ih
    · rw [if_neg h]; exact List.nodup_cons.mpr ⟨h, ih⟩

def mergeRef (one two : List Nat) : List Nat :=
  if one = [] ∧ two = [] then []
  else if one = [] then two
  else if two = [] then one
  else dedup (one ++ two)

theorem mergeRef_isMerge (one two : List Nat) : IsMerge one two (mergeRef one two) := by
  unfold IsMerge mergeRef
  split
  · rfl
  · split
    · rfl
    · split
      · rfl
      · exact ⟨nodup_dedup _, fun x => by rw [mem_dedup, List.mem_append]⟩

/-- the size and content of a merged tag list inside a pool `A` of tags -/
theorem merge_bound (A one two r : List Nat) (h1 : ∀ x ∈ one, x ∈ A) (h2 : ∀ x ∈ two, x ∈ A)
    (hl1 : two = [] → one.length ≤ A.length) (hl2 : two.length ≤ A.length) (hm : IsMerge one two r) :
    r.length ≤ A.length ∧ ∀ x ∈ r, x ∈ A := by
  unfold IsMerge at hm
  split at hm
  · subst hm; exact ⟨Nat.zero_le _, fun x hx => by cases hx⟩
  · split at hm
    · subst hm; exact ⟨hl2, h2⟩
    · split at hm
      · subst hm; exact ⟨hl1 ‹_›, h1⟩
      · have hsub : ∀ x ∈ r, x ∈ A := fun x hx => ((hm.2 x).mp hx).elim (h1 x) (h2 x)
        exact ⟨hm.1.length_le_of_subset hsub, hsub⟩

section
variable (mg : List Nat → List Nat → List Nat) (P F : Nat)

/-- `nextFrom` with the merge function as a parameter (`nextFrom = nextFromM mergeTags`) -/
def nextFromM (last : Nat) (i : Bytes) (n : Pkt) (q : List Pkt) : Option Pkt × St :=
  if (q = [] ∨ isRekey n) ∧ (verify n i).2 then
    (some (verify n i).1, { q := q, peek := none, last := 0 })
  else if last > 0 then
    if Flag.group (skipGroup last n q).1.flags = last then
      (some { id := 0, job := 0, flags := 0, tags := n.tags, dev := i, payload := [] },
       { q := (skipGroup last n q).2, peek := none, last := 0 })
    else
      ((nextPacket P F (skipGroup last n q).2 (some (skipGroup last n q).1) i n.tags).1.map
          fun o => { o with tags := mg o.tags n.tags },
       { q := (nextPacket P F (skipGroup last n q).2 (some (skipGroup last n q).1) i n.tags).2.2,
         peek := (nextPacket P F (skipGroup last n q).2 (some (skipGroup last n q).1) i n.tags).2.1,
         last := 0 })
  else
    ((nextPacket P F q (some n) i n.tags).1.map fun o => { o with tags := mg o.tags n.tags },
     { q := (nextPacket P F q (some n) i n.tags).2.2, peek := (nextPacket P F q (some n) i n.tags).2.1,
       last := last })

/-- `Session.next` over any merge function -/
def nextM (st : St) (i : Bytes) : Option Pkt × St :=
  match (pick st).1 with
  | none => (none, { st with peek := none })
  | some n => nextFromM mg P F st.last i n (pick st).2

end

/-- the packet picked goes out on its own: nothing else is queued or it carries key material, and
it is the session's own -/
theorem nextFromM_alone (mg : List Nat → List Nat → List Nat) (P F last : Nat) (i : Bytes) {n : Pkt}
    {q : List Pkt} (h : (q = [] ∨ isRekey n = true) ∧ (verify n i).2 = true) :
    nextFromM mg P F last i n q = (some (verify n i).1, { q := q, peek := none, last := 0 }) :=
  if_pos h

theorem nextFromM_mergeTags (P F last : Nat) (i : Bytes) (n : Pkt) (q : List Pkt) :
    nextFromM mergeTags P F last i n q = nextFrom P F last i n q := rfl

theorem nextM_mergeTags (P F : Nat) (st : St) (i : Bytes) : nextM mergeTags P F st i = next P F st i := rfl

theorem nextFromM_state (mg : List Nat → List Nat → List Nat) (P F last : Nat) (i : Bytes) (n : Pkt)
    (q : List Pkt) : (nextFromM mg P F last i n q).2 = (nextFrom P F last i n q).2 := by
  unfold nextFromM nextFrom
  split
  · rfl
  · split
    · split <;> rfl
    · rfl

theorem nextM_state (mg : List Nat → List Nat → List Nat) (P F : Nat) (st : St) (i : Bytes) :
    (nextM mg P F st i).2 = (next P F st i).2 := by
  unfold nextM next
  cases (pick st).1 with
  | none => rfl
  | some n => exact nextFromM_state mg P F st.last i n _

/-- `Marshal` (com/packet.go writeHeader / writeBody) succeeds exactly when the tag list is within
`PacketMaxTags` and holds no zero tag -/
theorem marshalWrites_ok_iff (p : Pkt) :
    (∃ w, marshalWrites p = .ok w) ↔ (p.tags.length ≤ Facts.packetMaxTags ∧ ∀ t ∈ p.tags, t ≠ 0) := by
  unfold marshalWrites
  by_cases h1 : p.tags.length > Facts.packetMaxTags
  · rw [if_pos h1]; exact ⟨fun ⟨_, h⟩ => (nomatch h), fun h => absurd h.1 (by omega)⟩
  · rw [if_neg h1]
    by_cases h2 : p.tags.any (· = 0) = true
    · rw [if_pos h2]
      obtain ⟨t, ht, h0⟩ := List.any_eq_true.mp h2
      exact ⟨fun ⟨_, h⟩ => (nomatch h), fun h => absurd (of_decide_eq_true h0) (h.2 t ht)⟩
    · rw [if_neg h2]
      exact ⟨fun _ => ⟨by omega, fun t ht h0 => h2 (List.any_eq_true.mpr ⟨t, ht, decide_eq_true h0⟩)⟩,
        fun _ => ⟨_, rfl⟩⟩

end XMT.Batch
