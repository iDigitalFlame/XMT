/-
  XMT.ProtoProgress — the progress argument of the C05 protocol machine: the token of a pending job
  that no full queue has discarded can always advance, by an explicitly constructed event, towards
  completion; a discarded token never moves again.  `runS?` runs a list of events of ONE session from
  a `Sess`, and the theorems here are about such session runs only: that a session run is a run of the
  global state (`run?` with the events tagged by the client) is not proved.
-/
import XMT.ProtoLemmas
namespace XMT.Proto
variable {f : Kind → Nat → JobId → Payload → Res} {c : Nat}

def runS? (f : Kind → Nat → JobId → Payload → Res) (c : Nat) : Sess → List SEv → Option Sess
  | s, [] => some s
  | s, e :: es =>
    match stepS? f c s e with
    | none => none
    | some s' => runS? f c s' es

variable {s : Sess} {p : Pkt} {j : JobId}

theorem runS?_cons_eq_some {s' : Sess} {e : SEv} {es : List SEv} :
    runS? f c s (e :: es) = some s' ↔ ∃ s1, stepS? f c s e = some s1 ∧ runS? f c s1 es = some s' := by
  rw [runS?]
  cases stepS? f c s e with
  | none => exact ⟨nofun, nofun⟩
  | some s1 => exact ⟨fun h => ⟨s1, rfl, h⟩, fun ⟨_, h1, h⟩ => Option.some.inj h1 ▸ h⟩

theorem runS?_invariant {P : Sess → Prop} (hstep : ∀ {s e s'}, P s → stepS? f c s e = some s' → P s') :
    ∀ {evs : List SEv} {s s' : Sess}, P s → runS? f c s evs = some s' → P s'
  | [], _, _, h, hr => by cases hr; exact h
  | e :: es, _, _, h, hr => by
    obtain ⟨s1, hs, hr⟩ := runS?_cons_eq_some.mp hr
    exact runS?_invariant hstep (hstep h hs) hr

/-- at most `n` further events of the session complete job `j`, with its own result -/
def Completes (f : Kind → Nat → JobId → Payload → Res) (c : Nat) (s : Sess) (j : JobId) (n : Nat) : Prop :=
  ∃ evs s', evs.length ≤ n ∧ runS? f c s evs = some s' ∧
    ∃ r k p, (j, r) ∈ s'.completed ∧ (j, k, p) ∈ s'.pay ∧ r = f k c j p

theorem Completes.mono {n m : Nat} (h : Completes f c s j n) (hnm : n ≤ m) :
    Completes f c s j m := by
  obtain ⟨evs, s', hl, hr⟩ := h
  exact ⟨evs, s', Nat.le_trans hl hnm, hr⟩

/-- The places of a token by their distance from completion; the completion records, as the result
    packets that were handled, are the place at distance 0. -/
def Sess.dist (s : Sess) : Nat → List Pkt
  | 0 => s.completed.map fun x => .result x.1 x.2
  | 1 => s.smux | 2 => s.c2s | 3 => s.cq | 4 => s.run | 5 => s.cmux | 6 => s.s2c | 7 => s.sq
  | _ => []

/-- From each place an explicit event moves the token one place on (`handle` at distance 1 completes
    the Job).  `p` is any packet that carries the number; the invariant says which kind it is. -/
theorem Inv.advance (inv : Inv f c s) {d : Nat} (hp : p ∈ s.dist (d + 1)) (hj : p.isJ j = true) :
    ∃ e p1, p1.isJ j = true ∧ ∃ s1, stepS? f c s e = some s1 ∧ p1 ∈ s1.dist d := by
  obtain ⟨hsq, hs2c, hcmux, hrun⟩ := Sess.forall_mem_out.mp inv.out
  obtain ⟨hcq, hc2s, hsmux, -⟩ := Sess.forall_mem_back.mp inv.back
  have arrived {l : List Pkt} {q : Pkt} : q ∈ l ++ [q] := List.mem_append_right _ List.mem_cons_self
  rcases d with _ | _ | _ | _ | _ | _ | _ | d
  · have hp : p ∈ s.smux := hp
    obtain ⟨r, rfl⟩ := (hsmux p hp).result hj
    exact ⟨.handle j r true, .result j r, hj, _,
      (if_pos hp).trans ((if_pos (inv.mem_jobs_of_mem_smux hp)).trans (if_pos rfl)), List.mem_cons_self⟩
  · have hp : p ∈ s.c2s := hp
    obtain ⟨r, rfl⟩ := (hc2s p hp).result hj
    exact ⟨.srecv (.result j r), _, hj, _, if_pos hp, arrived⟩
  · have hp : p ∈ s.cq := hp
    obtain ⟨r, rfl⟩ := (hcq p hp).result hj
    exact ⟨.cnext [.result j r], _, hj, _, by rw [stepS?, if_neg (by simp), takeAll_singleton hp], arrived⟩
  · have hp : p ∈ s.run := hp
    -- the Tasker that answers is the first one in `run` that carries `j`
    obtain ⟨p', hf⟩ := Option.isSome_iff_exists.mp (List.find?_isSome.mpr ⟨p, hp, hj⟩)
    obtain ⟨k, q, rfl⟩ := (hrun _ (List.mem_of_find?_eq_some hf)).task (List.find?_some hf)
    exact ⟨.result j (f k c j q) false, .result j (f k c j q), beq_self_eq_true j, _,
      by rw [stepS?, hf]; exact if_pos ⟨rfl, rfl⟩, arrived⟩
  · have hp : p ∈ s.cmux := hp
    obtain ⟨k, q, rfl⟩ := (hcmux p hp).task hj
    exact ⟨.exec k j q, _, hj, _, if_pos hp, arrived⟩
  · have hp : p ∈ s.s2c := hp
    obtain ⟨k, q, rfl⟩ := (hs2c p hp).task hj
    exact ⟨.crecv (.task k j q), _, hj, _, if_pos hp, arrived⟩
  · have hp : p ∈ s.sq := hp
    obtain ⟨k, q, rfl⟩ := (hsq p hp).task hj
    exact ⟨.snext [.task k j q], _, hj, _, by rw [stepS?, if_neg (by simp), takeAll_singleton hp], arrived⟩
  · cases hp

theorem completes_at : ∀ {d : Nat} {s : Sess} {p : Pkt}, Inv f c s → p ∈ s.dist d → p.isJ j = true →
    Completes f c s j d
  | 0, s, p, inv, hp, hj => by
    obtain ⟨⟨i, r⟩, hc, rfl⟩ := List.mem_map.mp hp
    cases eq_of_beq hj
    obtain ⟨k, q, hpay, hr⟩ := inv.compl _ _ hc
    exact ⟨[], s, Nat.le_refl _, rfl, r, k, q, hc, hpay, hr⟩
  | d + 1, s, p, inv, hp, hj => by
    obtain ⟨e, p1, hj1, s1, hs, hp1⟩ := inv.advance hp hj
    obtain ⟨evs, s', hl, hr, hd⟩ := completes_at (inv.step (.of_stepS? hs)) hp1 hj1
    exact ⟨e :: evs, s', Nat.succ_le_succ hl, runS?_cons_eq_some.mpr ⟨s1, hs, hr⟩, hd⟩

/-- an issued job that is neither completed nor discarded has its token in one of the seven live places -/
theorem Inv.completes (inv : Inv f c s) (hu : j ∈ s.used)
    (hn : s.compJ.count j = 0) (hd : cntJ j s.dropped = 0) : Completes f c s j 7 := by
  have htok := inv.token j
  rw [if_pos hu, hn] at htok
  obtain ⟨p, hp, hj⟩ := cntJ_pos_iff.mp (Nat.lt_of_lt_of_eq Nat.one_pos htok.symm)
  rcases Sess.mem_all.mp hp with ((((((hp | hp) | hp) | hp) | hp) | hp) | hp) | hp
  · exact completes_at (d := 7) inv hp hj
  · exact (completes_at (d := 6) inv hp hj).mono (by decide)
  · exact (completes_at (d := 5) inv hp hj).mono (by decide)
  · exact (completes_at (d := 4) inv hp hj).mono (by decide)
  · exact (completes_at (d := 3) inv hp hj).mono (by decide)
  · exact (completes_at (d := 2) inv hp hj).mono (by decide)
  · exact (completes_at (d := 1) inv hp hj).mono (by decide)
  · exact absurd (cntJ_pos_iff.mpr ⟨p, hp, hj⟩) (Nat.not_lt.mpr (Nat.le_of_eq hd))

theorem Step.dropped_le {s' : Sess} (h : Step f c s s') (j : JobId) : cntJ j s.dropped ≤ cntJ j s'.dropped := by
  cases h <;> simp only [cntJ_append, Nat.le_add_right, Nat.le_refl]

/-- a discarded token stays where it is, and the one token of a job cannot also be its completion record -/
theorem discarded_never_completes {evs : List SEv} {s' : Sess} (inv : Inv f c s) (hd : 0 < cntJ j s.dropped)
    (hrun : runS? f c s evs = some s') : ∀ r, (j, r) ∉ s'.completed := by
  obtain ⟨inv', hd'⟩ := runS?_invariant (P := fun s => Inv f c s ∧ 0 < cntJ j s.dropped)
    (fun h hs => have st := Step.of_stepS? hs; ⟨h.1.step st, Nat.lt_of_lt_of_le h.2 (st.dropped_le j)⟩)
    ⟨inv, hd⟩ hrun
  intro r hc
  have htok := inv'.token_le_one j
  have := List.count_pos_iff.mpr (Sess.mem_compJ hc)
  rw [cntJ_all] at htok
  omega

end XMT.Proto
