/-
  XMT.Decode — the server-side decoders of attacker-controlled bytes as total functions with an
  explicit outcome: `ok` / `err` (both carrying the unread bytes, the bytes requested from the
  allocator so far and the trace of primitive reads), `panic site`, `hang`.

  This file: the decoder monad over the in-memory reader (`data.Chunk`, chunk_reader.go — every
  network-facing decoder runs on a `com.Packet`, i.e. a Chunk), the typed primitives, `Bytes()`,
  `StringVal()`, `ReadStringList`, `ID.Read`, `Machine`/`Network`/`WorkHours`, `readProxyData`,
  `readDeviceInfo`, `Packet.UnmarshalStream` and every exported `result.*` decoder.

  Allocation is a value: every `make` / `string(b)` / `append` growth is charged to `St.alloc` with
  the size the Go code passes (element count × element size; element sizes are regenerated facts).
  `make` with a size the runtime refuses is `panic`.

  Index and reslice expressions on the Chunk's buffer are **partial**: `idxP`, `sliceP`, `sliceFromP`
  and the cursor step `advanceP` yield `panic` when out of range, like `b[i]` / `b[lo:hi]` in Go.  The
  Go guards in front of them are explicit tests of the model; that they suffice is proved in
  XMT/DecodeSlice.lean (and that they are needed in XMT/DecodeGuardsMatter.lean).
-/
import XMT.Base
import XMT.Generated.Facts

namespace XMT.Decode

inductive Err
  | eof | ueof | badType | tooLarge | noProgress | malformedTag | malformedPacket | invalidCount
  | shortBuffer | closedPipe | mismatch
  deriving DecidableEq, Repr

/-- one primitive read, as seen at the `data.Reader` interface -/
inductive Tok
  | u8 (n : Nat) | u16 (n : Nat) | u32 (n : Nat) | u64 (n : Nat) | bool (b : Bool)
  | by (b : Bytes) | str (b : Bytes) | raw (b : Bytes)
  deriving DecidableEq, Repr

structure St where
  rest : Bytes          -- unread bytes of the Chunk (`c.buf[c.rpos:]`)
  alloc : Nat := 0      -- bytes requested from the allocator so far
  out : List Tok := []  -- primitive reads, most recent first
  deriving Repr, DecidableEq

inductive Out (α : Type) where
  | ok (a : α) (s : St)
  | err (e : Err) (s : St)
  | panic (site : String)
  | hang
  deriving Repr, DecidableEq

def D (α : Type) := St → Out α

def D.pure {α : Type} (a : α) : D α := fun s => .ok a s
def D.bind {α β : Type} (d : D α) (f : α → D β) : D β := fun s =>
  match d s with
  | .ok a s' => f a s'
  | .err e s' => .err e s'
  | .panic m => .panic m
  | .hang => .hang

instance : Monad D where
  pure := D.pure
  bind := D.bind

def fail {α : Type} (e : Err) : D α := fun s => .err e s
def panic {α : Type} (site : String) : D α := fun _ => .panic site
def emit (t : Tok) : D Unit := fun s => .ok () { s with out := t :: s.out }
/-- account `n` bytes requested from the allocator -/
def charge (n : Nat) : D Unit := fun s => .ok () { s with alloc := s.alloc + n }
/-- `c.Remaining()` -/
def remaining : D Nat := fun s => .ok s.rest.length s

/-- largest request `make` accepts on a 64-bit platform (`maxAlloc`, 2^48) -/
def maxAlloc : Nat := 2 ^ 48

/-- `make([]T, n)` with `n` a Go `int` (so possibly negative) and `size = unsafe.Sizeof(T)` -/
def mk (n : Int) (size : Nat) (site : String) : D Unit := fun s =>
  if n < 0 then .panic ("makeslice: len out of range: " ++ site)
  else if n.toNat * size > maxAlloc then .panic ("makeslice: len out of range: " ++ site)
  else .ok () { s with alloc := s.alloc + n.toNat * size }

/-! ### the buffer: index and reslice expressions

The state keeps `rest = c.buf[c.rpos:]`.  Every index expression `c.buf[c.rpos+i]` and every reslice
`c.buf[c.rpos+lo : c.rpos+hi]` / `c.buf[c.rpos+lo:]` of the Go code is one of the primitives below and
**panics** when it is out of range, exactly as the Go runtime does ("index out of range" / "slice
bounds out of range").  The guards of the Go code (`checkBounds`, `n < c.rpos+int(l)`, `Empty()`) are
explicit tests in front of them, where the Go code has them; nothing else keeps them in range. -/

/-- `c.buf[c.rpos+i]` -/
def idxP (i : Nat) (site : String) : D UInt8 := fun s =>
  match s.rest[i]? with
  | some v => .ok v s
  | none => .panic ("index out of range: " ++ site)

/-- `c.buf[c.rpos+lo : c.rpos+hi]` -/
def sliceP (lo hi : Nat) (site : String) : D Bytes := fun s =>
  if hi > s.rest.length ∨ lo > hi then .panic ("slice bounds out of range: " ++ site)
  else .ok ((s.rest.drop lo).take (hi - lo)) s

/-- `c.buf[c.rpos+lo:]` -/
def sliceFromP (lo : Nat) (site : String) : D Bytes := fun s =>
  if lo > s.rest.length then .panic ("slice bounds out of range: " ++ site)
  else .ok (s.rest.drop lo) s

/-- `c.rpos += n`.  The addition itself cannot fail in Go; a cursor beyond `len(c.buf)` would make the
next `c.buf[c.rpos:]` panic.  `rest = c.buf[c.rpos:]` only exists while `c.rpos ≤ len(c.buf)`, so the
model reports the step that leaves the buffer as the panic (conservative: the model panics no later
than the code). -/
def advanceP (n : Nat) (site : String) : D Unit := fun s =>
  if n > s.rest.length then .panic ("cursor beyond the buffer: " ++ site)
  else .ok () { s with rest := s.rest.drop n }

/-- `c.rpos = c.Size()` -/
def seekEnd : D Unit := fun s => .ok () { s with rest := [] }

/-- `c.checkBounds(n)` = `c.rpos+n > len(c.buf)` -/
def checkBounds (n : Nat) : D Bool := fun s => .ok (decide (n > s.rest.length)) s

/-! ### compiled forms of the length tests (the driver must not walk the whole buffer per read)

`s.rest.length` is linear in what is left of the buffer; a decoder that reads n fields would cost n²
in the compiled driver. The comparisons `k > rest.length` are replaced, for COMPILATION only, by a walk
of at most `k` cells (`lenLt`), through proved equalities tagged `@[csimp]`; the theorems keep speaking
about the definitions above. -/

/-- `l.length < n`, looking at no more than `n` cells -/
def lenLt {α : Type} : List α → Nat → Bool
  | _, 0 => false
  | [], _ + 1 => true
  | _ :: t, n + 1 => lenLt t n

theorem lenLt_eq {α : Type} (l : List α) (n : Nat) : lenLt l n = decide (n > l.length) := by
  induction l generalizing n with
  | nil => cases n <;> simp [lenLt]
  | cons a t ih =>
    cases n with
    | zero => simp [lenLt]
    | succ n => simp only [lenLt, ih, List.length_cons]; congr 1; simp

def checkBoundsFast (n : Nat) : D Bool := fun s => .ok (lenLt s.rest n) s

@[csimp] theorem checkBounds_eq_fast : @checkBounds = @checkBoundsFast := by
  funext n s; simp [checkBounds, checkBoundsFast, lenLt_eq]

def advancePFast (n : Nat) (site : String) : D Unit := fun s =>
  if lenLt s.rest n then .panic ("cursor beyond the buffer: " ++ site)
  else .ok () { s with rest := s.rest.drop n }

@[csimp] theorem advanceP_eq_fast : @advanceP = @advancePFast := by
  funext n site s; simp [advanceP, advancePFast, lenLt_eq]

def slicePFast (lo hi : Nat) (site : String) : D Bytes := fun s =>
  if lenLt s.rest hi ∨ lo > hi then .panic ("slice bounds out of range: " ++ site)
  else .ok ((s.rest.drop lo).take (hi - lo)) s

@[csimp] theorem sliceP_eq_fast : @sliceP = @slicePFast := by
  funext lo hi site s; simp [sliceP, slicePFast, lenLt_eq]

def sliceFromPFast (lo : Nat) (site : String) : D Bytes := fun s =>
  if lenLt s.rest lo then .panic ("slice bounds out of range: " ++ site)
  else .ok (s.rest.drop lo) s

@[csimp] theorem sliceFromP_eq_fast : @sliceFromP = @sliceFromPFast := by
  funext lo site s; simp [sliceFromP, sliceFromPFast, lenLt_eq]

/-! ### raw primitives of chunk_reader.go (no trace) -/

/-- `Uint8()`: `if c.checkBounds(1) { return 0, io.EOF }; v := c.buf[c.rpos]; c.rpos++` -/
def u8r : D UInt8 := do
  if ← checkBounds 1 then fail .eof
  else do
    let v ← idxP 0 "Uint8: c.buf[c.rpos]"
    advanceP 1 "Uint8: c.rpos++"
    pure v

/-- `Uint16()`: `if c.checkBounds(2) { return 0, io.EOF }; _ = c.buf[c.rpos+1];
v := uint16(c.buf[c.rpos+1]) | uint16(c.buf[c.rpos])<<8; c.rpos += 2` — nothing is consumed when fewer
than 2 bytes are left -/
def u16r : D Nat := do
  if ← checkBounds 2 then fail .eof
  else do
    let _ ← idxP 1 "Uint16: _ = c.buf[c.rpos+1]"
    let b1 ← idxP 1 "Uint16: c.buf[c.rpos+1]"
    let b0 ← idxP 0 "Uint16: c.buf[c.rpos]"
    advanceP 2 "Uint16: c.rpos += 2"
    pure (ofBe16 b0 b1)

/-- `Uint32()`: `checkBounds(4)`, `_ = c.buf[c.rpos+3]`, four index reads, `c.rpos += 4` -/
def u32r : D Nat := do
  if ← checkBounds 4 then fail .eof
  else do
    let _ ← idxP 3 "Uint32: _ = c.buf[c.rpos+3]"
    let b3 ← idxP 3 "Uint32: c.buf[c.rpos+3]"
    let b2 ← idxP 2 "Uint32: c.buf[c.rpos+2]"
    let b1 ← idxP 1 "Uint32: c.buf[c.rpos+1]"
    let b0 ← idxP 0 "Uint32: c.buf[c.rpos]"
    advanceP 4 "Uint32: c.rpos += 4"
    pure (ofBe32 b0 b1 b2 b3)

/-- `Uint64()`: `checkBounds(8)`, `_ = c.buf[c.rpos+7]`, eight index reads, `c.rpos += 8` -/
def u64r : D Nat := do
  if ← checkBounds 8 then fail .eof
  else do
    let _ ← idxP 7 "Uint64: _ = c.buf[c.rpos+7]"
    let b7 ← idxP 7 "Uint64: c.buf[c.rpos+7]"
    let b6 ← idxP 6 "Uint64: c.buf[c.rpos+6]"
    let b5 ← idxP 5 "Uint64: c.buf[c.rpos+5]"
    let b4 ← idxP 4 "Uint64: c.buf[c.rpos+4]"
    let b3 ← idxP 3 "Uint64: c.buf[c.rpos+3]"
    let b2 ← idxP 2 "Uint64: c.buf[c.rpos+2]"
    let b1 ← idxP 1 "Uint64: c.buf[c.rpos+1]"
    let b0 ← idxP 0 "Uint64: c.buf[c.rpos]"
    advanceP 8 "Uint64: c.rpos += 8"
    pure (ofBe64 b0 b1 b2 b3 b4 b5 b6 b7)

/-- the `switch t` of `Bytes()` / `ReadStringList` once the tag byte is read: `none` for tag 0 -/
def lenHdrK (t : UInt8) : D (Option Nat) :=
  if t = 0 then pure none
  else if t = 1 ∨ t = 2 then do let n ← u8r; pure (some n.toNat)
  else if t = 3 ∨ t = 4 then do let n ← u16r; pure (some n)
  else if t = 5 ∨ t = 6 then do let n ← u32r; pure (some n)
  else if t = 7 ∨ t = 8 then do let n ← u64r; pure (some n)
  else fail .badType

def lenHdr : D (Option Nat) := do let t ← u8r; lenHdrK t

/-- the tail of `(*Chunk).Bytes()`: a reslice (no allocation); a short body hands out what is left
with `io.EOF` and moves the cursor to the end.  `copy` = the caller is `StringVal()`, which converts
the slice with `string(b)` (an allocation of `l` bytes) when, and only when, `Bytes()` succeeded.
```
if n := c.Size(); n < c.rpos+int(l) { o := c.buf[c.rpos:]; c.rpos = n; return o, io.EOF }
o := c.buf[c.rpos : uint64(c.rpos)+l]
c.rpos += int(l)
return o, nil
``` -/
def bodyC (copy : Bool) (l : Nat) : D Bytes := do
  if (← remaining) < l then do             -- `n < c.rpos+int(l)` (`l ≤ MaxSlice`: no overflow)
    let _ ← sliceFromP 0 "Bytes: c.buf[c.rpos:]"
    seekEnd
    fail .eof
  else do
    let o ← sliceP 0 l "Bytes: c.buf[c.rpos : uint64(c.rpos)+l]"
    advanceP l "Bytes: c.rpos += int(l)"
    charge (if copy then l else 0)
    pure o

def bytesRawK (copy : Bool) : Option Nat → D Bytes
  | none => pure []
  | some l =>
    if l = 0 then fail .ueof
    else if l > Facts.maxSlice then fail .tooLarge
    else bodyC copy l

/-- `(*Chunk).Bytes()` (`copy = false`) / `(*Chunk).StringVal()` (`copy = true`) -/
def bytesRaw (copy : Bool) : D Bytes := do let o ← lenHdr; bytesRawK copy o

/-! ### interface-level reads (traced) -/

def u8 : D UInt8 := do let v ← u8r; emit (.u8 v.toNat); pure v
def u16 : D Nat := do let v ← u16r; emit (.u16 v); pure v
def u32 : D Nat := do let v ← u32r; emit (.u32 v); pure v
def u64 : D Nat := do let v ← u64r; emit (.u64 v); pure v
/-- `Bool()` = `Uint8() == 1` -/
def bool : D Bool := do let v ← u8r; emit (.bool (v = 1)); pure (v = 1)
/-- `Bytes()` / `ReadBytes(&p)` -/
def bytes : D Bytes := do let b ← bytesRaw false; emit (.by b); pure b
/-- `StringVal()` / `ReadString(&p)`: `string(b)` copies the bytes -/
def str : D Bytes := do let b ← bytesRaw true; emit (.str b); pure b

/-- `(*Chunk).Read(b)` with `len(b) = k`; `none` = `(0, io.EOF)`:
```
if c.Empty() { if c.Reset(); len(b) == 0 { return 0, nil }; return 0, io.EOF }
n := copy(b, c.buf[c.rpos:])
c.rpos += n
return n, nil
``` -/
def chunkRead (k : Nat) : D (Option Bytes) := do
  if (← remaining) = 0 then                         -- `c.Empty()`
    if k = 0 then pure (some []) else pure none
  else do
    let src ← sliceFromP 0 "Read: c.buf[c.rpos:]"
    let got := src.take k                           -- `copy(b, src)` moves `min(len(b), len(src))` bytes
    advanceP got.length "Read: c.rpos += n"
    pure (some got)

/-- `io.ReadAtLeast(r, buf, min)` with `min = len(buf) = k` and `r` a Chunk:
```
for n < min && err == nil { nn, err = r.Read(buf[n:]); n += nn }
if n >= min { err = nil } else if n > 0 && err == EOF { err = ErrUnexpectedEOF }
```
(`buf[n:]` reslices the caller's fixed-size array with `n < min = len(buf)` by the loop test.)
Every successful `Read` of a non-empty buffer delivers at least one byte, so `k + 1` rounds are
enough (`fuel`). -/
def readAtLeast : Nat → Nat → Bytes → D (Bytes × Option Err)
  | 0, _, _ => fun _ => .hang
  | fuel + 1, k, acc =>
    if ¬ (acc.length < k) then pure (acc, none)
    else do
      match ← chunkRead (k - acc.length) with
      | none => pure (acc, some (if acc.isEmpty then .eof else .ueof))
      | some got => readAtLeast fuel k (acc ++ got)

/-- `io.ReadFull(r, buf[:k])` on a Chunk (`Chunk.Read` hands out what is there; an empty Chunk
reports `io.EOF`) followed by the caller's `n != k` test -/
def readFullC (k : Nat) : D Bytes := do
  let r ← readAtLeast (k + 1) k []
  if r.1.isEmpty then pure () else emit (.raw r.1)
  match r.2 with
  | some e => fail e
  | none => pure r.1

/-- `(*ID).Read` / `(*ID).UnmarshalStream` into a zero ID -/
def idRead : D Bytes := do
  let b ← readFullC Facts.idSize
  if b.head? = some 0 then fail .noProgress else pure b

/-- a counted loop `for x := 0; x < n; x++ { body }` that stops at the first error -/
def rep {α : Type} : Nat → D α → D (List α)
  | 0, _ => pure []
  | n + 1, d => do let a ← d; let r ← rep n d; pure (a :: r)

/-! ### data.ReadStringList (data/util.go, after the fix: the list grows as entries arrive) -/

/-- the `switch t` of `ReadStringList`: the same header, but read through the `data.Reader`
interface (so the reads show up in the trace) -/
def lenHdrT : D (Option Nat) := do
  let t ← u8
  if t = 0 then pure none
  else if t = 1 ∨ t = 2 then do let n ← u8; pure (some n.toNat)
  else if t = 3 ∨ t = 4 then do let n ← u16; pure (some n)
  else if t = 5 ∨ t = 6 then do let n ← u32; pure (some n)
  else if t = 7 ∨ t = 8 then do let n ← u64; pure (some n)
  else fail .badType

/-- amortised cost charged per `append` of a 16-byte string header (runtime growslice doubles below
256 elements and grows by 1.25× above: at most 8 headers allocated per element appended) -/
def appendCost : Nat := 128

/-- the count conversion `l = int(n)` -/
def toInt64 (n : Nat) : Int := if n < 2 ^ 63 then (n : Int) else (n : Int) - 2 ^ 64

/-- `ReadStringList(r, &s)` with `*s` empty: `len(*s) >= l` holds only for `l ≤ 0` -/
def strList : D (List Bytes) := do
  match ← lenHdrT with
  | none => pure []
  | some n =>
    let l := toInt64 n
    if l ≤ 0 then pure []            -- negative counts: the loops do not run
    else rep l.toNat (do let v ← str; charge appendCost; pure v)

/-- the code before the fix: `*s = make([]string, l)` from the announced count -/
def strListOld : D (List Bytes) := do
  match ← lenHdrT with
  | none => pure []
  | some n =>
    let l := toInt64 n
    if l ≤ 0 then pure []
    else do
      mk l 16 "ReadStringList"
      rep l.toNat str

/-! ### device info (device/machine.go, device/network.go, c2/cfg/workhours.go, c2/proxy.go) -/

def readAddr : D Unit := do let _ ← u64; let _ ← u64; pure ()

/-- `(*device).UnmarshalStream` -/
def readIface : D Unit := do
  let _ ← str
  let _ ← u64
  let l ← u8
  mk l.toNat Facts.c04_sizeofAddress "device.Address"
  let _ ← rep l.toNat readAddr
  pure ()

/-- `(*Network).UnmarshalStream` -/
def readNetwork : D Unit := do
  let l ← u8
  mk l.toNat Facts.c04_sizeofIface "device.Network"
  let _ ← rep l.toNat readIface
  pure ()

/-- `(*Machine).UnmarshalStream` -/
def readMachine : D Unit := do
  let _ ← idRead
  let _ ← u8; let _ ← u32; let _ ← u32
  let _ ← str; let _ ← str; let _ ← str
  let _ ← u8; let _ ← u32
  readNetwork

/-- `(*WorkHours).UnmarshalStream` -/
def readWork : D Unit := do
  let _ ← u8; let _ ← u8; let _ ← u8; let _ ← u8; let _ ← u8; pure ()

/-- `readProxyData(f, r)` -/
def readProxyData (f : Bool) : D Unit := do
  let n ← u8
  mk n.toNat Facts.c04_sizeofProxyData "proxyData"
  let _ ← rep n.toNat (do
    let _ ← str
    let _ ← str
    if f then do let _ ← bytes; pure () else pure ())
  pure ()

/-- `KeyPair.Unmarshal` (three `io.ReadFull`) -/
def readKeys : D Unit := do
  let _ ← readFullC Facts.c12_publicKeySize
  let _ ← readFullC Facts.c12_privateKeySize
  let _ ← readFullC Facts.c12_sharedKeySize
  pure ()

/-- the `switch t` at the top of `readDeviceInfo` (the `infoProxy` arm returns early, see below) -/
def readInfoHead (t : Nat) : D Unit :=
  if t = Facts.c12_infoHello ∨ t = Facts.c12_infoRefresh ∨ t = Facts.c12_infoSyncMigrate then readMachine
  else if t = Facts.c12_infoMigrate then do let _ ← idRead; pure ()
  else pure ()

/-- the part of `readDeviceInfo` after the work hours -/
def readInfoTail (t : Nat) : D Unit :=
  if t > Facts.c12_infoRefresh then pure ()
  else do
    readProxyData true
    if t ≠ Facts.c12_infoMigrate then pure () else readKeys

/-- `(*Session).readDeviceInfo(t, r)` -/
def readDeviceInfo (t : Nat) : D Unit :=
  if t = Facts.c12_infoProxy then readProxyData false
  else do
    readInfoHead t
    let _ ← u8          -- jitter
    let _ ← u64         -- sleep
    let _ ← u64         -- kill date
    charge 8            -- `var w cfg.WorkHours` escapes (`s.work = &w`)
    readWork
    readInfoTail t

/-! ### com.Packet.UnmarshalStream (the nested form inside a FlagMulti packet) -/

/-- `p.Tags[i]` with `len(p.Tags) = len`: an index into the freshly made tag table (not the buffer),
partial like every other index expression -/
def tagIdx (len i : Nat) : D Unit := fun s =>
  if i < len then .ok () s else .panic "index out of range: p.Tags[i]"

/-- the tag loop `for i := uint16(0); i < t && i < PacketMaxTags; i++ { r.ReadUint32(&p.Tags[i]); … }`:
`len` = `len(p.Tags)`, then the index `i` and the rounds left -/
def readTagsN (len : Nat) : Nat → Nat → D Unit
  | _, 0 => pure ()
  | i, n + 1 => do
    tagIdx len i
    let t ← u32
    if t = 0 then fail .malformedTag else readTagsN len (i + 1) n

/-- `if t > 0 { p.Tags = make([]uint32, t); loop }` -/
def readTags (t : Nat) : D Unit :=
  if t = 0 then pure ()
  else do
    mk t 4 "Packet.Tags"
    readTagsN t 0 (min t Facts.packetMaxTags)

structure Pkt where
  id : Nat
  job : Nat
  flags : Nat
  ntags : Nat
  dev : Bytes
  payload : Bytes
  deriving Repr, DecidableEq

/-- `(*Packet).UnmarshalStream(r)` with `r` a Chunk: the payload is a reslice of the parent buffer -/
def unmarshalStream : D Pkt := do
  let i ← u8
  let j ← u16
  let t ← u16
  let f ← u64
  let d ← idRead
  readTags t
  let p ← bytes
  pure { id := i.toNat, job := j, flags := f, ntags := t, dev := d, payload := p }

/-! ### result.* (c2/task/result/v_no_implant.go)

The guard `n == nil || n.Empty() || n.Flags&FlagError != 0` is the first step of every decoder; the
flags are an input of the model. -/

def flagError : Nat := Facts.c04_flagError

def guardResult (flags : Nat) : D Unit := fun s =>
  if s.rest.isEmpty ∨ flags &&& flagError ≠ 0 then .err .malformedPacket s else .ok () s

/-- the count check added by the fix: `if int(c) > n.Remaining() { return io.ErrUnexpectedEOF }` -/
def checkCount (c : Nat) : D Unit := fun s =>
  if c > s.rest.length then .err .ueof s else .ok () s

/-- `if int(c) > n.Remaining() { return io.ErrUnexpectedEOF }; e := make([]T, c)` -/
def mkChecked (c size : Nat) (site : String) : D Unit := do checkCount c; mk c size site

def rPwd (fl : Nat) : D Unit := do guardResult fl; let _ ← str; pure ()
def rSpawn (fl : Nat) : D Unit := do guardResult fl; let _ ← u32; pure ()
def rBool (fl : Nat) : D Unit := do guardResult fl; let _ ← bool; pure ()
def rMounts (fl : Nat) : D Unit := do guardResult fl; let _ ← strList; pure ()

def lsFields : D Unit := do
  let _ ← str; let _ ← u32; let _ ← u64; let _ ← u64; pure ()

def lsEntry : D Unit := do
  let v ← lsFields
  charge Facts.c04_sizeofFileInfo       -- `e[i] = v` boxes the fileInfo into the interface
  pure v

def rLs (fl : Nat) : D Unit := do
  guardResult fl
  let c ← u32
  if c = 0 then pure ()
  else do
    mkChecked c Facts.c04_sizeofInterface "result.Ls"
    let _ ← rep c lsEntry
    pure ()

def windowEntry : D Unit := do
  let _ ← u64; let _ ← str; let _ ← u8; let _ ← u32; let _ ← u32; let _ ← u32; let _ ← u32; pure ()

def rWindowList (fl : Nat) : D Unit := do
  guardResult fl
  let c ← u32
  mkChecked c Facts.c04_sizeofWindow "result.WindowList"
  let _ ← rep c windowEntry
  pure ()

def funcEntry : D Unit := do let _ ← u32; let _ ← u64; let _ ← u64; pure ()

def rFuncRemapList (fl : Nat) : D Unit := do
  guardResult fl
  let c ← u32
  mkChecked c Facts.c04_sizeofFuncEntry "result.FuncRemapList"
  let _ ← rep c funcEntry
  pure ()

def procEntry : D Unit := do let _ ← u32; let _ ← u32; let _ ← str; let _ ← str; pure ()

def rProcessList (fl : Nat) : D Unit := do
  guardResult fl
  let c ← u32
  mkChecked c Facts.c04_sizeofProcessInfo "result.ProcessList"
  let _ ← rep c procEntry
  pure ()

/-- `(*Login).UnmarshalStream` -/
def loginEntry : D Unit := do
  let _ ← u32; let _ ← u8; let _ ← u64; let _ ← u64; readAddr; let _ ← str; let _ ← str; pure ()

/-- `UserLogins`: a 16-bit count, not checked (bounded by 65535 × sizeof(Login)) -/
def rUserLogins (fl : Nat) : D Unit := do
  guardResult fl
  let c ← u16
  mk c Facts.c04_sizeofLogin "result.UserLogins"
  let _ ← rep c loginEntry
  pure ()

/-- `o, err := n.Uint8(); if err != nil { return …, c2.ErrMalformedPacket }` -/
def u8M : D UInt8 := fun s =>
  match u8 s with
  | .err _ s' => .err .malformedPacket s'
  | r => r

def regEntry : D Unit := do let _ ← str; let _ ← u32; let _ ← bytes; pure ()

/-- `Registry`: an error of the first `Uint8` is reported as ErrMalformedPacket -/
def rRegistry (fl : Nat) : D Unit := do
  guardResult fl
  let o ← u8M
  if o.toNat > 1 then pure ()
  else do
    let c ← (if o.toNat = 0 then u32 else pure 1)
    if o.toNat = 0 ∧ c = 0 then pure ()
    else do
      mkChecked c Facts.c04_sizeofRegEntry "result.Registry"
      let _ ← rep c regEntry
      pure ()

def rUpload (fl : Nat) : D Unit := do guardResult fl; let _ ← str; let _ ← u64; pure ()
def rWhoami (fl : Nat) : D Unit := do guardResult fl; let _ ← str; let _ ← str; pure ()
def rPull (fl : Nat) : D Unit := do guardResult fl; let _ ← str; let _ ← u64; pure ()
def rAssembly (fl : Nat) : D Unit := do guardResult fl; let _ ← u64; let _ ← u32; let _ ← u32; pure ()
def rProcess (fl : Nat) : D Unit := do guardResult fl; let _ ← u32; let _ ← u32; pure ()
def rDownload (fl : Nat) : D Unit := do guardResult fl; let _ ← str; let _ ← bool; let _ ← u64; pure ()

def rSystemIO (fl : Nat) : D Unit := do
  guardResult fl
  let o ← u8M
  if o.toNat ≠ 2 ∧ o.toNat ≠ 3 then pure ()
  else do let _ ← str; let _ ← u64; pure ()

/-! `Script`: the loop runs until a read fails; `io.EOF` ends it normally. Every round consumes at
least one byte, so the input length bounds the number of rounds (`fuel`). A result is a new Packet
whose Chunk receives the bytes (`v.Grow(len(d)); v.Write(d)` / `v.WriteString(m)`). -/

/-- `ReadBytes(&d)` in `Script`: on any error `d` stays nil; `io.EOF` is tolerated (the round still
appends a Packet), other errors end the loop -/
def scriptBytes : D Unit := fun s =>
  match bytes s with
  | .ok d s' => .ok () { s' with alloc := s'.alloc + (2 * d.length + 256 + appendCost) }
  | .err .eof s' => .ok () { s' with alloc := s'.alloc + (256 + appendCost) }
  | .err e s' => .err e s'
  | .panic m => .panic m
  | .hang => .hang

/-- the error-message arm: `ReadString(&m); v.WriteString(m); r = append(r, &v)` -/
def scriptStr : D Unit := do
  let m ← str
  charge (2 * m.length + 256 + appendCost)

def scriptRound : D Unit := do
  charge Facts.c04_sizeofPacket             -- `var v com.Packet` escapes (`append(r, &v)`)
  let _ ← u8
  let e ← bool
  if e then scriptBytes else scriptStr

def scriptLoop : Nat → D Unit
  | 0 => fun _ => .hang
  | fuel + 1 => fun s =>
    match scriptRound s with
    | .ok _ s' => scriptLoop fuel s'
    | .err .eof s' => .ok () s'                 -- `if err == io.EOF { return r, nil }`
    | .err e s' => .err e s'
    | .panic m => .panic m
    | .hang => .hang

def scriptAll : D Unit := fun s => scriptLoop (s.rest.length + 1) s

def rScript (fl : Nat) : D Unit := do
  guardResult fl
  scriptAll

/-! ### the decision at the end of `c2.handle` (c2/channel.go): keep the connection as a channel or
close it.  `host = none` is the conn `Listener.talk` returns for an unregistered client that sent a
non-hello Packet (it is told to re-register); `start` dereferences the host. -/

inductive After | start | close | panic
  deriving DecidableEq, Repr

/-- `switch { case v.host != nil && (n.Flags&FlagChannel != 0 || v.next.Flags&FlagChannel != 0):
case v.host == nil: fallthrough; case !v.host.chanStart(): close; return }; v.start(…)`.
`host = some cs`: a Session whose `chanStart()` answers `cs`. -/
def handleSwitch (host : Option Bool) (nChan nextChan : Bool) : After :=
  match host with
  | none => .close
  | some cs => if nChan || nextChan then .start else if !cs then .close else .start

/-- before the fix the first case did not look at the host -/
def handleSwitchOld (host : Option Bool) (nChan nextChan : Bool) : After :=
  if nChan || nextChan then (match host with | none => .panic | some _ => .start)
  else match host with
    | none => .close
    | some cs => if !cs then .close else .start

/-! ### running a decoder -/

def run {α : Type} (d : D α) (bs : Bytes) : Out α := d { rest := bs }

def Out.alloc {α : Type} : Out α → Nat
  | .ok _ s => s.alloc | .err _ s => s.alloc | _ => 0

def Out.isPanic {α : Type} : Out α → Bool | .panic _ => true | _ => false
def Out.isHang {α : Type} : Out α → Bool | .hang => true | _ => false

end XMT.Decode
