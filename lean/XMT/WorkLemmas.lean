/-
  Lemmas about the work-hours model (XMT/Work.lean): `Work()` computes the declarative `workSpec` (which
  boundary is waited for: next midnight, today's start, tomorrow's start), `work_eq_workSpec`; Props/C19
  and XMT/ClientLoopLemmas.lean reason about `workSpec`, through `workSpec_range`, `workSpec_pos_iff` and
  the three equations that say which boundary it is.
-/
import XMT.Base
import XMT.Work
namespace XMT.Work

theorem dayBit_eq_zero_iff (r : Rule) (wd : Nat) (h : wd < 7) :
    dayBit r wd = 0 ↔ r.days.testBit wd = false := by
  unfold dayBit
  rw [Nat.one_shiftLeft, Nat.mod_eq_of_lt (Nat.pow_lt_pow_of_lt (by decide) (by omega : wd < 8)), and_pow]
  cases r.days.testBit wd <;> simp

/-- what the proofs need from the literals read from workhours.go -/
def FactsOK : Prop :=
  Facts.c19WorkDaysAbove = 126 ∧ Facts.c19WorkDaysBelow = 127 ∧
  Facts.c19WorkStartHourMax ≤ 23 ∧ Facts.c19WorkStartMinMax ≤ 60 ∧
  Facts.c19WorkEndHourMax ≤ 23 ∧ Facts.c19WorkEndMinMax ≤ 60 ∧
  Facts.c19Hour = 3600000000000 ∧ Facts.c19Minute = 60000000000

instance : Decidable FactsOK := by unfold FactsOK; infer_instance

theorem FactsOK.daysAbove (hf : FactsOK) : Facts.c19WorkDaysAbove = 126 := hf.1

theorem FactsOK.daysBelow (hf : FactsOK) : Facts.c19WorkDaysBelow = 127 := hf.2.1

theorem FactsOK.hour (hf : FactsOK) : Facts.c19Hour = 3600000000000 := hf.2.2.2.2.2.2.1

theorem dayOff_iff (hf : FactsOK) (r : Rule) (wd : Nat) (h : wd < 7) :
    dayOff r wd = true ↔ ¬ dayIn r wd := by
  unfold dayOff dayIn
  rw [hf.daysBelow]
  simp only [Bool.and_eq_true, decide_eq_true_eq, beq_iff_eq, dayBit_eq_zero_iff r wd h]
  cases r.days.testBit wd
  · simp only [and_true, Bool.false_eq_true, or_false]
    exact ⟨fun h hh => by omega, fun hh => ⟨by omega, by omega⟩⟩
  · simp only [Bool.true_eq_false, and_false, or_true, not_true_eq_false]

theorem restAll_elim (hf : FactsOK) (r : Rule) (wd : Nat) (h : restAll r = true) :
    timesZero r = true ∧ dayOff r wd = false := by
  unfold restAll at h
  rw [hf.daysAbove] at h
  simp only [Bool.and_eq_true] at h
  refine ⟨by simp only [timesZero, h, Bool.and_self], ?_⟩
  cases hoff : dayOff r wd
  · rfl
  · unfold dayOff at hoff
    rw [hf.daysBelow] at hoff
    simp only [Bool.and_eq_true, Bool.or_eq_true, decide_eq_true_eq, beq_iff_eq] at h hoff
    omega

theorem workWindow_timesZero (r : Rule) (t : Inst) (h : timesZero r = true) : workWindow r t = 0 := by
  simp only [timesZero, Bool.and_eq_true] at h
  simp only [workWindow, startAtMidnight, noEnd, h, Bool.and_self, Bool.true_or, Bool.not_true, Bool.false_and,
    Bool.false_eq_true, if_false, if_true]

/-- the declarative reading of the start / end part of Work() on a selected day -/
def windowSpec (r : Rule) (t : Inst) : Int :=
  if t.ns < startOf r then startOf r - t.ns
  else match endOf r with
    | none => 0
    | some e => if e < startOf r then 0 else if e < t.ns then startOf r + nsDay - t.ns else 0

/-- the declarative reading of Work(): which boundary is waited for -/
def workSpec (r : Rule) (t : Inst) : Int :=
  if ¬ dayIn r t.wd then nsDay - t.ns else windowSpec r t

theorem workWindow_eq (r : Rule) (t : Inst) (h0 : 0 ≤ t.ns) : workWindow r t = windowSpec r t := by
  unfold workWindow windowSpec startOf endOf
  cases startAtMidnight r <;> cases noEnd r <;> simp
  all_goals (intro; omega)

theorem work_eq_workSpec (hf : FactsOK) (r : Rule) (t : Inst) (ht : t.WF) :
    work r t = workSpec r t := by
  obtain ⟨hwd, h0, _⟩ := ht
  unfold work workSpec
  simp only [← workWindow_eq r t h0, ← dayOff_iff hf r t.wd hwd]
  -- the first and the third test of Work() are short cuts: a rule that rests every day has no day
  -- off, and with all times zero the window part is 0 anyway
  by_cases hra : restAll r = true
  · obtain ⟨hz, hd⟩ := restAll_elim hf r t.wd hra
    simp [hra, hd, workWindow_timesZero r t hz]
  · by_cases hz : timesZero r = true
    · simp [hra, hz, workWindow_timesZero r t hz]
    · simp [hra, hz]

theorem nsDay_eq (hf : FactsOK) : nsDay = 86400000000000 := by
  unfold nsDay nsHour
  rw [hf.hour]; rfl

theorem startOf_bounds (hf : FactsOK) (r : Rule) : 0 ≤ startOf r ∧ startOf r ≤ nsDay := by
  obtain ⟨_, _, hH, hM, _, _, hh, hm⟩ := hf
  unfold startOf startAtMidnight clock nsDay nsHour nsMinute
  rw [hh, hm]
  split
  · omega
  · rename_i h
    simp only [Bool.or_eq_true, decide_eq_true_eq, not_or] at h
    omega

theorem workSpec_range (hf : FactsOK) (r : Rule) (t : Inst) (ht : t.WF) :
    0 ≤ workSpec r t ∧ workSpec r t ≤ nsDay := by
  obtain ⟨_, h0, h1⟩ := ht
  have hs := startOf_bounds hf r
  unfold workSpec windowSpec
  split
  · omega
  · split
    · omega
    · split
      · omega
      · split
        · omega
        · split <;> omega

theorem workSpec_pos_iff (hf : FactsOK) (r : Rule) (t : Inst) (ht : t.WF) (hr : EndNotBeforeStart r) :
    0 < workSpec r t ↔ Outside r t := by
  obtain ⟨_, h0, h1⟩ := ht
  have hs := startOf_bounds hf r
  unfold workSpec windowSpec Outside
  by_cases hd : dayIn r t.wd
  · simp only [hd, not_true_eq_false, if_false, false_or]
    by_cases hst : t.ns < startOf r
    · simp only [hst, if_true, true_or, iff_true]; omega
    · simp only [hst, if_false, false_or]
      cases he : endOf r with
      | none => simp
      | some e =>
        have hle := hr e he
        have h2 : ¬ e < startOf r := by omega
        simp only [h2, if_false, Option.some.injEq, exists_eq_left']
        by_cases h3 : e < t.ns
        · simp only [h3, if_true, iff_true]; omega
        · simp [h3]
  · simp only [hd, not_false_eq_true, if_true, true_or, iff_true]; omega

theorem workSpec_dayOut {r : Rule} {t : Inst} (hd : ¬ dayIn r t.wd) : workSpec r t = nsDay - t.ns := by
  simp [workSpec, hd]

theorem workSpec_before {r : Rule} {t : Inst} (hd : dayIn r t.wd) (hs : t.ns < startOf r) :
    workSpec r t = startOf r - t.ns := by
  simp [workSpec, windowSpec, hd, hs]

theorem workSpec_after {r : Rule} {t : Inst} (hr : EndNotBeforeStart r) (hd : dayIn r t.wd) {e : Int}
    (he : endOf r = some e) (hlt : e < t.ns) : workSpec r t = startOf r + nsDay - t.ns := by
  have hle := hr e he
  have h1 : ¬ t.ns < startOf r := by omega
  have h2 : ¬ e < startOf r := by omega
  simp [workSpec, windowSpec, hd, h1, he, h2, hlt]

end XMT.Work
