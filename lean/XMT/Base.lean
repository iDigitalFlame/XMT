/-
  XMT.Base — bytes, big-endian integers, and the small general facts that several properties use
  (single-bit masks, `Except`, lists and the cursor into a buffer, insertion into a sorted list);
  last, the hex notation of the driver's input and output.
  Core-only (no Mathlib) so that the driver can be compiled as a lean_exe.
-/
namespace XMT

abbrev Bytes := List UInt8

/-- `byteOf n` is Go's `byte(n)` conversion on a non-negative integer. -/
def byteOf (n : Nat) : UInt8 := UInt8.ofNat (n % 256)

@[simp] theorem byteOf_toNat (n : Nat) : (byteOf n).toNat = n % 256 := by
  simp [byteOf]

theorem byteOf_toNat_eq (b : UInt8) : byteOf b.toNat = b := by
  apply UInt8.toNat_inj.mp
  simp [byteOf]

theorem byteOf_toNat_of_lt {n : Nat} (h : n < 256) : (byteOf n).toNat = n := by
  rw [byteOf_toNat, Nat.mod_eq_of_lt h]

/-! ### Big-endian fixed-width integers (written byte by byte exactly as the Go code does) -/

def be16 (n : Nat) : Bytes := [byteOf (n >>> 8), byteOf n]
def be32 (n : Nat) : Bytes := [byteOf (n >>> 24), byteOf (n >>> 16), byteOf (n >>> 8), byteOf n]
def be64 (n : Nat) : Bytes :=
  [byteOf (n >>> 56), byteOf (n >>> 48), byteOf (n >>> 40), byteOf (n >>> 32),
   byteOf (n >>> 24), byteOf (n >>> 16), byteOf (n >>> 8), byteOf n]

/-- Go: `uint16(b1) | uint16(b0)<<8` -/
def ofBe16 (b0 b1 : UInt8) : Nat := b1.toNat ||| (b0.toNat <<< 8)
def ofBe32 (b0 b1 b2 b3 : UInt8) : Nat :=
  b3.toNat ||| (b2.toNat <<< 8) ||| (b1.toNat <<< 16) ||| (b0.toNat <<< 24)
def ofBe64 (b0 b1 b2 b3 b4 b5 b6 b7 : UInt8) : Nat :=
  b7.toNat ||| (b6.toNat <<< 8) ||| (b5.toNat <<< 16) ||| (b4.toNat <<< 24) |||
  (b3.toNat <<< 32) ||| (b2.toNat <<< 40) ||| (b1.toNat <<< 48) ||| (b0.toNat <<< 56)

/-- the bridging lemma of DESIGN §4: Go's `|` of disjoint bit fields as a sum, which `omega` takes -/
theorem or_shl_eq_add (x y k : Nat) (h : x < 2 ^ k) : x ||| (y <<< k) = x + y * 2 ^ k := by
  rw [Nat.or_comm, ← Nat.shiftLeft_add_eq_or_of_lt h, Nat.shiftLeft_eq]; omega

theorem ofBe16_eq (b0 b1 : UInt8) : ofBe16 b0 b1 = b1.toNat + b0.toNat * 256 := by
  have h1 := UInt8.toNat_lt b1
  unfold ofBe16
  rw [or_shl_eq_add _ _ 8 (by omega)]

theorem ofBe32_eq (b0 b1 b2 b3 : UInt8) :
    ofBe32 b0 b1 b2 b3 = b3.toNat + b2.toNat * 2^8 + b1.toNat * 2^16 + b0.toNat * 2^24 := by
  have h0 := UInt8.toNat_lt b0; have h1 := UInt8.toNat_lt b1
  have h2 := UInt8.toNat_lt b2; have h3 := UInt8.toNat_lt b3
  unfold ofBe32
  rw [or_shl_eq_add _ _ 8 (by omega), or_shl_eq_add _ _ 16 (by omega), or_shl_eq_add _ _ 24 (by omega)]

theorem ofBe64_eq (b0 b1 b2 b3 b4 b5 b6 b7 : UInt8) :
    ofBe64 b0 b1 b2 b3 b4 b5 b6 b7 =
      b7.toNat + b6.toNat * 2^8 + b5.toNat * 2^16 + b4.toNat * 2^24 +
      b3.toNat * 2^32 + b2.toNat * 2^40 + b1.toNat * 2^48 + b0.toNat * 2^56 := by
  have h0 := UInt8.toNat_lt b0; have h1 := UInt8.toNat_lt b1
  have h2 := UInt8.toNat_lt b2; have h3 := UInt8.toNat_lt b3
  have h4 := UInt8.toNat_lt b4; have h5 := UInt8.toNat_lt b5
  have h6 := UInt8.toNat_lt b6; have h7 := UInt8.toNat_lt b7
  unfold ofBe64
  rw [or_shl_eq_add _ _ 8 (by omega), or_shl_eq_add _ _ 16 (by omega), or_shl_eq_add _ _ 24 (by omega),
      or_shl_eq_add _ _ 32 (by omega), or_shl_eq_add _ _ 40 (by omega), or_shl_eq_add _ _ 48 (by omega),
      or_shl_eq_add _ _ 56 (by omega)]

theorem ofBe16_be16 (n : Nat) (h : n < 2^16) :
    ofBe16 (byteOf (n >>> 8)) (byteOf n) = n := by
  rw [ofBe16_eq]; simp [Nat.shiftRight_eq_div_pow]; omega

theorem ofBe32_be32 (n : Nat) (h : n < 2^32) :
    ofBe32 (byteOf (n >>> 24)) (byteOf (n >>> 16)) (byteOf (n >>> 8)) (byteOf n) = n := by
  rw [ofBe32_eq]; simp [Nat.shiftRight_eq_div_pow]; omega

theorem ofBe64_be64 (n : Nat) (h : n < 2^64) :
    ofBe64 (byteOf (n >>> 56)) (byteOf (n >>> 48)) (byteOf (n >>> 40)) (byteOf (n >>> 32))
           (byteOf (n >>> 24)) (byteOf (n >>> 16)) (byteOf (n >>> 8)) (byteOf n) = n := by
  rw [ofBe64_eq]; simp [Nat.shiftRight_eq_div_pow]; omega

theorem ofBe16_lt (b0 b1 : UInt8) : ofBe16 b0 b1 < 2^16 := by
  have h0 := UInt8.toNat_lt b0; have h1 := UInt8.toNat_lt b1
  rw [ofBe16_eq]; omega
theorem ofBe32_lt (b0 b1 b2 b3 : UInt8) : ofBe32 b0 b1 b2 b3 < 2^32 := by
  have h0 := UInt8.toNat_lt b0; have h1 := UInt8.toNat_lt b1
  have h2 := UInt8.toNat_lt b2; have h3 := UInt8.toNat_lt b3
  rw [ofBe32_eq]; omega
theorem ofBe64_lt (b0 b1 b2 b3 b4 b5 b6 b7 : UInt8) : ofBe64 b0 b1 b2 b3 b4 b5 b6 b7 < 2^64 := by
  have h0 := UInt8.toNat_lt b0; have h1 := UInt8.toNat_lt b1
  have h2 := UInt8.toNat_lt b2; have h3 := UInt8.toNat_lt b3
  have h4 := UInt8.toNat_lt b4; have h5 := UInt8.toNat_lt b5
  have h6 := UInt8.toNat_lt b6; have h7 := UInt8.toNat_lt b7
  rw [ofBe64_eq]; omega

/-! ### Single bits: a test against the mask `2 ^ k` is `testBit k` -/

theorem and_pow (s k : Nat) : s &&& 2 ^ k = if s.testBit k then 2 ^ k else 0 := by
  apply Nat.eq_of_testBit_eq; intro i
  rw [Nat.testBit_and, Nat.testBit_two_pow]
  by_cases h : k = i
  · subst h; cases hs : s.testBit k <;> simp [Nat.testBit_two_pow_self]
  · cases hs : s.testBit k <;> simp [h, Nat.testBit_two_pow_of_ne h]

theorem testBit_of_lt {v i j : Nat} (h : v < 2 ^ i) (hij : i ≤ j) : v.testBit j = false :=
  Nat.testBit_lt_two_pow (Nat.lt_of_lt_of_le h (Nat.pow_le_pow_right (by decide) hij))

/-! ### `Except`: `>>=` after a result and `pure` (core has no lemma for them) -/

theorem Except.ok_bind {ε α β} (a : α) (f : α → Except ε β) : (Except.ok a >>= f) = f a := rfl
theorem Except.pure_eq_ok {ε α} (a : α) : (pure a : Except ε α) = Except.ok a := rfl

/-! ### Lists; a place in a buffer is what follows it: `c.drop a = x ++ y` says that `x` stands at offset
`a` of `c`, followed by `y` -/

theorem forall_mem_snoc {α : Type} {P : α → Prop} {l : List α} {a : α} (hl : ∀ x ∈ l, P x) (ha : P a) :
    ∀ x ∈ l ++ [a], P x :=
  List.forall_mem_append.mpr ⟨hl, List.forall_mem_singleton.mpr ha⟩

theorem lt_of_getElem? {α : Type} {l : List α} {k : Nat} {a : α} (h : l[k]? = some a) : k < l.length :=
  (List.getElem?_eq_some_iff.mp h).1

theorem drop_app {α : Type} {c x y : List α} {a a' : Nat} (h : c.drop a = x ++ y) (ha : a' = a + x.length) :
    c.drop a' = y := by
  rw [ha, ← List.drop_drop, h, List.drop_left]

theorem length_of_drop {α : Type} {c l : List α} {i : Nat} (h : c.drop i = l) : l.length = c.length - i := by
  rw [← h, List.length_drop]

/-! ### Insertion into a sorted list -/

/-- insertion before the first element with a key at least as large: a permutation that keeps a sorted
list sorted -/
theorem ins_spec {α : Type} (key : α → Nat) {ins : α → List α → List α} (h0 : ∀ x, ins x [] = [x])
    (hs : ∀ x y ys, ins x (y :: ys) = if key x ≤ key y then x :: y :: ys else y :: ins x ys) (x : α) :
    ∀ l : List α, (ins x l).Perm (x :: l) ∧
      (l.Pairwise (fun a b => key a ≤ key b) → (ins x l).Pairwise (fun a b => key a ≤ key b))
  | [] => by rw [h0]; exact ⟨.refl _, fun _ => List.pairwise_singleton _ _⟩
  | y :: ys => by
    obtain ⟨ihp, ihs⟩ := ins_spec key h0 hs x ys
    rw [hs]
    split
    · next hle =>
      refine ⟨.refl _, fun h => List.pairwise_cons.mpr ⟨fun z hz => ?_, h⟩⟩
      rcases List.mem_cons.mp hz with rfl | hz
      · exact hle
      · exact Nat.le_trans hle ((List.pairwise_cons.mp h).1 z hz)
    · next hlt =>
      refine ⟨(ihp.cons y).trans (.swap x y ys), fun h => ?_⟩
      have ⟨hy, hys⟩ := List.pairwise_cons.mp h
      refine List.pairwise_cons.mpr ⟨fun z hz => ?_, ihs hys⟩
      rcases List.mem_cons.mp (ihp.subset hz) with rfl | hz
      · omega
      · exact hy z hz

/-! ### Hex encoding (driver I/O only; no theorem depends on it) -/

def hexDigit (n : Nat) : Char :=
  if n < 10 then Char.ofNat (48 + n) else Char.ofNat (87 + n)

def toHex (b : Bytes) : String :=
  String.ofList (b.flatMap fun x => [hexDigit (x.toNat / 16), hexDigit (x.toNat % 16)])

def hexVal (c : Char) : Option Nat :=
  if '0' ≤ c ∧ c ≤ '9' then some (c.toNat - 48)
  else if 'a' ≤ c ∧ c ≤ 'f' then some (c.toNat - 87)
  else if 'A' ≤ c ∧ c ≤ 'F' then some (c.toNat - 55)
  else none

def ofHexChars : List Char → Option Bytes
  | [] => some []
  | [_] => none
  | a :: b :: rest => do
    let x ← hexVal a
    let y ← hexVal b
    let r ← ofHexChars rest
    pure (UInt8.ofNat (x * 16 + y) :: r)

/-- `-` denotes the empty byte string on the wire protocol. -/
def ofHex (s : String) : Option Bytes :=
  if s = "-" then some [] else ofHexChars s.toList

def hexOrDash (b : Bytes) : String := if b.isEmpty then "-" else toHex b

end XMT
