/-
  XMT.InfoRoundtrip — every reader of XMT.Info reads back what the matching writer wrote, through
  any lawful reader implementation (`Reads`, XMT.CodecReads), the stream writer's calls concatenate
  to the Chunk writer's bytes, what the expected result `absorb` leaves of the receiver, and what its
  normalisations `normKill` / `normWork` do to a kill date and to work hours.
-/
import XMT.Info
import XMT.CodecRoundtrip

namespace XMT.Info
open XMT.Codec

/-! ### well-formedness (what the Go types can hold, plus the stated domain conditions) -/

def Address.WF (a : Address) : Prop := a.hi < 2 ^ 64 ∧ a.low < 2 ^ 64

/-- at most 255 addresses (the count travels as one byte) -/
def Iface.WF (d : Iface) : Prop :=
  d.name.length ≤ Facts.maxSlice ∧ d.mac < 2 ^ 64 ∧ d.addrs.length ≤ 255 ∧ ∀ a ∈ d.addrs, a.WF

/-- a device ID is `IDSize` bytes and not "empty" (`ID.Empty` = first byte zero; `ID.Read` treats
such an ID as a read error) -/
def IDOK (id : Bytes) : Prop := id.length = Facts.c12_idSize ∧ id.head? ≠ some 0

/-- at most 255 interfaces -/
def Machine.WF (m : Machine) : Prop :=
  IDOK m.id ∧ m.pid < 2 ^ 32 ∧ m.ppid < 2 ^ 32 ∧ m.caps < 2 ^ 32 ∧
  m.user.length ≤ Facts.maxSlice ∧ m.version.length ≤ Facts.maxSlice ∧
  m.hostname.length ≤ Facts.maxSlice ∧ m.network.length ≤ 255 ∧ ∀ d ∈ m.network, d.WF

def Keys.WF (k : Keys) : Prop :=
  k.pub.length = Facts.c12_publicKeySize ∧ k.priv.length = Facts.c12_privateKeySize ∧
  k.share.length = Facts.c12_sharedKeySize

/-- sleep and kill date are `int64` -/
def SettingsWF (s : Session) : Prop := I64 s.sleep ∧ I64 s.kill.sec

def Proxy.WF (f : Bool) (p : Proxy) : Prop :=
  p.name.length ≤ Facts.maxSlice ∧ p.addr.length ≤ Facts.maxSlice ∧
  (f = true → match p.profile with
    | none => False                     -- the Proxy's Profile must be marshalable
    | some b => b.length ≤ Facts.maxSlice)

/-- The writing Session is an active client (otherwise `writeProxyData` writes nothing at all), and
an attached, active Proxy is well-formed. -/
def ProxyWF (f : Bool) (s : Session) : Prop :=
  s.client = true ∧ match s.proxy with
    | none => True
    | some p => p.active = true → p.WF f

def hasDevice (t : Nat) : Prop :=
  t = Facts.c12_infoHello ∨ t = Facts.c12_infoRefresh ∨ t = Facts.c12_infoSyncMigrate

/-- Well-formedness of the sending Session for message kind `t`: only what the kind carries is
constrained. -/
def WF (t : Nat) (s : Session) : Prop :=
  if t = Facts.c12_infoProxy then ProxyWF false s
  else
    (hasDevice t → s.device.WF) ∧
    (¬ hasDevice t → t = Facts.c12_infoMigrate → IDOK s.id) ∧
    SettingsWF s ∧
    (¬ t > Facts.c12_infoRefresh → ProxyWF true s ∧ (¬ t ≠ Facts.c12_infoMigrate → s.keys.WF))

instance (a : Address) : Decidable a.WF := by unfold Address.WF; infer_instance
instance (d : Iface) : Decidable d.WF := by unfold Iface.WF; infer_instance
instance (b : Bytes) : Decidable (IDOK b) := by unfold IDOK; infer_instance
instance (m : Machine) : Decidable m.WF := by unfold Machine.WF; infer_instance
instance (k : Keys) : Decidable k.WF := by unfold Keys.WF; infer_instance
instance (s : Session) : Decidable (SettingsWF s) := by unfold SettingsWF; infer_instance
instance (f : Bool) (p : Proxy) : Decidable (p.WF f) := by
  unfold Proxy.WF; cases p.profile <;> infer_instance
instance (f : Bool) (s : Session) : Decidable (ProxyWF f s) := by
  unfold ProxyWF; cases s.proxy <;> infer_instance
instance (t : Nat) : Decidable (hasDevice t) := by unfold hasDevice; infer_instance
instance (t : Nat) (s : Session) : Decidable (WF t s) := by unfold WF; infer_instance

@[simp] theorem encItems_nil : encItems [] = [] := rfl
theorem encItems_cons (a : Item) (l : List Item) : encItems (a :: l) = a.enc ++ encItems l :=
  List.flatMap_cons
theorem encItems_append (a b : List Item) : encItems (a ++ b) = encItems a ++ encItems b :=
  List.flatMap_append
theorem encItems_flatMap {α : Type} (xs : List α) (f : α → List Item) :
    encItems (xs.flatMap f) = xs.flatMap (fun x => encItems (f x)) :=
  List.flatMap_assoc

@[simp] theorem enc_iU8 (b : UInt8) : (iU8 b).enc = [b] := rfl
@[simp] theorem enc_iU32 (n : Nat) : (iU32 n).enc = be32 n := rfl
@[simp] theorem enc_iU64 (n : Nat) : (iU64 n).enc = be64 n := rfl
@[simp] theorem enc_iI64 (i : Int) : (iI64 i).enc = be64 (toU64 i) := rfl
@[simp] theorem enc_iStr (b : Bytes) : (iStr b).enc = encBytesChunk b := rfl
@[simp] theorem enc_raw (b : Bytes) : (Item.raw b).enc = b := rfl

/-- `encStream_flatten` (C10 `writers_agree`), item by item. -/
theorem calls_flatten (l : List Item) : (callsOf l).flatten = encItems l := by
  have item : ∀ a : Item, a.calls.flatten = a.enc
    | .v x => encStream_flatten x
    | .raw b => List.append_nil b
  induction l with
  | nil => rfl
  | cons a l ih =>
    rw [callsOf, List.flatMap_cons, List.flatten_append, ← callsOf, ih, item, encItems_cons]

theorem ofU64_toU64 (i : Int) (h : I64 i) : ofU64 (toU64 i) = i := by
  unfold I64 at h
  unfold ofU64 toU64
  split <;> omega

theorem toU64_lt (i : Int) : toU64 i < 2 ^ 64 := by
  unfold toU64; omega

theorem I64_killWire {k : Time} (h : I64 k.sec) : I64 (killWire k) := by
  unfold killWire
  split
  · decide
  · exact h

theorem I64_killOfWire {u : Int} (h : I64 u) : I64 (killOfWire u).sec := by
  unfold killOfWire
  split
  · decide
  · exact h

theorem absorbHead_frame (t : Nat) (snd rcv : Session) :
    ∃ d i, absorbHead t snd rcv = { rcv with device := d, id := i } := by
  unfold absorbHead
  split
  · exact ⟨_, _, rfl⟩
  · split
    · exact ⟨_, _, rfl⟩
    · exact ⟨_, _, rfl⟩

/-- What `absorb` leaves of the receiver, for every kind but the proxy update: the head the kind
carries, the sender's settings, and the sender's keys where both guards of the reader let the key
material through (the migration hand-off), the receiver's own otherwise. -/
theorem absorb_fst (t : Nat) (snd rcv : Session) (ht : t ≠ Facts.c12_infoProxy) :
    (absorb t snd rcv).1 = { absorbSettings snd (absorbHead t snd rcv) with
      keys := if t > Facts.c12_infoRefresh ∨ t ≠ Facts.c12_infoMigrate then rcv.keys
        else snd.keys } := by
  obtain ⟨d, i, hh⟩ := absorbHead_frame t snd rcv
  rw [absorb, if_neg ht]
  by_cases h : t > Facts.c12_infoRefresh
  · rw [if_pos h, if_pos (Or.inl h), hh]
    rfl
  · by_cases h2 : t ≠ Facts.c12_infoMigrate
    · rw [if_neg h, if_pos h2, if_pos (Or.inr h2), hh]
      rfl
    · rw [if_neg h, if_neg h2, if_neg (not_or.mpr ⟨h, h2⟩)]

theorem Time.isZero_iff (k : Time) : k.isZero = true ↔ k = Time.zero := by
  cases k
  simp [Time.isZero, Time.zero]

theorem normKill_eq (k : Time) :
    normKill k = if k.isZero = true ∨ k.sec = 0 then Time.zero else Time.unix k.sec := by
  unfold normKill killWire killOfWire
  by_cases hz : k.isZero = true
  · simp only [hz, if_true, true_or]
  · by_cases h0 : k.sec = 0 <;> simp only [hz, h0, if_true, if_false, false_or, Bool.false_eq_true]

theorem normKill_of_isZero {k : Time} (hz : k.isZero = true) : normKill k = k := by
  rw [normKill_eq, if_pos (Or.inl hz)]
  exact ((Time.isZero_iff k).mp hz).symm

theorem normKill_idem (k : Time) : normKill (normKill k) = normKill k := by
  rw [normKill_eq k]
  split
  · decide
  · rename_i h
    by_cases hz : (Time.unix k.sec).isZero = true
    · exact normKill_of_isZero hz
    · rw [normKill_eq]
      exact if_neg (not_or.mpr ⟨hz, fun h0 => h (Or.inr h0)⟩)

theorem normWork_idem (w : Option WorkHours) : normWork (normWork w) = normWork w := by
  cases w with
  | none => rfl
  | some x => by_cases h : x.empty = true <;> simp [normWork, workOfWire, h]

/-- `Lawful` for the typed reads plus: `io.ReadFull` of as many bytes as are there returns them. -/
structure LawfulX {S : Type} (X : PrimX S) (abs : S → Bytes) (inv : S → Prop) : Prop where
  base : Lawful X.prim abs inv
  full_ok : ∀ b, Reads abs inv (X.full b.length) b b

theorem chunkX_lawful : LawfulX chunkX id (fun _ => True) where
  base := chunk_lawful
  full_ok b s r _ h := by
    obtain rfl : s = b ++ r := h
    refine ⟨r, ?_, rfl, trivial⟩
    show (if (b ++ r).length < b.length then _ else _) = _
    rw [if_neg (by simp), List.take_left, List.drop_left]

theorem streamX_lawful : LawfulX streamX List.flatten NoEmpty where
  base := stream_lawful
  full_ok := stream_lawful.reads_body

/-- "No work hours" is written as `WriteUint32(0); WriteUint8(0)` by `writeDeviceInfo` and by
`SetWorkHours`: the five bytes of the all-zero tuple, … -/
theorem enc_noWork : encItems [iU32 0, iU8 0] = encItems (workItems ⟨0, 0, 0, 0, 0⟩) := by decide

/-- … which every reader stores as nil again. -/
theorem workOfWire_zero : workOfWire ⟨0, 0, 0, 0, 0⟩ = none := by decide

section
variable {S : Type} {X : PrimX S} {abs : S → Bytes} {inv : S → Prop}

theorem reads_lift {α : Type} {f : S → Except Err (α × S)} {bs : Bytes} {x : α}
    (h : Reads abs inv f bs x) : Reads abs inv (lift f) bs x := by
  intro s r hi ha
  obtain ⟨s', e, a⟩ := h s r hi ha
  exact ⟨s', by simp only [lift, e], a⟩

theorem reads_readN {α : Type} (rd : M S α) (enc : α → Bytes) (xs : List α)
    (h : ∀ x ∈ xs, Reads abs inv rd (enc x) x) :
    Reads abs inv (readN rd xs.length) (xs.flatMap enc) xs := by
  induction xs with
  | nil => exact Reads.pure []
  | cons x xs ih =>
    exact (h x List.mem_cons_self).bind
      (Reads.map (x :: ·) (ih fun y hy => h y (List.mem_cons_of_mem _ hy)))

/-- A counted loop whose count travels as one byte, the writer truncating to what the byte can say. -/
theorem reads_counted {α : Type} {rd : M S α} {enc : α → Bytes} {xs : List α}
    (hl : xs.length ≤ 255) (h : ∀ x ∈ xs, Reads abs inv rd (enc x) x) :
    Reads abs inv (readN rd (byteOf xs.length).toNat) ((xs.take (xs.length % 256)).flatMap enc)
      xs := by
  rw [byteOf_toNat, Nat.mod_eq_of_lt (by omega), List.take_length]
  exact reads_readN rd enc xs h

namespace LawfulX
variable (L : LawfulX X abs inv)
include L

theorem reads_u8 (b : UInt8) : Reads abs inv (u8 X) [b] b :=
  reads_lift (L.base.reads_u8 b)

theorem reads_u32 (n : Nat) (hn : n < 2 ^ 32) : Reads abs inv (u32 X) (be32 n) n :=
  reads_lift (L.base.reads_u32 n hn)

theorem reads_u64 (n : Nat) (hn : n < 2 ^ 64) : Reads abs inv (u64 X) (be64 n) n :=
  reads_lift (L.base.reads_u64 n hn)

theorem reads_i64 (i : Int) (hi : I64 i) : Reads abs inv (i64 X) (be64 (toU64 i)) i :=
  (Reads.map ofU64 (L.reads_u64 _ (toU64_lt i))).of_eq rfl (ofU64_toU64 i hi).symm

theorem reads_str (b : Bytes) (hb : b.length ≤ Facts.maxSlice) :
    Reads abs inv (str X) (encBytesChunk b) b :=
  reads_lift (decBytes_ok L.base b hb)

theorem reads_full (b : Bytes) : Reads abs inv (full X b.length) b b :=
  reads_lift (L.full_ok b)

end LawfulX

variable (L : LawfulX X abs inv)
include L

theorem reads_addr (a : Address) (h : a.WF) :
    Reads abs inv (readAddr X) (encItems (addrItems a)) a :=
  (L.reads_u64 _ h.1).bind ((L.reads_u64 _ h.2).bind (Reads.pure _))

theorem reads_iface (d : Iface) (h : d.WF) :
    Reads abs inv (readIface X) (encItems (ifaceItems d)) d := by
  obtain ⟨h1, h2, h3, h4⟩ := h
  simp only [ifaceItems, List.cons_append, List.nil_append, encItems_cons, enc_iStr, enc_iU64,
    enc_iU8, encItems_flatMap]
  exact (L.reads_str _ h1).bind <| (L.reads_u64 _ h2).bind <| (L.reads_u8 _).bind <|
    Reads.map _ (reads_counted h3 fun a ha => reads_addr L a (h4 a ha))

theorem reads_network (n : List Iface) (hl : n.length ≤ 255) (h : ∀ d ∈ n, d.WF) :
    Reads abs inv (readNetwork X) (encItems (networkItems n)) n := by
  simp only [networkItems, encItems_cons, enc_iU8, encItems_flatMap]
  exact (L.reads_u8 _).bind (reads_counted hl fun d hd => reads_iface L d (h d hd))

theorem reads_id (id : Bytes) (h : IDOK id) : Reads abs inv (readID X) id id := by
  rw [readID, ← h.1]
  refine (L.reads_full id).bind_nil ?_
  split
  · exact absurd rfl h.2
  · exact Reads.pure id

theorem reads_machine (m : Machine) (h : m.WF) :
    Reads abs inv (readMachine X) (encItems (machineItems m)) m := by
  obtain ⟨h1, h2, h3, h4, h5, h6, h7, h8, h9⟩ := h
  simp only [machineItems, List.cons_append, List.nil_append, encItems_cons, enc_iStr, enc_iU32,
    enc_iU8, enc_raw]
  exact (reads_id L _ h1).bind <| (L.reads_u8 _).bind <| (L.reads_u32 _ h2).bind <|
    (L.reads_u32 _ h3).bind <| (L.reads_str _ h5).bind <| (L.reads_str _ h6).bind <|
    (L.reads_str _ h7).bind <| (L.reads_u8 _).bind <| (L.reads_u32 _ h4).bind <|
    Reads.map _ (reads_network L _ h8 h9)

theorem reads_work (w : WorkHours) : Reads abs inv (readWork X) (encItems (workItems w)) w :=
  (L.reads_u8 _).bind <| (L.reads_u8 _).bind <| (L.reads_u8 _).bind <| (L.reads_u8 _).bind <|
    (L.reads_u8 _).bind <| Reads.pure _

theorem reads_keys (k : Keys) (h : k.WF) :
    Reads abs inv (readKeys X) (encItems (keyItems k)) k := by
  unfold readKeys
  rw [← h.1, ← h.2.1, ← h.2.2]
  exact (L.reads_full _).bind <| (L.reads_full _).bind <| (L.reads_full _).bind <| Reads.pure _

theorem reads_settings (snd rcv : Session) (h : SettingsWF snd) :
    Reads abs inv (readSettings X rcv) (encItems (settingsItems snd)) (absorbSettings snd rcv) := by
  have hk := I64_killWire h.2
  -- the tuple that travels
  obtain ⟨w, hb, hw⟩ : ∃ w, encItems (settingsItems snd) = encItems ([iU8 snd.jitter,
      iI64 snd.sleep, iI64 (killWire snd.kill)] ++ workItems w) ∧
      workOfWire w = normWork snd.work := by
    unfold settingsItems
    cases snd.work with
    | none =>
      refine ⟨⟨0, 0, 0, 0, 0⟩, ?_, workOfWire_zero⟩
      rw [encItems_append, encItems_append, enc_noWork]
    | some w => exact ⟨w, rfl, rfl⟩
  rw [hb, absorbSettings, ← hw]
  simp only [List.cons_append, List.nil_append, encItems_cons, enc_iU8, enc_iI64]
  exact (L.reads_u8 _).bind <| (L.reads_i64 _ h.1).bind <| (L.reads_i64 _ hk).bind <|
    Reads.map _ (reads_work L w)

theorem reads_proxyElem (f : Bool) (n a p : Bytes) (hn : n.length ≤ Facts.maxSlice)
    (ha : a.length ≤ Facts.maxSlice) (hp : f = true → p.length ≤ Facts.maxSlice) :
    Reads abs inv (readProxyElem X f)
      (encItems ([iStr n, iStr a] ++ if f then [iStr p] else [])) ⟨n, a, if f then p else []⟩ := by
  cases f
  · exact (L.reads_str n hn).bind <| (L.reads_str a ha).bind <| Reads.pure _
  · exact (L.reads_str n hn).bind <| (L.reads_str a ha).bind <| (L.reads_str p (hp rfl)).bind <|
      Reads.pure _

theorem reads_proxy (f : Bool) (s : Session) (h : ProxyWF f s) :
    ∃ its, proxyItems f s = .ok its ∧
      Reads abs inv (readProxy X f) (encItems its) (proxyView f s) := by
  have absent : Reads abs inv (readProxy X f) (encItems [iU8 0]) [] :=
    (L.reads_u8 0).bind (Reads.pure _)
  unfold proxyItems proxyView
  rw [h.1]
  cases hpx : s.proxy with
  | none => exact ⟨_, rfl, absent⟩
  | some p =>
    have hp := hpx ▸ h.2
    cases hact : p.active with
    | false =>
      simp only [hact]
      exact ⟨_, rfl, absent⟩
    | true =>
      obtain ⟨hn, ha, hpf⟩ := hp hact
      simp only [hact]
      have one : ∀ b, (f = true → b.length ≤ Facts.maxSlice) → Reads abs inv (readProxy X f)
          (encItems ([iU8 1, iStr p.name, iStr p.addr] ++ if f then [iStr b] else []))
          [⟨p.name, p.addr, if f then b else []⟩] := fun b hb =>
        (L.reads_u8 1).bind (Reads.map (fun a => [a]) (reads_proxyElem L f _ _ b hn ha hb))
      cases f with
      | false => exact ⟨_, rfl, one [] nofun⟩
      | true =>
        cases hq : p.profile with
        | none => exact (hq ▸ hpf rfl).elim
        | some b => exact ⟨_, rfl, one b fun _ => by simpa only [hq] using hpf rfl⟩

theorem reads_head (t : Nat) (snd rcv : Session) (hd : hasDevice t → snd.device.WF)
    (hi : ¬ hasDevice t → t = Facts.c12_infoMigrate → IDOK snd.id) :
    Reads abs inv (readHead X t rcv) (encItems (headItems t snd)) (absorbHead t snd rcv) := by
  unfold readHead headItems absorbHead
  split
  · exact Reads.map _ (reads_machine L _ (hd ‹_›))
  · split
    · exact (Reads.map _ (reads_id L _ (hi ‹_› ‹_›))).of_eq (List.append_nil _) rfl
    · exact Reads.pure _

/-- `writeItems`, `readInfoWith` and `absorb` branch on the same three guards, and in each branch the
sections written are read back one after the other. `keys` stands for either key-pair reader: only
the hand-off (`infoMigrate`) runs it, so only there is anything asked of it. -/
theorem reads_infoWith (keys : M S Keys) (t : Nat) (snd rcv : Session) (h : WF t snd)
    (hkeys : t = Facts.c12_infoMigrate → snd.keys.WF →
      Reads abs inv keys (encItems (keyItems snd.keys)) snd.keys) :
    ∃ bs, writeInfo t snd = .ok bs ∧
      Reads abs inv (readInfoWith X keys t rcv) bs (absorb t snd rcv) := by
  suffices ∃ its, writeItems t snd = .ok its ∧
      Reads abs inv (readInfoWith X keys t rcv) (encItems its) (absorb t snd rcv) by
    obtain ⟨its, e, r⟩ := this
    exact ⟨_, by rw [writeInfo, e]; rfl, r⟩
  unfold WF at h
  unfold writeItems readInfoWith absorb
  by_cases hp : t = Facts.c12_infoProxy
  · simp only [hp, if_true] at h ⊢
    obtain ⟨its, e, r⟩ := reads_proxy L false snd h
    exact ⟨its, e, Reads.map _ r⟩
  · simp only [hp, if_false] at h ⊢
    obtain ⟨hd, hi, hs, ht⟩ := h
    have hhead := reads_head L t snd rcv hd hi
    have hset := reads_settings L snd (absorbHead t snd rcv) hs
    by_cases hr : t > Facts.c12_infoRefresh
    · simp only [hr, if_true]
      refine ⟨_, rfl, ?_⟩
      rw [encItems_append]
      exact hhead.bind (Reads.map _ hset)
    · obtain ⟨hpx, hk⟩ := ht hr
      obtain ⟨its, e, r⟩ := reads_proxy L true snd hpx
      simp only [hr, if_false, e]
      by_cases hm : t ≠ Facts.c12_infoMigrate
      · simp only [if_pos hm]
        refine ⟨_, rfl, ?_⟩
        simp only [encItems_append, List.append_assoc]
        exact hhead.bind (hset.bind (Reads.map _ r))
      · simp only [if_neg hm]
        refine ⟨_, rfl, ?_⟩
        simp only [encItems_append, List.append_assoc]
        exact hhead.bind (hset.bind (r.bind (Reads.map _ (hkeys (Decidable.of_not_not hm) (hk hm)))))

/-- The repaired reader (`io.ReadFull` per key). -/
theorem reads_info (t : Nat) (snd rcv : Session) (h : WF t snd) :
    ∃ bs, writeInfo t snd = .ok bs ∧
      Reads abs inv (readInfo X t rcv) bs (absorb t snd rcv) :=
  reads_infoWith L (readKeys X) t snd rcv h fun _ hk => reads_keys L _ hk

theorem reads_resync (t : UInt8) (snd rcv : Session) (h : WF t.toNat snd) :
    ∃ bs, writeInfo t.toNat snd = .ok bs ∧
      Reads abs inv (readResync X rcv) (t :: bs) (absorb t.toNat snd rcv).1 :=
  let ⟨bs, hw, hr⟩ := reads_info L t.toNat snd rcv h
  ⟨bs, hw, (L.reads_u8 t).bind (Reads.map (·.1) hr)⟩

end

end XMT.Info
