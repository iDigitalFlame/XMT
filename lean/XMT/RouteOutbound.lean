/-
  XMT.RouteOutbound — what `Listener.talk` does to the sessions table, and which packets it places
  into the reply.  A packet only drains queues and registers its own sender (`Evolves`), which
  keeps the table invariant `Inv`, the queue invariant `QOK` and every registered device in its
  slot; what it hands to the connection comes out of such queues, so it names the sender, an
  element of the batch or a device reached through a tag.  For histories: what every step keeps holds
  along `run` (`run_preserves` for the table, `run_allGood` for the events).

  The walks go as in XMT/RouteLemmas.lean (`case n` is the n-th exit of the definition as written in
  XMT/Route.lean); only the exits that change the table or produce output need an argument.
-/
import XMT.RouteLemmas
namespace XMT.Route

variable {hash : ID → Nat} {closing o : Bool} {t t' : Tbl} {s s' hs hs' : Sess} {c : Conn} {n : Pkt} {m : Sub}
  {i x idx : Nat} {vs : List Sub} {host : ID} {tags : List Nat} {e : List Ev} {P tagP : ID → Prop}

/-- what is queued on a Session names that Session -/
def SQ (s : Sess) : Prop := ∀ l ∈ s.q, l.dev = s.id

/-- … for every Session of the table -/
def QOK (t : Tbl) : Prop := ∀ k s, t.get k = some s → SQ s

theorem sq_empty (s : Sess) : SQ { s with q := [] } := by intro l hl; cases hl

theorem sq_newSess (n : Sub) : SQ (newSess n) := by
  unfold newSess
  split
  · exact fun _ hl => nomatch hl
  · intro l hl; cases List.mem_singleton.1 hl; rfl

theorem takeOwn_subset (q : List Leaf) : (takeOwn q).1 ⊆ q ∧ (takeOwn q).2 ⊆ q := by
  fun_cases takeOwn q
  · exact ⟨fun _ h => h, fun _ h => h⟩
  · exact ⟨List.cons_subset_cons _ (List.nil_subset _), List.subset_cons_self _ _⟩
  · exact ⟨List.cons_subset_cons _ (List.takeWhile_sublist _).subset,
      List.subset_cons_of_subset _ (List.dropWhile_sublist _).subset⟩

/-- `s'` is `s` after part of its queue has been sent. -/
def Sess.Le (s' s : Sess) : Prop := s'.id = s.id ∧ s'.q ⊆ s.q

theorem Sess.Le.refl (s : Sess) : s.Le s := ⟨rfl, fun _ h => h⟩

theorem Sess.Le.trans {a b c : Sess} (h1 : a.Le b) (h2 : b.Le c) : a.Le c :=
  ⟨h1.1.trans h2.1, fun _ h => h2.2 (h1.2 h)⟩

theorem Sess.kept_le (s : Sess) : s.kept.Le s := ⟨rfl, (takeOwn_subset s.q).2⟩

theorem Sess.Le.sq (h : s'.Le s) (hs : SQ s) : SQ s' :=
  fun l hl => (hs l (h.2 hl)).trans h.1.symm

theorem nextAll_dev (hs : SQ s) : ∀ l ∈ nextAll s, l.dev = s.id := by
  unfold nextAll
  split
  · intro l hl; cases List.mem_singleton.1 hl; rfl
  · exact fun l hl => hs l ((takeOwn_subset s.q).1 hl)

/-- `t'` comes from `t` by sending from queues and by registering Sessions in free slots: a slot that
was taken keeps its device and gains no queued packet; a slot that was free is free still or holds a
Session stored under the hash of its own non-empty ID whose queue names it. -/
structure Evolves (hash : ID → Nat) (t t' : Tbl) : Prop where
  old : ∀ k s, t.get k = some s → ∃ s', t'.get k = some s' ∧ s'.Le s
  new : ∀ k s', t.get k = none → t'.get k = some s' → hash s'.id = k ∧ idEmpty s'.id = false ∧ SQ s'

theorem Evolves.refl (t : Tbl) : Evolves hash t t :=
  ⟨fun _ s h => ⟨s, h, .refl s⟩, fun _ _ h h' => nomatch h.symm.trans h'⟩

/-- a property of every entry that sending from a queue keeps and that new registrations have. -/
theorem Evolves.forall {P : Nat → Sess → Prop} (h : Evolves hash t t')
    (hle : ∀ k s s', s'.Le s → P k s → P k s')
    (hnew : ∀ s, idEmpty s.id = false → SQ s → P (hash s.id) s)
    (ht : ∀ k s, t.get k = some s → P k s) : ∀ k s, t'.get k = some s → P k s := by
  intro k s' hs'
  cases hk : t.get k with
  | none => obtain ⟨rfl, he, hq⟩ := h.new k s' hk hs'; exact hnew s' he hq
  | some s =>
    obtain ⟨x, hx, hle'⟩ := h.old k s hk
    cases hx.symm.trans hs'
    exact hle k s s' hle' (ht k s hk)

theorem Evolves.inv (h : Evolves hash t t') (hi : Inv hash t) : Inv hash t' :=
  h.forall (fun _ _ _ hle hp => hle.1 ▸ hp) (fun _ he _ => ⟨rfl, he⟩) hi

theorem Evolves.qok (h : Evolves hash t t') (hq : QOK t) : QOK t' :=
  h.forall (fun _ _ _ hle hp => hle.sq hp) (fun _ _ hs => hs) hq

theorem Evolves.trans {a b c : Tbl} (h1 : Evolves hash a b) (h2 : Evolves hash b c) : Evolves hash a c where
  old k s hs := by
    obtain ⟨s1, g1, l1⟩ := h1.old k s hs
    obtain ⟨s2, g2, l2⟩ := h2.old k s1 g1
    exact ⟨s2, g2, l2.trans l1⟩
  new k s2 hk hs2 := by
    cases hb : b.get k with
    | none => exact h2.new k s2 hb hs2
    | some s1 =>
      obtain ⟨p1, p2, p3⟩ := h1.new k s1 hk hb
      obtain ⟨x, hx, hle⟩ := h2.old k s1 hb
      cases hx.symm.trans hs2
      exact ⟨hle.1 ▸ p1, hle.1 ▸ p2, hle.sq p3⟩

/-- a slot that was taken receives a Session that is its old content after sending -/
theorem Evolves.set {t2 : Tbl} (h : Evolves hash t t2) (hs : t.get i = some s)
    (hle : s'.Le s) : Evolves hash t (t2.set i s') where
  old k x hx := by
    rw [Tbl.get_set]
    by_cases hk : k = i
    · rw [if_pos hk]; cases (hk ▸ hx).symm.trans hs; exact ⟨s', rfl, hle⟩
    · rw [if_neg hk]; exact h.old k x hx
  new k x hk hx := by
    rw [Tbl.get_set, if_neg fun e => nomatch (e ▸ hk).symm.trans hs] at hx
    exact h.new k x hk hx

/-- a free slot, that of device `d`, receives a Session with the properties of a new one -/
theorem Evolves.add {d : ID} (hf : t.get (hash d) = none) (hid : s.id = d)
    (he : idEmpty d = false) (hq : SQ s) : Evolves hash t (t.set (hash d) s) where
  old k x hx := by
    rw [Tbl.get_set, if_neg fun e => nomatch (e ▸ hx).symm.trans hf]
    exact ⟨x, hx, .refl x⟩
  new k x hk hx := by
    rw [Tbl.get_set] at hx
    by_cases e : k = hash d
    · rw [if_pos e] at hx; cases hx; exact ⟨hid ▸ e.symm, hid ▸ he, hq⟩
    · rw [if_neg e, hk] at hx; cases hx

theorem idEmpty_of_guard {d : ID} {c : Bool} (h : ¬(idEmpty d || c) = true) : idEmpty d = false := by
  cases hd : idEmpty d
  · rfl
  · exact absurd (by rw [hd]; rfl) h

theorem talkSub_evolves {r : List Ev × Except Err SubOut}
    (h : talkSub hash closing t m o = (t', r)) : Evolves hash t t' := by
  revert h
  fun_cases talkSub hash closing t m o <;> rintro ⟨⟩
  -- a hello from a device without Session: `newSess m` goes into the free slot …
  case case6 | case7 => exact .add (find_absent ‹_›) (newSess_id m) (idEmpty_of_guard ‹_›) (sq_newSess m)
  case case8 =>  -- … after its queue was sent from
    exact .add (find_absent ‹_›) (newSess_id m) (idEmpty_of_guard ‹_›) ((newSess m).kept_le.sq (sq_newSess m))
  case case11 => exact (Evolves.refl t).set (find_own ‹_›).2 (Sess.kept_le _)  -- own Session, sent from
  all_goals exact .refl t

theorem resolveLoop_evolves {r : List Ev × Except Err Conn}
    (h : resolveLoop host idx tags t c = (t', r)) : Evolves hash t t' := by
  fun_induction resolveLoop host idx tags t c generalizing t' r
  case case4 ih | case5 ih | case6 ih => exact ih h  -- known, unused or own tag: skipped
  all_goals cases h
  case case7 ih => exact ih ‹_›  -- empty queue: the table stays
  case case8 ih => exact ((Evolves.refl _).set ‹_› (Sess.kept_le _)).trans (ih ‹_›)  -- drained
  all_goals exact .refl _

theorem multiLoop_evolves {r : List Ev × Except Err (List Leaf × List Nat)}
    (h : multiLoop hash closing x vs hs t = (t', hs', r)) : Evolves hash t t' ∧ hs'.Le hs := by
  fun_induction multiLoop hash closing x vs hs t generalizing t' hs' r
  case case4 ih => exact ih h  -- a nested container is skipped
  all_goals cases h
  case case5 ih => exact ih ‹_›  -- oneshot
  case case6 ih => exact ⟨(ih ‹_›).1, (ih ‹_›).2.trans (Sess.kept_le _)⟩  -- the host's own device
  case case7 => exact ⟨talkSub_evolves ‹_›, .refl _⟩  -- another device: `talkSub`, failing …
  case case8 ih => exact ⟨(talkSub_evolves ‹_›).trans (ih ‹_›).1, (ih ‹_›).2⟩  -- … or not
  all_goals exact ⟨.refl _, .refl _⟩

theorem process_evolves {r : List Ev × Except Err (List Leaf × List Nat)}
    (h : process hash closing hs t n c = (t', hs', r)) : Evolves hash t t' ∧ hs'.Le hs := by
  revert h
  fun_cases process hash closing hs t n c <;> rintro ⟨⟩
  case case2 | case3 => exact multiLoop_evolves ‹_›  -- a multi-device batch
  case case5 => exact ⟨.refl t, hs.kept_le⟩  -- a single packet or same-device batch that `receive` accepted
  all_goals exact ⟨.refl t, .refl hs⟩

/-- `i` is the slot of the sender's Session `s`: `talk` writes back there what `process` left of it. -/
theorem talkWith_evolves {ok : Bool} {r : List Ev × Except Err Reply}
    (h : talkWith hash closing i s ok t n = (t', r)) (hs : t.get i = some s) : Evolves hash t t' := by
  revert h
  fun_cases talkWith hash closing i s ok t n <;> rintro ⟨⟩
  case case1 => exact resolveLoop_evolves (resolve_guard ‹_›)  -- a malformed tag
  case case2 | case3 =>
    have hp := process_evolves (hash := hash) ‹_›
    exact ((resolveLoop_evolves (resolve_guard ‹_›)).trans hp.1).set hs hp.2

theorem talkNew_evolves {r : List Ev × Except Err Reply} (h : talkNew hash closing t n = (t', r))
    (hf : t.get (hash n.hd.dev) = none) (he : idEmpty n.hd.dev = false) : Evolves hash t t' := by
  revert h
  fun_cases talkNew hash closing t n <;> rintro ⟨⟩
  case case4 =>  -- a hello: registered, then `talkWith`
    exact (Evolves.add hf (newSess_id n.hd) he (sq_newSess _)).trans
      (talkWith_evolves ‹_› (by rw [Tbl.get_set, if_pos rfl]))
  all_goals exact .refl t

theorem talk_evolves {r : List Ev × Except Err Reply} (h : talk hash closing t n = (t', r)) :
    Evolves hash t t' := by
  revert h
  fun_cases talk hash closing t n
  case case3 hh =>  -- slot of another device, not a hello: only the re-registration request
    rw [talkNew_nonhello (Bool.eq_false_iff.2 hh)]
    rintro ⟨⟩
    exact .refl t
  case case4 => exact fun h => talkNew_evolves h (find_absent ‹_›) (idEmpty_of_guard ‹_›)  -- free slot
  all_goals rintro ⟨⟩
  case case5 => exact talkWith_evolves ‹_› (find_own ‹_›).2  -- the sender's own Session
  all_goals exact .refl t

theorem forall_enqueue {P : Nat → Sess → Prop} (i : ID) (l : Leaf)
    (h : ∀ k x, t.get k = some x → P k x)
    (hs : ∀ s, t.get (hash i) = some s → s.id = i → P (hash i) { s with q := s.q ++ [l] }) :
    ∀ k x, (enqueue hash t i l).get k = some x → P k x := by
  fun_cases enqueue hash t i l
  case case1 => exact Tbl.forall_set h (hs _ ‹_› ‹_›)
  all_goals exact h

theorem run_preserves {Q : Tbl → Prop} {A : Op → Prop} (hstep : ∀ t op, A op → Q t → Q (step hash t op).1) :
    ∀ (ops : List Op) (t : Tbl), (∀ op ∈ ops, A op) → Q t → Q (run hash t ops).1
  | [], _, _, h => h
  | op :: ops, t, ha, h =>
    run_preserves hstep ops _ (fun o ho => ha o (.tail _ ho)) (hstep t op (ha op (.head _)) h)

theorem run_allGood {A : Op → Prop} (hstep : ∀ t op, A op → AllGood tagP (step hash t op).2) :
    ∀ (ops : List Op) (t : Tbl), (∀ op ∈ ops, A op) → AllGood tagP (run hash t ops).2
  | [], _, _ => allGood_nil
  | op :: ops, t, ha =>
    allGood_append (hstep t op (ha op (.head _))) (run_allGood hstep ops _ fun o ho => ha o (.tail _ ho))

theorem step_own (op : Op) (hop : op.ok = true) : AllOwn (step hash t op).2 := by
  cases op with
  | talk n => exact talk_good rfl hop (tagsOK_true _ _ _)
  | talkSub n o => exact talkSub_good rfl
  | _ => exact allGood_nil

theorem step_inv (op : Op) (h : Inv hash t) : Inv hash (step hash t op).1 := by
  cases op with
  | talk n => exact (talk_evolves rfl).inv h
  | talkSub n o => exact (talkSub_evolves rfl).inv h
  | lookup i => exact h
  | remove i => exact forall_remove i h
  | queue i l => exact forall_enqueue i l h fun s hs _ => h _ s hs

/-- an operation that is not `remove a` -/
def Op.notRemove (a : ID) : Op → Prop
  | .remove i => i ≠ a
  | _ => True

theorem step_stays {a : ID} (op : Op) (hop : op.notRemove a)
    (h : ∃ s, t.get (hash a) = some s ∧ s.id = a) : ∃ s, (step hash t op).1.get (hash a) = some s ∧ s.id = a := by
  obtain ⟨s, hs, hid⟩ := h
  have evolved {t'} (h : Evolves hash t t') : ∃ s, t'.get (hash a) = some s ∧ s.id = a :=
    let ⟨s', hs', hle⟩ := h.old _ s hs; ⟨s', hs', hle.1.trans hid⟩
  cases op with
  | talk n => exact evolved (talk_evolves rfl)
  | talkSub n o => exact evolved (talkSub_evolves rfl)
  | lookup i => exact ⟨s, hs, hid⟩
  | remove i => exact ⟨s, remove_keeps_other hs hid hop, hid⟩
  | queue i l =>
    show ∃ s, (enqueue hash t i l).get (hash a) = some s ∧ s.id = a
    fun_cases enqueue hash t i l
    case case1 x hx _ =>
      rw [Tbl.get_set]
      by_cases hk : hash a = hash i
      · rw [if_pos hk]; cases (hk ▸ hs).symm.trans hx; exact ⟨_, rfl, hid⟩
      · rw [if_neg hk]; exact ⟨s, hs, hid⟩
    all_goals exact ⟨s, hs, hid⟩

/-- a `queue` operation queues a packet that names the Session's device (what `Session.queue` /
`verifyPacket` enforce on the real Session). -/
def Op.queuesOwn : Op → Bool
  | .queue i l => l.dev == i
  | _ => true

theorem step_qok (op : Op) (hop : op.queuesOwn = true) (hq : QOK t) : QOK (step hash t op).1 := by
  cases op with
  | talk n => exact (talk_evolves rfl).qok hq
  | talkSub n o => exact (talkSub_evolves rfl).qok hq
  | lookup i => exact hq
  | remove i => exact forall_remove i hq
  | queue i l =>
    exact forall_enqueue i l hq fun s hs hid => List.forall_mem_append.2
      ⟨hq _ s hs, fun y hy => List.mem_singleton.1 hy ▸ (beq_iff_eq.1 hop).trans hid.symm⟩

theorem talkSub_out {so : SubOut} (h : talkSub hash closing t m o = (t', e, .ok so))
    (hq : QOK t) : ∀ l ∈ so.reply, l.dev = m.dev := by
  revert h
  fun_cases talkSub hash closing t m o <;> rintro ⟨⟩
  case case3 | case4 => intro l hl; cases List.mem_singleton.1 hl; rfl  -- the re-registration request
  case case8 =>  -- from the new Session
    exact fun l hl => (sq_newSess m l ((takeOwn_subset _).1 hl)).trans (newSess_id m)
  case case11 =>  -- from the sender's own Session
    have hf := find_own ‹_›
    exact fun l hl => (hq _ _ hf.2 l ((takeOwn_subset _).1 hl)).trans hf.1
  all_goals exact nofun

/-- `processMultiple`: the packed leaves name the host or the sender of an element. -/
theorem multiLoop_out {l : List Leaf} {k : List Nat}
    (h : multiLoop hash closing x vs hs t = (t', hs', e, .ok (l, k))) (hq : QOK t) (hsq : SQ hs)
    (hP : P hs.id) (hvs : ∀ v ∈ vs, P v.dev) : ∀ y ∈ l, P y.dev := by
  fun_induction multiLoop hash closing x vs hs t generalizing t' hs' e l k
  case case4 ih => exact ih h hq hsq hP fun v hv => hvs v (.tail _ hv)
  case case6 ih =>  -- the host's own device: what `nextAll hs` yields names the host
    split at h <;> cases h
    exact List.forall_mem_append.2 ⟨fun y hy => nextAll_dev hsq y hy ▸ hP,
      ih ‹_› hq ((Sess.kept_le _).sq hsq) hP fun v hv => hvs v (.tail _ hv)⟩
  case case8 ih =>  -- another device: `talkSub`'s reply names the element's device
    split at h <;> cases h
    exact List.forall_mem_append.2 ⟨fun y hy => talkSub_out ‹_› hq y hy ▸ hvs _ (.head _),
      ih ‹_› ((talkSub_evolves ‹_›).qok hq) hsq hP fun v hv => hvs v (.tail _ hv)⟩
  all_goals cases h
  case case1 => exact nofun
  case case5 ih _ => exact ih ‹_› hq hsq hP fun v hv => hvs v (.tail _ hv)

/-- `conn.resolve`: what is added to the connection names a device that satisfies `tagP`. -/
theorem resolveLoop_out {c' : Conn}
    (h : resolveLoop host idx tags t c = (t', e, .ok c')) (hq : QOK t) (htag : TagsOK tagP t tags host)
    (hc : ∀ y ∈ c.add, tagP y.dev) : ∀ y ∈ c'.add, tagP y.dev := by
  fun_induction resolveLoop host idx tags t c generalizing t' e c'
  case case4 ih | case5 ih | case6 ih => exact ih h hq htag.tail hc
  all_goals cases h
  case case1 | case3 => exact hc
  case case7 ih _ => exact ih ‹_› hq htag.tail hc
  case case8 ih _ =>  -- drained: what is added was queued on a Session that satisfies `tagP`
    have hsq := hq _ _ ‹_›
    have hp := htag.head ‹_› ‹_›
    exact ih ‹_› (Tbl.forall_set hq ((Sess.kept_le _).sq hsq)) (htag.tail.set fun _ => .inr hp)
      (List.forall_mem_append.2 ⟨hc, fun y hy => hsq y ((takeOwn_subset _).1 hy) ▸ hp⟩)

theorem process_out {l : List Leaf} {k : List Nat} (h : process hash closing hs t n c = (t', hs', e, .ok (l, k)))
    (hq : QOK t) (hsq : SQ hs) (hP : P hs.id) (hvs : ∀ v ∈ n.subs, P v.dev) (hc : ∀ y ∈ c.add, P y.dev) :
    ∀ y ∈ l, P y.dev := by
  revert h
  fun_cases process hash closing hs t n c <;> dsimp +zetaDelta -failIfUnchanged only <;> rintro ⟨⟩
  case case3 =>  -- a multi-device batch: the keep-alive naming the host, or the packed leaves and `c.add`
    split
    · exact fun y hy => List.mem_singleton.1 hy ▸ hP
    · exact List.forall_mem_append.2 ⟨multiLoop_out ‹_› hq hsq hP hvs, hc⟩
  case case5 => exact List.forall_mem_append.2 ⟨fun y hy => nextAll_dev hsq y hy ▸ hP, hc⟩

theorem talkWith_out {ok : Bool} {r : Reply} (h : talkWith hash closing i s ok t n = (t', e, .ok r))
    (hq : QOK t) (hsq : SQ s) (htag : TagsOK tagP t n.tags s.id) (hP : P s.id) (hvs : ∀ v ∈ n.subs, P v.dev)
    (htp : ∀ d, tagP d → P d) : ∀ y ∈ r.next, P y.dev := by
  revert h
  fun_cases talkWith hash closing i s ok t n <;> rintro ⟨⟩
  have hr := resolve_guard ‹_›
  exact process_out ‹_› ((resolveLoop_evolves (hash := hash) hr).qok hq) hsq hP hvs
    fun y hy => htp _ (resolveLoop_out hr hq htag nofun y hy)

theorem talkNew_out {r : Reply} (h : talkNew hash closing t n = (t', e, .ok r)) (hq : QOK t)
    (htag : TagsOK tagP t n.tags n.hd.dev) (hP : P n.hd.dev) (hvs : ∀ v ∈ n.subs, P v.dev)
    (htp : ∀ d, tagP d → P d) : ∀ y ∈ r.next, P y.dev := by
  revert h
  fun_cases talkNew hash closing t n <;> rintro ⟨⟩
  case case2 => intro y hy; cases List.mem_singleton.1 hy; exact hP  -- the re-registration request
  case case4 =>
    exact talkWith_out ‹_› (Tbl.forall_set hq (sq_newSess _)) (sq_newSess _) htag.newSess
      ((newSess_id n.hd).symm ▸ hP) hvs htp

theorem talk_out {r : Reply} (h : talk hash closing t n = (t', e, .ok r)) (hq : QOK t)
    (htag : TagsOK tagP t n.tags n.hd.dev) (hP : P n.hd.dev) (hvs : ∀ v ∈ n.subs, P v.dev)
    (htp : ∀ d, tagP d → P d) : ∀ y ∈ r.next, P y.dev := by
  revert h
  fun_cases talk hash closing t n
  case case3 | case4 => exact fun h => talkNew_out h hq htag hP hvs htp
  all_goals rintro ⟨⟩
  have hf := find_own ‹_›
  exact talkWith_out ‹_› hq (hq _ _ hf.2) (hf.1 ▸ htag) (hf.1 ▸ hP) hvs htp

end XMT.Route
