/-
  XMT.RouteProxy — the proxy half of the routing model (property C15): c2/proxy.go
  Proxy.accept, Proxy.talk, Proxy.talkSub, Proxy.subsRegister, proxyClient.next and the branch of
  receive() (c2/vars.go) that hands a packet which does not name the parent Session to Proxy.accept.
  After the `fix:` commit that adds the full-ID comparison to the three hash look-ups.

  Modelled for single packets (no tags, no multi-device batch: those run through the same
  conn.resolve / conn.processMultiple code that XMT/Route.lean models for the Listener).
-/
import XMT.Route
namespace XMT.Route.Proxy
open XMT.Route

/-- a proxied client: its device ID and its send queue. -/
structure Client where
  id : ID
  q : List Leaf
deriving DecidableEq, Repr, Inhabited

/-- `Proxy.clients  map[uint32]*proxyClient` -/
abbrev PTbl := List (Nat × Client)

def PTbl.get (t : PTbl) (h : Nat) : Option Client :=
  match t with
  | [] => none
  | (k, s) :: r => if k = h then some s else PTbl.get r h

def PTbl.del (t : PTbl) (h : Nat) : PTbl := t.filter (fun e => e.1 != h)
def PTbl.set (t : PTbl) (h : Nat) (s : Client) : PTbl := (h, s) :: PTbl.del t h

inductive PEv
  /-- `c.state.Set(stateSeen)` on client `cid` while handling a packet naming `pdev` -/
  | seen (cid pdev : ID)
  /-- a new proxyClient `cid` was created and stored for a hello packet naming `pdev` -/
  | reg (cid pdev : ID)
  /-- `p.parent.write(true, n)`: the packet is forwarded upstream -/
  | fwd (pdev : ID) (pid job : Nat)
  /-- `Proxy.accept`: `c.queue(n)` — a packet naming `pdev` is queued for client `cid` -/
  | queued (cid pdev : ID) (pid job : Nat)
  /-- `p.close <- i`: removal of client `cid` requested by a packet naming `pdev` -/
  | closeReq (cid pdev : ID)
  /-- the packet names the parent Session itself and is handled by it -/
  | parentRecv (parent pdev : ID) (pid job : Nat)
deriving DecidableEq, Repr

inductive PFound
  | own (c : Client)
  | absent
  | collide

def find (hash : ID → Nat) (t : PTbl) (d : ID) : PFound :=
  match t.get (hash d) with
  | none => .absent
  | some c => if c.id != d then .collide else .own c

/-- `Proxy.accept(n)` -/
def accept (hash : ID → Nat) (t : PTbl) (n : Sub) : PTbl × List PEv × Bool :=
  if t.isEmpty then (t, [], false)
  else match find hash t n.dev with
    | .absent => (t, [], false)
    | .collide => (t, [], false)          -- fix: `!ok || c.ID != n.Device`
    | .own c =>
      if nop n then (t, [], true)
      else (t.set (hash n.dev) { c with q := c.q ++ [{ dev := n.dev, pid := n.pid, job := n.job, crypt := hasFlag n.flags flagCrypt }] },
            [.queued c.id n.dev n.pid n.job], true)

/-- `receive(parent, nil, n)` on the client that runs the proxy (routing part only). -/
def receiveDown (hash : ID → Nat) (parent : ID) (t : PTbl) (n : Sub) : PTbl × List PEv × Except Err Unit :=
  if idEmpty n.dev || nop n then (t, [], .ok ())
  else if !(hasFlag n.flags flagMultiDevice) && parent != n.dev then
    match accept hash t n with
    | (t', e, true) => (t', e, .ok ())
    | (t', e, false) => (t', e, .error .mismatch)
  else if n.pid == svComplete && !(hasFlag n.flags flagCrypt) then (t, [], .ok ())
  else if hasFlag n.flags flagMulti then
    (t, [], if flagLen n.flags == 0 then .error .count else .error .unmarshal)
  else if hasFlag n.flags flagFrag then (t, [], .error .unmodelled)
  else (t, [.parentRecv parent n.dev n.pid n.job], .ok ())

/-- what one `proxyClient.next` call takes from a non-empty queue: `nextPacket` packs the first
packet whatever it is and stops in front of a later one that carries key material -/
def takeClient : List Leaf → List Leaf × List Leaf
  | [] => ([], [])
  | l :: ls => (l :: ls.takeWhile (fun x => !x.crypt), ls.dropWhile (fun x => !x.crypt))

/-- `proxyClient.next(false)` -/
def nextAll (c : Client) : List Leaf :=
  if c.q.isEmpty then [{ dev := c.id, pid := 0, job := 0 }] else (takeClient c.q).1

/-- the client after that call -/
def Client.kept (c : Client) : Client := { c with q := (takeClient c.q).2 }

@[simp] theorem Client.kept_id (c : Client) : c.kept.id = c.id := rfl

/-- everything `Proxy.talk` does after the look-up, for the client `c` of the sender (`ok`: it
existed before); `h` is the packet header with `FlagProxy` set, `i` the slot. -/
def talkCont (i : Nat) (h : Sub) (t : PTbl) (c : Client) (ok : Bool) (ev : List PEv) :
    PTbl × List PEv × Except Err Reply :=
  let ev := ev ++ [.seen c.id h.dev]
  if h.pid == svShutdown then
    (t, ev ++ [.closeReq c.id h.dev, .fwd h.dev h.pid h.job],
      .ok { ok := false, host := none, next := [{ dev := h.dev, pid := svShutdown, job := h.job }], subs := [] })
  else
    -- processSingle: Proxy.notify forwards everything that is not a keep-alive
    (t.set i c.kept, ev ++ (if nop h then [] else [.fwd h.dev h.pid h.job]),
      .ok { ok := ok, host := some c.id, next := nextAll c, subs := [] })

/-- `Proxy.talk(a, n)` for a packet without tags that is not a multi-device batch. -/
def talk (hash : ID → Nat) (closing : Bool) (t : PTbl) (n : Pkt) : PTbl × List PEv × Except Err Reply :=
  if idEmpty n.hd.dev || closing then (t, [], .error .short) else
  if !n.tags.isEmpty || hasFlag n.hd.flags flagMultiDevice then (t, [], .error .unmodelled) else
  -- n.Flags |= FlagProxy
  let h : Sub := { n.hd with flags := n.hd.flags ||| flagProxy }
  let i := hash h.dev
  let reg : Except Err Reply := .ok { ok := false, host := none, next := [registerReply h], subs := [] }
  match find hash t h.dev with
  | .collide => if h.pid == svHello then (t, [], .error .malformed) else (t, [], reg)
  | .absent =>
    if h.pid != svHello then (t, [], reg)
    else
      let c : Client := { id := h.dev, q := [{ dev := h.dev, pid := svComplete, job := h.job, crypt := true }] }
      talkCont i h (t.set i c) c false [.reg c.id h.dev, .fwd h.dev h.pid h.job]
  | .own c => talkCont i h t c true []

/-- everything `Proxy.talkSub` does after the look-up. -/
def talkSubCont (i : Nat) (n : Sub) (o : Bool) (t : PTbl) (c : Client) (ev : List PEv) :
    PTbl × List PEv × Except Err SubOut :=
  let ev := ev ++ [.seen c.id n.dev]
  if nop n then
    let ev := ev ++ [.fwd n.dev n.pid n.job]
    if o then (t, ev, .ok { host := some c.id, key := i, reply := [] })
    else (t.set i c.kept, ev, .ok { host := some c.id, key := i, reply := (takeClient c.q).1 })
  else if n.pid == svShutdown then
    (t, ev ++ [.closeReq c.id n.dev, .fwd n.dev n.pid n.job],
      .ok { host := none, key := 0, reply := [{ dev := n.dev, pid := svShutdown, job := n.job }] })
  else if o then (t, ev, .ok { host := some c.id, key := i, reply := [] })
  else (t.set i c.kept, ev, .ok { host := some c.id, key := i, reply := (takeClient c.q).1 })

/-- `Proxy.talkSub(a, n, o)` -/
def talkSub (hash : ID → Nat) (closing : Bool) (t : PTbl) (n : Sub) (o : Bool) :
    PTbl × List PEv × Except Err SubOut :=
  if idEmpty n.dev || closing then (t, [], .error .short) else
  let i := hash n.dev
  let reg : Except Err SubOut := .ok { host := none, key := 0, reply := [registerReply n] }
  match find hash t n.dev with
  | .collide => if n.pid == svHello then (t, [], .error .malformed) else (t, [], reg)
  | .absent =>
    if n.pid != svHello then (t, [], reg)
    else
      let c : Client := { id := n.dev, q := [{ dev := n.dev, pid := svComplete, job := n.job, crypt := true }] }
      talkSubCont i n o (t.set i c) c [.reg c.id n.dev]
  | .own c => talkSubCont i n o t c []

/-- `Proxy.prune`: every pending close request deletes the entry stored under the hash of the
device named by the packet that asked for it. -/
def applyClose (hash : ID → Nat) (t : PTbl) (ev : List PEv) : PTbl :=
  ev.foldl (fun t e => match e with | .closeReq _ d => t.del (hash d) | _ => t) t

/-- `Proxy.subsRegister`, run when the server asks the client that runs the proxy to register again:
`for _, v := range p.clients { v.queue(&com.Packet{ID: SvRegister, Job: rand, Device: v.ID}) }`;
`job k` is the random Job number drawn for the entry under key `k`.  Compared with the real code by
op `prxreg`. -/
def subsRegister (t : PTbl) (job : Nat → Nat) : PTbl × List PEv :=
  (t.map (fun e => (e.1, { e.2 with q := e.2.q ++ [{ dev := e.2.id, pid := svRegister, job := job e.1 }] })),
   t.map (fun e => PEv.queued e.2.id e.2.id svRegister (job e.1)))

/-- canonical rendering of the observable part of the events (driver I/O). -/
def evLine (idx : ID → String) (ev : List PEv) : String :=
  let lst (l : List String) := if l.isEmpty then "-" else ",".intercalate l
  let seen := ((ev.filterMap fun e => match e with | .seen c _ => some (idx c) | _ => none).toArray.qsort (· < ·)).toList.eraseDups
  let fwd := ev.filterMap fun e => match e with | .fwd d p j => some s!"{idx d}.{p}.{j}" | _ => none
  let qd := ev.filterMap fun e => match e with | .queued c d p j => some s!"{idx c}>{idx d}.{p}.{j}" | _ => none
  let cl := ev.filterMap fun e => match e with | .closeReq c _ => some (idx c) | _ => none
  let new := ev.filterMap fun e => match e with | .reg c _ => some (idx c) | _ => none
  let pr := ev.filterMap fun e => match e with
    | .parentRecv _ d p j => if p ≥ mvRefresh then some s!"{idx d}.{p}.{j}" else none
    | _ => none
  s!"s={lst seen} f={lst fwd} q={lst qd} c={lst cl} n={lst new} p={lst pr}"

end XMT.Route.Proxy
