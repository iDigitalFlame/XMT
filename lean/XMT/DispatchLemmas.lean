/-
  XMT.DispatchLemmas — no-panic / postcondition lemmas for XMT.Dispatch: conn.process, conn.resolve,
  the tail of handle, receive.

  A statement `x.Post Q` is pushed through the code with `Post.bind` and `Post.ite`; a `match` on an
  outcome is opened with `Post.cases` (two cases: `ok` with the postcondition, or an error).
-/
import XMT.Dispatch
namespace XMT.Dispatch

theorem R.bind_eq {α β : Type} (x : R α) (f : α → R β) :
    (x >>= f) = (match x with | .ok a => f a | .err e => .err e | .panic s => .panic s) := rfl
@[simp] theorem pure_eq {α : Type} (a : α) : (pure a : R α) = .ok a := rfl
@[simp] theorem ok_bind {α β : Type} (a : α) (f : α → R β) : (R.ok a >>= f) = f a := rfl
@[simp] theorem err_bind {α β : Type} (e : DErr) (f : α → R β) : (R.err e >>= f) = .err e := rfl
@[simp] theorem panic_bind {α β : Type} (s : String) (f : α → R β) : (R.panic s >>= f) = .panic s := rfl
@[simp] theorem Post_ok {α : Type} (Q : α → Prop) (a : α) : (R.ok a).Post Q = Q a := rfl
@[simp] theorem Post_err {α : Type} (Q : α → Prop) (e : DErr) : (R.err e : R α).Post Q = True := rfl
@[simp] theorem Post_panic {α : Type} (Q : α → Prop) (s : String) : (R.panic s : R α).Post Q = False := rfl

theorem Post.bind {α β : Type} {x : R α} {f : α → R β} {Q : α → Prop} {Q' : β → Prop}
    (hx : x.Post Q) (hf : ∀ a, Q a → (f a).Post Q') : (x >>= f).Post Q' := by
  cases x with
  | ok a => exact hf a hx
  | err e => trivial
  | panic s => exact hx.elim

theorem Post.mono {α : Type} {x : R α} {Q Q' : α → Prop} (hx : x.Post Q) (h : ∀ a, Q a → Q' a) : x.Post Q' := by
  cases x with
  | ok a => exact h a hx
  | err e => trivial
  | panic s => exact hx.elim

theorem Post.noPanic {α : Type} {x : R α} {Q : α → Prop} (hx : x.Post Q) : x.isPanic = false := by
  cases x with
  | ok a => rfl
  | err e => rfl
  | panic s => exact hx.elim

/-- the two cases a `match` on an outcome with a postcondition has to look at -/
theorem Post.cases {α : Type} {x : R α} {Q : α → Prop} (hx : x.Post Q) :
    (∃ a, x = .ok a ∧ Q a) ∨ ∃ e, x = .err e := by
  cases x with
  | ok a => exact .inl ⟨a, rfl, hx⟩
  | err e => exact .inr ⟨e, rfl⟩
  | panic s => exact hx.elim

theorem Post.ite {α : Type} {c : Prop} [Decidable c] {a b : R α} {Q : α → Prop} (ha : c → a.Post Q)
    (hb : ¬ c → b.Post Q) : (if c then a else b).Post Q :=
  iteInduction ha hb

@[simp] theorem hostP_some (x : Host) (s : String) : hostP (some x) s = .ok x := rfl
@[simp] theorem ptrP_some {α : Type} (x : α) (s : String) : ptrP (some x) s = .ok x := rfl
theorem idxP_lt {α : Type} {t : List α} {i : Nat} (h : i < t.length) (s : String) : idxP t i s = .ok t[i] := by
  rw [idxP, List.getElem?_eq_getElem h]

/-- the table after `m[k] = v`: what `mset` returns on a non-nil map -/
def msetT (l : SubMap) (k : Nat) (v : Bool) : SubMap :=
  if l.any (·.1 == k) then (l.map fun e => if e.1 == k then (k, v) else e) else (l ++ [(k, v)])

@[simp] theorem mset_some (m : SubMap) (k : Nat) (v : Bool) (s : String) : mset (some m) k v s = .ok (msetT m k v) := by
  simp only [mset, msetT]
  split <;> rfl

theorem writeUnpack_post (d : P) : (s : Option P) → (writeUnpack (some d) s).Post (·.isSome = true)
  | none => rfl
  | some _ => Post.ite (fun _ => Post.ite (fun _ => trivial) fun _ => Post.ite (fun _ => trivial) fun _ => rfl)
      fun _ => Post.ite (fun _ => trivial) fun _ => rfl

theorem writeUnpack_none (s : Option P) : writeUnpack none s = .ok none := by
  unfold writeUnpack; rfl

theorem processSingle_post (h : Srv) (c : Conn) (n : P) (o : Bool) (x : Host) (hc : c.host = some x) :
    (processSingle h c n o).Post (fun c' => c'.host = some x ∧ c'.add = c.add ∧ c'.subs = c.subs ∧
      (o = false → c.add.length > 0 → c'.next.isSome = true)) := by
  unfold processSingle
  simp only [Conn.log, hc, hostP_some, ok_bind]
  refine Post.ite (fun _ => trivial) fun _ =>
    Post.ite (fun ho => ⟨rfl, rfl, rfl, fun h => absurd ho (by simp [h])⟩) fun _ =>
    Post.ite (fun _ => ?_) fun hl => ⟨rfl, rfl, rfl, fun _ h => absurd h hl⟩
  cases x.nxt with
  | none => exact ⟨rfl, rfl, rfl, fun _ _ => rfl⟩
  | some v => exact Post.bind (writeUnpack_post _ _) fun _ hd => ⟨rfl, rfl, rfl, fun _ _ => hd⟩

/-- invariant of the loop of processMultiple -/
structure PMInv (x : Host) (c : Conn) : Prop where
  host : c.host = some x
  next : c.next.isSome = true
  subs : c.subs.isSome = true

/-- the reply is only replaced by a `writeUnpack` result, the table only by an assignment into it -/
theorem pmStep_post (h : Srv) (o : Bool) (c : Conn) (v : P) (x : Host) (hc : PMInv x c) :
    (pmStep true h o c v).Post (fun c' => PMInv x c' ∧ c'.add = c.add) := by
  obtain ⟨nx, hnx⟩ := Option.isSome_iff_exists.mp hc.next
  obtain ⟨m, hm⟩ := Option.isSome_iff_exists.mp hc.subs
  have good : ∀ (r : Option P) m' ev, r.isSome = true →
      PMInv x { host := some x, next := r, subs := some m', add := c.add, ev := ev } ∧ c.add = c.add :=
    fun _ _ _ hr => ⟨⟨rfl, hr, rfl⟩, rfl⟩
  unfold pmStep
  generalize (if v.tags.length > 0 then { v with tags := [] } else v) = v'
  simp only [Conn.log, hc.host, hnx, hm, hostP_some, ptrP_some, ok_bind, mset_some]
  refine Post.ite (fun _ => trivial) fun _ => Post.ite (fun _ => ⟨hc, rfl⟩) fun _ =>
    Post.ite (fun _ => good _ _ _ rfl) fun _ => Post.ite (fun _ => Post.ite (fun _ => good _ _ _ rfl) fun _ => ?_)
      fun _ => Post.ite (fun _ => trivial) fun _ => ?_
  · -- the connection's own client answers
    cases x.nxt with
    | none => exact Post.ite (fun _ => good _ _ _ rfl) fun h => (h trivial).elim
    | some z =>
      rcases Post.cases (writeUnpack_post nx (some z)) with ⟨r, hr, hs⟩ | ⟨e, hr⟩ <;> simp only [hr]
      · exact good _ _ _ hs
      · exact good _ _ _ rfl
  · -- a sub-client
    refine Post.bind (Q := fun c1 => PMInv x c1 ∧ c1.add = c.add)
      (Post.ite (fun _ => good _ _ _ rfl) fun _ => good _ _ _ rfl) fun c1 ⟨h1, ha⟩ => ?_
    refine Post.ite (fun _ => ⟨h1, ha⟩) fun hr => ?_
    obtain ⟨nx1, hnx1⟩ := Option.isSome_iff_exists.mp h1.next
    cases hres : (h.talkSub v'.dev).r with
    | none => simp [hres] at hr
    | some r =>
      rw [ptrP_some, ok_bind, hnx1]
      rcases Post.cases (writeUnpack_post nx1 (some r)) with ⟨r', hr', hs⟩ | ⟨e, hr'⟩ <;> rw [hr']
      · exact ⟨⟨h1.host, hs, h1.subs⟩, ha⟩
      · trivial

theorem unmarshalNext_post : (vs : List P) → (unmarshalNext vs).Post fun _ => True
  | [] => trivial
  | _ :: _ => Post.ite (fun _ => trivial) fun _ => trivial

theorem pmLoop_post (h : Srv) (o : Bool) (x : Host) : ∀ (k : Nat) (vs : List P) (c : Conn), PMInv x c →
    (pmLoop h o k vs c).Post (fun c' => PMInv x c' ∧ c'.add = c.add)
  | 0, _, _, hc => ⟨hc, rfl⟩
  | k + 1, vs, c, hc => by
    obtain ⟨nx, hnx⟩ := Option.isSome_iff_exists.mp hc.next
    unfold pmLoop
    rcases Post.cases (unmarshalNext_post vs) with ⟨⟨v, vs'⟩, hu, -⟩ | ⟨e, hu⟩ <;> simp only [hu]
    · rcases Post.cases (pmStep_post h o c v x hc) with ⟨c', hp, hs⟩ | ⟨e, hp⟩ <;> simp only [hp]
      · exact Post.mono (pmLoop_post h o x k vs' c' hs.1) fun a ha => ⟨ha.1, ha.2.trans hs.2⟩
      · trivial
    · rw [hnx]; trivial

theorem processMultiple_post (h : Srv) (c : Conn) (n : In) (o : Bool) (x : Host) (hc : c.host = some x) :
    (processMultiple h c n o).Post (fun c' => PMInv x c' ∧ c'.add = c.add) := by
  unfold processMultiple
  refine Post.ite (fun _ => by rw [hc]; trivial) fun _ => ?_
  generalize hc0 : (if c.subs.isNone then { c with subs := some [] } else c) = c0
  have h0 : c0.host = some x ∧ c0.subs.isSome = true ∧ c0.add = c.add := by
    subst hc0
    cases hs : c.subs <;> simp [hs, hc]
  simp only [h0.1, hostP_some, ok_bind]
  refine Post.bind (pmLoop_post h o x _ _ _ ⟨rfl, rfl, h0.2.1⟩) fun c1 h1 => ?_
  rw [h1.1.host]
  exact ⟨h1.1, h1.2.trans h0.2.2⟩

theorem addLoop_post (add : List (Option P)) (hadd : ∀ a ∈ add, a.isSome = true) :
    ∀ (k i : Nat) (nx : P), i + k ≤ add.length → (addLoop add k i (some nx)).Post (·.isSome = true)
  | 0, _, _, _ => rfl
  | k + 1, i, nx, hik => by
    have hi : i < add.length := by omega
    obtain ⟨a, ha⟩ := Option.isSome_iff_exists.mp (hadd add[i] (List.getElem_mem hi))
    unfold addLoop
    simp only [idxP_lt hi, ha, ok_bind, ptrP_some]
    refine Post.ite (fun _ => trivial) fun _ => ?_
    rcases Post.cases (writeUnpack_post nx (some a)) with ⟨r, hw, hs⟩ | ⟨e, hw⟩ <;> simp only [hw]
    · obtain ⟨r', rfl⟩ := Option.isSome_iff_exists.mp hs
      exact addLoop_post add hadd k (i + 1) r' (by omega)
    · trivial

theorem process_post (h : Srv) (c : Conn) (n : In) (o : Bool) (x : Host) (hc : c.host = some x)
    (hadd : ∀ a ∈ c.add, a.isSome = true) :
    (process h c n o).Post (fun c' => c'.host = c.host ∧ (o = false → c'.next.isSome = true)) := by
  unfold process
  refine Post.bind (Q := fun c1 => c1.host = some x ∧ c1.add = c.add) (Post.ite
    (fun _ => Post.mono (processMultiple_post h c n o x hc) fun _ ha => ⟨ha.1.host, ha.2⟩)
    fun _ => Post.mono (processSingle_post h c n.hd o x hc) fun _ ha => ⟨ha.1, ha.2.1⟩) fun c1 ⟨hh, ha⟩ => ?_
  cases o with
  | true =>
    rw [if_pos rfl, hh]
    exact Post.ite (fun _ => ⟨hh.trans hc.symm, nofun⟩) fun _ => ⟨hh.trans hc.symm, nofun⟩
  | false =>
    rw [if_neg nofun]
    -- a reply exists from here on, and the packets `resolve` collected are folded into it
    refine Post.bind (Q := fun c2 => c2.host = some x ∧ c2.add = c1.add ∧ c2.next.isSome = true)
      (Post.ite (fun _ => by rw [hh]; exact Post.ite (fun _ => ⟨rfl, rfl, rfl⟩) fun _ => ⟨rfl, rfl, rfl⟩)
        fun hn => ⟨hh, rfl, by cases h : c1.next <;> simp [h] at hn ⊢⟩) fun c2 ⟨hh2, ha2, hn2⟩ => ?_
    obtain ⟨nx2, hnx2⟩ := Option.isSome_iff_exists.mp hn2
    refine Post.bind (Q := fun c3 => c3.host = some x ∧ c3.next.isSome = true) (Post.ite
      (fun _ => hnx2 ▸ Post.bind (addLoop_post c2.add (ha2 ▸ ha ▸ hadd) c2.add.length 0 nx2 (by omega))
        fun _ hr => ⟨hh2, hr⟩)
      fun _ => ⟨hh2, hn2⟩) fun c3 ⟨hh3, hn3⟩ => ?_
    obtain ⟨nx3, hnx3⟩ := Option.isSome_iff_exists.mp hn3
    rw [hnx3, hh3]
    exact ⟨hc.symm, fun _ => rfl⟩

/-- invariant of the tag loop of resolve -/
def RInv (c0 c : Conn) : Prop :=
  c.host = c0.host ∧ c.next = c0.next ∧ c.subs.isSome = true ∧ (∀ a ∈ c.add, a.isSome = true)

theorem tagStep_post (h : Srv) (s : Host) (o : Bool) (t : List Nat) (i : Nat) (c0 c : Conn) (hi : i < t.length)
    (hc : RInv c0 c) : (tagStep true h s o t i c).Post (fun r => RInv c0 r.2) := by
  obtain ⟨h1, h2, h3, h4⟩ := hc
  obtain ⟨m, hm⟩ := Option.isSome_iff_exists.mp h3
  unfold tagStep
  simp only [idxP_lt hi, ok_bind, hm, mset_some, Conn.log]
  refine Post.ite (fun _ => trivial) fun _ => Post.ite (fun _ => ⟨h1, h2, h3, h4⟩) fun _ =>
    Post.ite (fun _ => ⟨h1, h2, h3, h4⟩) fun _ => ?_
  cases h.clientGet t[i] with
  | none => exact ⟨h1, h2, h3, h4⟩
  | some v =>
    refine Post.ite (fun _ => ⟨h1, h2, h3, h4⟩) fun _ => Post.ite (fun _ => ⟨h1, h2, rfl, h4⟩) fun _ => ?_
    cases v.nxt with
    | none => exact Post.ite (fun _ => ⟨h1, h2, rfl, h4⟩) fun h => (h trivial).elim
    | some n =>
      refine ⟨h1, h2, rfl, fun a ha => ?_⟩
      rcases List.mem_append.mp ha with ha | ha
      · exact h4 a ha
      · rw [List.mem_singleton.mp ha]; rfl

theorem tagLoop_post (h : Srv) (s : Host) (o : Bool) (t : List Nat) (c0 : Conn) :
    ∀ (k i : Nat) (c : Conn), i + k ≤ t.length → RInv c0 c → (tagLoop h s o t k i c).Post (RInv c0)
  | 0, _, _, _, hc => hc
  | k + 1, i, c, hik, hc => by
    unfold tagLoop
    rcases Post.cases (tagStep_post h s o t i c0 c (by omega) hc) with ⟨⟨st, c'⟩, hp, hs⟩ | ⟨e, hp⟩ <;>
      simp only [hp]
    · cases st
      · exact tagLoop_post h s o t c0 k (i + 1) c' (by omega) hs
      · exact hs
    · trivial

theorem foldl_log_frame (l : List (Nat × Bool)) (f : Nat × Bool → String) (c : Conn) :
    (l.foldl (fun c e => c.log (f e)) c).host = c.host ∧ (l.foldl (fun c e => c.log (f e)) c).next = c.next ∧
    (l.foldl (fun c e => c.log (f e)) c).add = c.add ∧ (l.foldl (fun c e => c.log (f e)) c).subs = c.subs := by
  induction l generalizing c with
  | nil => exact ⟨rfl, rfl, rfl, rfl⟩
  | cons e l ih => exact ih (c.log (f e))

theorem resolve_post (h : Srv) (c : Conn) (s : Host) (t : List Nat) (o : Bool)
    (hh : o = true → c.host.isSome = true) (hadd : ∀ a ∈ c.add, a.isSome = true) :
    (resolve h c s t o).Post (fun c' => c'.host = c.host ∧ c'.next = c.next ∧ (∀ a ∈ c'.add, a.isSome = true)) := by
  unfold resolve
  have h0 : RInv c (match c.subs with
      | none => { c with subs := some [] }
      | some m => { c with subs := some (m.map fun e => (e.1, false)) }) := by
    cases c.subs <;> exact ⟨rfl, rfl, rfl, hadd⟩
  refine Post.bind (tagLoop_post h s o t c t.length 0 _ (by omega) h0) fun c1 ⟨g1, g2, _, g4⟩ => ?_
  cases o with
  | false => exact ⟨g1, g2, g4⟩
  | true =>
    obtain ⟨x, hx⟩ := Option.isSome_iff_exists.mp (hh rfl)
    simp only [Bool.not_true, Bool.false_eq_true, if_false]
    split
    · simp [foldl_log_frame, g1, g2]; exact g4
    · simp only [foldl_log_frame, g1, hx, hostP_some, ok_bind]
      simp [foldl_log_frame, g2]; exact g4

theorem startP_post (v : Conn) (x : Host) (hv : v.host = some x) : (startP v).Post (fun _ => True) := by
  unfold startP
  simp only [hv, hostP_some, foldl_log_frame]
  exact Post.bind (Q := fun _ => True) (Post.ite (fun _ => trivial) fun _ => trivial) fun _ _ => trivial

theorem handleTail_post (v : Conn) (e nChan wErr : Bool) (hn : v.next.isSome = true) :
    (handleTail true (some v) e nChan wErr).Post (fun _ => True) := by
  obtain ⟨nx, hnx⟩ := Option.isSome_iff_exists.mp hn
  unfold handleTail
  simp only [ptrP_some, ok_bind, hnx]
  refine Post.bind (Q := fun _ => True) (Post.ite (fun _ => trivial) fun _ => trivial) fun _ _ =>
    Post.ite (fun _ => trivial) fun _ => ?_
  cases hh : v.host with
  | none => exact Post.ite (fun h => by simp at h) fun _ => Post.ite (fun _ => trivial) fun h => by simp at h
  | some x =>
    exact Post.ite (fun _ => Post.bind (startP_post v x hh) fun _ _ => trivial) fun _ =>
      Post.ite (fun h => by simp at h) fun _ => Post.ite (fun _ => trivial) fun _ =>
        Post.bind (startP_post v x hh) fun _ _ => trivial

/-- the checks in front of the `switch` let a nil Session through only to return -/
theorem recvPre_none_some {s : Option Sess} {l : Bool} {n : P} {e : Bool} (h : recvPre s l n e = none) :
    s.isSome = true := by
  cases s with
  | some x => rfl
  | none =>
    unfold recvPre at h
    rw [if_pos (c := (none.isNone || _) = true) rfl] at h
    repeat' split at h
    all_goals cases h

theorem recvPre_post (s : Option Sess) (l : Bool) (n : P) (e : Bool) (r : R (List REv))
    (h : recvPre s l n e = some r) : r.Post fun _ => True := by
  unfold recvPre at h
  repeat' split at h
  all_goals cases h
  all_goals trivial

theorem recvSingle_post (s : Option Sess) (n : P) : (recvSingle s n).Post fun _ => True := by
  unfold recvSingle; cases s <;> trivial

theorem recvSingle_np (s : Option Sess) (n : P) : (recvSingle s n).isPanic = false :=
  Post.noPanic (recvSingle_post s n)

mutual
theorem receive_post (s : Option Sess) (l : Bool) : ∀ t : Tree, (receive false s l t).Post fun _ => True
  | .node n e kids => by
    unfold receive
    simp only [Bool.false_eq_true, if_false]
    cases hp : recvPre s l n e with
    | some r => exact recvPre_post s l n e r hp
    | none =>
      obtain ⟨x, hx⟩ := Option.isSome_iff_exists.mp (recvPre_none_some hp)
      subst hx
      simp only [ptrP_some, ok_bind]
      refine Post.ite (fun _ => Post.ite (fun _ => trivial) fun _ => receiveAll_post (some x) l _ kids) fun _ =>
        Post.ite (fun _ => Post.ite (fun _ => Post.ite (fun _ => trivial) fun _ =>
          Post.bind (recvSingle_post _ _) fun _ _ => trivial) fun _ =>
          Post.ite (fun _ => trivial) fun _ => Post.ite (fun _ => ?_) fun _ => trivial) fun _ => recvSingle_post _ _
      -- a single fragment: the checks again on the cleared flags, then the leaf
      cases hp' : recvPre (some x) l { n with flags := Flag.clear n.flags } e with
      | some r => exact recvPre_post _ _ _ _ r hp'
      | none => exact recvSingle_post _ _
theorem receiveAll_post (s : Option Sess) (l : Bool) : ∀ (x : Nat) (ts : List Tree),
    (receiveAll false s l x ts).Post fun _ => True
  | 0, _ => by unfold receiveAll; trivial
  | _ + 1, [] => by unfold receiveAll; trivial
  | x + 1, v :: vs => by
    unfold receiveAll
    exact Post.ite (fun _ => trivial) fun _ => Post.bind (receive_post s l v) fun _ _ =>
      Post.bind (receiveAll_post s l x vs) fun _ _ => trivial
end

theorem receiveAll_np (s : Option Sess) (l : Bool) : ∀ (x : Nat) (ts : List Tree),
    (receiveAll false s l x ts).isPanic = false :=
  fun x ts => Post.noPanic (receiveAll_post s l x ts)

end XMT.Dispatch
