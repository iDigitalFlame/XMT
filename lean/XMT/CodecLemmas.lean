/-
  Lemmas for XMT.Codec: both writers emit the same bytes; `io.ReadFull` over a piece-list stream cuts
  the flattened stream at `k`; what the generic theorems ask of a reader implementation (`Lawful`),
  and that the Chunk reader and the stream reader meet it. A reader built on an `io.ReadFull` is
  lawful because its `ReadFull` cuts (`Cuts`): CodecIO has a second one.
-/
import XMT.Codec
namespace XMT.Codec

theorem encBytesStream_flatten (b : Bytes) : (encBytesStream b).flatten = encBytesChunk b := by
  unfold encBytesStream encBytesChunk
  split
  · rename_i h; rw [List.length_eq_zero_iff.mp h]; rfl
  · simp

theorem encStream_flatten (v : Val) : (encStream v).flatten = encChunk v := by
  cases v with
  | bytes b => exact encBytesStream_flatten b
  | strs l =>
    simp only [encStream, encChunk, List.flatten_append, List.flatten_cons, List.flatten_nil,
      List.append_nil, List.append_cancel_left_eq]
    induction l with
    | nil => rfl
    | cons b l ih => simp [encBytesStream_flatten, ih]
  | _ => simp [encStream, encChunk]

theorem encAllChunk_cons (v : Val) (vs : List Val) :
    encAllChunk (v :: vs) = encChunk v ++ encAllChunk vs :=
  List.flatMap_cons

theorem encAllStream_cons (v : Val) (vs : List Val) :
    encAllStream (v :: vs) = encStream v ++ encAllStream vs :=
  List.flatMap_cons

/-- all pieces of a stream are non-empty (a `Read` that returns `(0, nil)` is excluded) -/
def NoEmpty (cs : Stream) : Prop := ∀ c ∈ cs, c ≠ []

theorem NoEmpty.tail {c : Bytes} {cs : Stream} (h : NoEmpty (c :: cs)) : NoEmpty cs :=
  fun x hx => h x (List.mem_cons_of_mem _ hx)

theorem readFull_spec (k : Nat) (cs : Stream) :
    (readFull k cs).1 = cs.flatten.take k ∧ (readFull k cs).2.flatten = cs.flatten.drop k ∧
    (NoEmpty cs → NoEmpty (readFull k cs).2) := by
  induction k, cs using readFull.induct with
  | case1 cs => simp [readFull]
  | case2 k => simp [readFull, NoEmpty]
  | case3 k c cs h ih =>
    obtain ⟨i1, i2, i3⟩ := ih
    simp only [readFull, if_pos h, List.flatten_cons, i1, i2]
    refine ⟨?_, ?_, fun hn => i3 hn.tail⟩
    · rw [List.take_append, List.take_of_length_le (Nat.le_of_lt h)]
    · rw [List.drop_append, List.drop_of_length_le (Nat.le_of_lt h), List.nil_append]
  | case4 k c cs h =>
    have h0 : k + 1 - c.length = 0 := by omega
    simp only [readFull, if_neg h, List.flatten_cons, List.take_append, List.drop_append, h0,
      List.take_zero, List.drop_zero, List.append_nil]
    refine ⟨trivial, ?_, fun hn => ?_⟩
    · split
      · rw [List.drop_of_length_le (by omega), List.nil_append]
      · rfl
    · split
      · exact hn.tail
      · intro x hx
        rcases List.mem_cons.mp hx with rfl | hx
        · exact fun e => by have := congrArg List.length e; simp at this; omega
        · exact hn.tail x hx

theorem readFull_fst (k : Nat) (cs : Stream) : (readFull k cs).1 = cs.flatten.take k :=
  (readFull_spec k cs).1

theorem readFull_snd (k : Nat) (cs : Stream) : (readFull k cs).2.flatten = cs.flatten.drop k :=
  (readFull_spec k cs).2.1

theorem readFull_noEmpty (k : Nat) (cs : Stream) (h : NoEmpty cs) : NoEmpty (readFull k cs).2 :=
  (readFull_spec k cs).2.2 h

/-- What a reader implementation must satisfy for the generic theorems: relative to an abstraction
`abs` of its state to "the bytes still to be read" and a state invariant `inv`, every primitive
read returns exactly the next bytes and fails when there are not enough. -/
structure Lawful {S : Type} (P : Prim S) (abs : S → Bytes) (inv : S → Prop) : Prop where
  u8_ok : ∀ s b r, inv s → abs s = b :: r → ∃ s', P.u8 s = .ok (b, s') ∧ abs s' = r ∧ inv s'
  u8_err : ∀ s, inv s → abs s = [] → ∃ e, P.u8 s = .error e
  u16_ok : ∀ s b0 b1 r, inv s → abs s = b0 :: b1 :: r →
    ∃ s', P.u16 s = .ok (ofBe16 b0 b1, s') ∧ abs s' = r ∧ inv s'
  u16_err : ∀ s, inv s → (abs s).length < 2 → ∃ e, P.u16 s = .error e
  u32_ok : ∀ s b0 b1 b2 b3 r, inv s → abs s = b0 :: b1 :: b2 :: b3 :: r →
    ∃ s', P.u32 s = .ok (ofBe32 b0 b1 b2 b3, s') ∧ abs s' = r ∧ inv s'
  u32_err : ∀ s, inv s → (abs s).length < 4 → ∃ e, P.u32 s = .error e
  u64_ok : ∀ s b0 b1 b2 b3 b4 b5 b6 b7 r, inv s →
    abs s = b0 :: b1 :: b2 :: b3 :: b4 :: b5 :: b6 :: b7 :: r →
    ∃ s', P.u64 s = .ok (ofBe64 b0 b1 b2 b3 b4 b5 b6 b7, s') ∧ abs s' = r ∧ inv s'
  u64_err : ∀ s, inv s → (abs s).length < 8 → ∃ e, P.u64 s = .error e
  body_ok : ∀ s l, inv s → l ≤ (abs s).length →
    ∃ s', P.body l s = .ok ((abs s).take l, s') ∧ abs s' = (abs s).drop l ∧ inv s'
  body_err : ∀ s l, inv s → (abs s).length < l → ∃ e, P.body l s = .error e

theorem chunk_lawful : Lawful chunkPrim id (fun _ => True) where
  u8_ok := by rintro _ b r _ rfl; exact ⟨r, rfl, rfl, trivial⟩
  u8_err := by rintro _ _ rfl; exact ⟨_, rfl⟩
  u16_ok := by rintro _ b0 b1 r _ rfl; exact ⟨r, rfl, rfl, trivial⟩
  u16_err := by
    intro s _ h; simp only [chunkPrim]; split
    · simp at h; omega
    · exact ⟨_, rfl⟩
  u32_ok := by rintro _ b0 b1 b2 b3 r _ rfl; exact ⟨r, rfl, rfl, trivial⟩
  u32_err := by
    intro s _ h; simp only [chunkPrim]; split
    · simp at h; omega
    · exact ⟨_, rfl⟩
  u64_ok := by rintro _ b0 b1 b2 b3 b4 b5 b6 b7 r _ rfl; exact ⟨r, rfl, rfl, trivial⟩
  u64_err := by
    intro s _ h; simp only [chunkPrim]; split
    · simp at h; omega
    · exact ⟨_, rfl⟩
  body_ok := fun s l _ h => ⟨s.drop l, if_neg (Nat.not_lt.mpr h), rfl, trivial⟩
  body_err := fun s l _ h => ⟨.eof, if_pos h⟩

section Cuts
variable {S : Type} {rf : Nat → S → Bytes × S} {abs : S → Bytes} {inv : S → Prop}

/-- `rf k` is an `io.ReadFull` into a `k`-byte buffer: it cuts the remaining bytes at `k`. -/
def Cuts (rf : Nat → S → Bytes × S) (abs : S → Bytes) (inv : S → Prop) : Prop :=
  ∀ k s, inv s → (rf k s).1 = (abs s).take k ∧ abs (rf k s).2 = (abs s).drop k ∧ inv (rf k s).2

/-- enough bytes: the buffer is filled (the pattern of the width matches) -/
theorem Cuts.full (H : Cuts rf abs inv) (k : Nat) {s : S} (g : Bytes) {r : Bytes} (hi : inv s)
    (ha : abs s = g ++ r) (hk : g.length = k) : ∃ s', rf k s = (g, s') ∧ abs s' = r ∧ inv s' := by
  subst hk
  obtain ⟨h1, h2, h3⟩ := H g.length s hi
  rw [ha, List.take_left] at h1; rw [ha, List.drop_left] at h2
  exact ⟨_, Prod.ext h1 rfl, h2, h3⟩

/-- too few bytes: it is not -/
theorem Cuts.short (H : Cuts rf abs inv) {k : Nat} {s : S} (hi : inv s) (hl : (abs s).length < k) :
    (rf k s).1.length < k := by
  rw [(H k s hi).1, List.length_take]; omega

/-- the `body` read of both stream readers -/
theorem Cuts.body_ok (H : Cuts rf abs inv) {l : Nat} {s : S} (hi : inv s) (hl : l ≤ (abs s).length) :
    ∃ s', (if (rf l s).1.length = l then Except.ok (rf l s) else .error (shortErr (rf l s).1)) =
      .ok ((abs s).take l, s') ∧ abs s' = (abs s).drop l ∧ inv s' := by
  obtain ⟨h1, h2, h3⟩ := H l s hi
  refine ⟨_, ?_, h2, h3⟩
  rw [if_pos (by rw [h1, List.length_take]; omega), ← h1]

theorem Cuts.body_err (H : Cuts rf abs inv) {l : Nat} {s : S} (hi : inv s) (hl : (abs s).length < l) :
    ∃ e, (if (rf l s).1.length = l then Except.ok (rf l s) else .error (shortErr (rf l s).1)) =
      .error e :=
  ⟨_, if_neg (Nat.ne_of_lt (H.short hi hl))⟩

end Cuts

theorem readFull_cuts : Cuts readFull List.flatten NoEmpty :=
  fun k s hi => ⟨readFull_fst k s, readFull_snd k s, readFull_noEmpty k s hi⟩

theorem read1_ok (s : Stream) (b : UInt8) (r : Bytes) (hi : NoEmpty s) (h : s.flatten = b :: r) :
    ∃ s', read1 s = some (b, s') ∧ s'.flatten = r ∧ NoEmpty s' := by
  match s, hi, h with
  | [], _, h => simp at h
  | [] :: cs, hi, _ => exact absurd rfl (hi [] (List.mem_cons_self))
  | (x :: c) :: cs, hi, h =>
    simp only [List.flatten_cons, List.cons_append, List.cons.injEq] at h
    obtain ⟨rfl, h⟩ := h
    simp only [read1]
    cases c with
    | nil => exact ⟨cs, rfl, h, hi.tail⟩
    | cons y c =>
      refine ⟨(y :: c) :: cs, rfl, h, fun z hz => ?_⟩
      rcases List.mem_cons.mp hz with rfl | hz
      · simp
      · exact hi.tail z hz

theorem shortErr_exists (g : Bytes) : ∃ e, shortErr g = e := ⟨_, rfl⟩

theorem stream_lawful : Lawful streamPrim List.flatten NoEmpty where
  u8_ok := by
    intro s b r hi h
    obtain ⟨s', h1, h2, h3⟩ := read1_ok s b r hi h
    exact ⟨s', by simp only [streamPrim, h1], h2, h3⟩
  u8_err := by
    intro s hi h
    refine ⟨.eof, ?_⟩
    match s, h with
    | [], _ => rfl
    | [] :: _, _ => rfl
    | (x :: c) :: cs, h => simp at h
  u16_ok := by
    intro s b0 b1 r hi h
    obtain ⟨s', e, a, i⟩ := readFull_cuts.full 2 [b0, b1] hi h rfl
    exact ⟨s', by simp only [streamPrim, e], a, i⟩
  u16_err := by
    intro s hi h
    have := readFull_cuts.short hi h
    simp only [streamPrim]; split
    · rename_i e; simp [e] at this
    · exact ⟨_, rfl⟩
  u32_ok := by
    intro s b0 b1 b2 b3 r hi h
    obtain ⟨s', e, a, i⟩ := readFull_cuts.full 4 [b0, b1, b2, b3] hi h rfl
    exact ⟨s', by simp only [streamPrim, e], a, i⟩
  u32_err := by
    intro s hi h
    have := readFull_cuts.short hi h
    simp only [streamPrim]; split
    · rename_i e; simp [e] at this
    · exact ⟨_, rfl⟩
  u64_ok := by
    intro s b0 b1 b2 b3 b4 b5 b6 b7 r hi h
    obtain ⟨s', e, a, i⟩ := readFull_cuts.full 8 [b0, b1, b2, b3, b4, b5, b6, b7] hi h rfl
    exact ⟨s', by simp only [streamPrim, e], a, i⟩
  u64_err := by
    intro s hi h
    have := readFull_cuts.short hi h
    simp only [streamPrim]; split
    · rename_i e; simp [e] at this
    · exact ⟨_, rfl⟩
  body_ok := fun _ _ hi h => readFull_cuts.body_ok hi h
  body_err := fun _ _ hi h => readFull_cuts.body_err hi h

end XMT.Codec
