/-
  XMT.RouteProxyLemmas — the proxy half of Props/C15.lean: when a proxy event is its packet's own,
  and the two continuations of `Proxy.talk` / `Proxy.talkSub` once the client entry is at hand.
-/
import XMT.RouteProxy
namespace XMT.Route.Proxy
open XMT.Route

/-- a proxy event acts on the client entry (or on the parent Session) of the device the packet names. -/
def PEv.Own : PEv → Prop
  | .seen c d => c = d
  | .reg c d => c = d
  | .queued c d _ _ => c = d
  | .closeReq c d => c = d
  | .parentRecv p d _ _ => p = d
  | .fwd _ _ _ => True

def AllOwn (l : List PEv) : Prop := ∀ e ∈ l, e.Own

theorem allOwn_nil : AllOwn [] := fun _ h => nomatch h

theorem allOwn_cons {e : PEv} {l : List PEv} : AllOwn (e :: l) ↔ e.Own ∧ AllOwn l := List.forall_mem_cons

theorem allOwn_append {a b : List PEv} (ha : AllOwn a) (hb : AllOwn b) : AllOwn (a ++ b) :=
  fun e he => (List.mem_append.1 he).elim (ha e) (hb e)

variable {hash : ID → Nat} {t : PTbl} {c : Client} {ev : List PEv}

theorem pfind_own {d : ID} (h : find hash t d = .own c) : c.id = d ∧ t.get (hash d) = some c := by
  revert h
  fun_cases find hash t d <;> rintro ⟨⟩
  rename_i hc hne
  exact ⟨by simpa using hne, hc⟩

theorem pfind_ne_own {d : ID} (hun : ∀ k c, t.get k = some c → c.id ≠ d) (c : Client) : find hash t d ≠ .own c :=
  fun hf => hun _ c (pfind_own hf).2 (pfind_own hf).1

theorem talkCont_own {i : Nat} {h : Sub} {ok : Bool} (hid : c.id = h.dev) (hev : AllOwn ev) :
    AllOwn (talkCont i h t c ok ev).2.1 := by
  have hseen : AllOwn (ev ++ [.seen c.id h.dev]) := allOwn_append hev (allOwn_cons.2 ⟨hid, allOwn_nil⟩)
  fun_cases talkCont i h t c ok ev
  · exact allOwn_append hseen (allOwn_cons.2 ⟨hid, allOwn_cons.2 ⟨trivial, allOwn_nil⟩⟩)
  · refine allOwn_append hseen ?_
    split
    · exact allOwn_nil
    · exact allOwn_cons.2 ⟨trivial, allOwn_nil⟩

theorem talkSubCont_own {i : Nat} {n : Sub} {o : Bool} (hid : c.id = n.dev) (hev : AllOwn ev) :
    AllOwn (talkSubCont i n o t c ev).2.1 := by
  have hseen : AllOwn (ev ++ [.seen c.id n.dev]) := allOwn_append hev (allOwn_cons.2 ⟨hid, allOwn_nil⟩)
  fun_cases talkSubCont i n o t c ev
  case case1 | case2 => exact allOwn_append hseen (allOwn_cons.2 ⟨trivial, allOwn_nil⟩)
  case case3 => exact allOwn_append hseen (allOwn_cons.2 ⟨hid, allOwn_cons.2 ⟨trivial, allOwn_nil⟩⟩)
  case case4 | case5 => exact hseen

end XMT.Route.Proxy
