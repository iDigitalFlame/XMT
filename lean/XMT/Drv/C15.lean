import XMT.Drv.Util
import XMT.Route
import XMT.RouteProxy
import XMT.RouteChan
namespace XMT.Drv.C15
open XMT XMT.Route XMT.Drv

/-! Line protocol of C15 (see go/cmd/xmth/c15.go for the other side).

    hash <id> <id>                        → "<hash> <hash>"
    srv <id,id,…> <step> <step> …         → "<answer> | <answer> | … | tbl=…"
    prx <id,id,…> <step> <step> …         → same for a proxy (XMT/RouteProxy.lean)
-/

def idxOf (ids : List ID) (i : ID) : String :=
  match ids.findIdx? (· == i) with
  | some k => toString k
  | none => "?"

def listOr (l : List String) : String := if l.isEmpty then "-" else ",".intercalate l

def leafStr (ids : List ID) (l : List Leaf) : String :=
  listOr (l.map fun x => s!"{idxOf ids x.dev}.{x.pid}.{x.job}")

def errStr : Err → String
  | .closed => "closed" | .short => "short" | .malformed => "malformed" | .info => "unmarshal"
  | .badtag => "badtag" | .count => "count" | .unmarshal => "unmarshal" | .mismatch => "mismatch"
  | .unmodelled => "unmodelled"

def sortStr (l : List String) : List String := (l.toArray.qsort (· < ·)).toList.eraseDups
def sortNat (l : List Nat) : List Nat := (l.toArray.qsort (· < ·)).toList.eraseDups

/-- `dev:pid:job:flags:pay` (sep given) -/
def parseSub (ids : List ID) (sep : Char) (s : String) : Option Sub :=
  match splitOn1 s sep with
  | [d, p, j, f, pay] => do
    let d ← natOf d; let dev ← ids[d]?
    let pid ← natOf p; let job ← natOf j; let flags ← natOf f
    if pay = "e" ∨ pay = "d" ∨ pay = "h" ∨ pay = "x" then
      some { dev := dev, pid := pid, job := job, flags := flags, empty := pay = "e", info := pay = "h" }
    else none
  | _ => none

def parsePkt (ids : List ID) (s : String) : Option Pkt :=
  match splitOn1 s ':' with
  | [d, p, j, f, pay, tags, subs] => do
    let hd ← parseSub ids ':' (":".intercalate [d, p, j, f, pay])
    let tags ← if tags = "-" then some [] else (splitOn1 tags '+').mapM natOf
    let subs ← if subs = "-" then some [] else (splitOn1 subs '/').mapM (parseSub ids ',')
    some { hd := { hd with empty := hd.empty && subs.isEmpty }, tags := tags, subs := subs }
  | _ => none

def evLine (ids : List ID) (before : Tbl) (ev : List Ev) : String :=
  let touched := sortStr (ev.filterMap fun e => match e with
    | .touch s _ => some (idxOf ids s) | .tagTouch s _ => some (idxOf ids s) | _ => none)
  let keyed := sortStr (ev.filterMap fun e => match e with
    | .key s _ => if before.any (fun x => x.2.id == s) then some (idxOf ids s) else none
    | _ => none)
  let recv := ev.filterMap fun e => match e with
    | .recv s d p j => if p ≥ mvRefresh then some s!"{idxOf ids s}>{idxOf ids d}.{p}.{j}" else none
    | _ => none
  let one := ev.filterMap fun e => match e with | .oneshot d => some (idxOf ids d) | _ => none
  let new := ev.filterMap fun e => match e with | .reg s _ => some (idxOf ids s) | _ => none
  s!"t={listOr touched} k={listOr keyed} r={listOr recv} o={listOr one} n={listOr new}"

def tblLine (ids : List ID) (t : Tbl) : String :=
  let ks := sortNat (t.map (·.1))
  "tbl=" ++ listOr (ks.filterMap fun k => (t.get k).map fun s => s!"{k}:{idxOf ids s.id}:{s.q.length}")

def srvStep (ids : List ID) (t : Tbl) (tok : String) : Option (Tbl × String) :=
  let rest := (tok.drop 1).toString
  match tok.front with
  | 'T' => do
    let n ← parsePkt ids rest
    let (t', ev, r) := talk idHash false t n
    let res := match r with
      | .error e => "err:" ++ errStr e
      | .ok o =>
        let h := match o.host with | some i => idxOf ids i | none => "-"
        s!"ok{if o.ok then 1 else 0}:h{h}:{leafStr ids o.next}:s{listOr ((sortNat o.subs).map toString)}"
    some (t', s!"T:{res} {evLine ids t ev}")
  | 'S' => do
    let o := rest.front == '1'
    let n ← parseSub ids ':' (rest.drop 1).toString
    let (t', ev, r) := talkSub idHash false t n o
    let res := match r with
      | .error e => "err:" ++ errStr e
      | .ok so =>
        let h := match so.host with | some i => idxOf ids i | none => "-"
        s!"ok:h{h}:q{so.key}:{leafStr ids so.reply}"
    some (t', s!"S:{res} {evLine ids t ev}")
  | 'L' => do
    let k ← natOf rest; let i ← ids[k]?
    some (t, match lookup idHash t i with | some s => "L:" ++ idxOf ids s.id | none => "L:-")
  | 'R' => do
    let k ← natOf rest; let i ← ids[k]?
    some (remove idHash t i, "R")
  | 'Q' =>
    match splitOn1 rest '.' with
    | [k, p, j] => do
      let k ← natOf k; let i ← ids[k]?; let p ← natOf p; let j ← natOf j
      some (enqueue idHash t i { dev := i, pid := p, job := j }, "Q")
    | _ => none
  | _ => none

def srvRun (ids : List ID) : Tbl → List String → List String → Option String
  | t, [], acc => some (" | ".intercalate (acc.reverse ++ [tblLine ids t]))
  | t, tok :: toks, acc => do
    let (t', s) ← srvStep ids t tok
    srvRun ids t' toks (s :: acc)

/-! proxy side -/

def pLeafStr (ids : List ID) (l : List Leaf) : String := leafStr ids l

def prxStep (ids : List ID) (parent : ID) (p : Proxy.PTbl) (tok : String) : Option (Proxy.PTbl × String) :=
  let rest := (tok.drop 1).toString
  match tok.front with
  | 'A' => do
    -- accept: a packet coming down from the server through receive() of the parent
    let n ← parseSub ids ':' rest
    let (p', ev, r) := Proxy.receiveDown idHash parent p n
    some (p', s!"A:{match r with | .ok () => "ok" | .error e => "err:" ++ errStr e} {Proxy.evLine (idxOf ids) ev}")
  | 'T' => do
    let n ← parsePkt ids rest
    let (p', ev, r) := Proxy.talk idHash false p n
    let res := match r with
      | .error e => "err:" ++ errStr e
      | .ok o =>
        let h := match o.host with | some i => idxOf ids i | none => "-"
        s!"ok{if o.ok then 1 else 0}:h{h}:{leafStr ids o.next}"
    some (Proxy.applyClose idHash p' ev, s!"T:{res} {Proxy.evLine (idxOf ids) ev}")
  | 'S' => do
    let o := rest.front == '1'
    let n ← parseSub ids ':' (rest.drop 1).toString
    let (p', ev, r) := Proxy.talkSub idHash false p n o
    let res := match r with
      | .error e => "err:" ++ errStr e
      | .ok so =>
        let h := match so.host with | some i => idxOf ids i | none => "-"
        s!"ok:h{h}:q{so.key}:{leafStr ids so.reply}"
    some (Proxy.applyClose idHash p' ev, s!"S:{res} {Proxy.evLine (idxOf ids) ev}")
  | _ => none

def prxRun (ids : List ID) (parent : ID) : Proxy.PTbl → List String → List String → Option String
  | p, [], acc =>
    let ks := sortNat (p.map (·.1))
    let tb := ks.filterMap fun k => (Proxy.PTbl.get p k).map fun c => s!"{k}:{idxOf ids c.id}:{leafStr ids c.q}"
    some (" | ".intercalate (acc.reverse ++ ["cl=" ++ (if tb.isEmpty then "-" else ";".intercalate tb)]))
  | p, tok :: toks, acc => do
    let (p', s) ← prxStep ids parent p tok
    prxRun ids parent p' toks (s :: acc)

def parseIds (s : String) : Option (List ID) := do
  let l ← (splitOn1 s ',').mapM ofHex
  if l.all (fun i => i.length == Facts.c15IDSize) then some l else none


/-! channel-mode tag handling (XMT/RouteChan.lean): `chan <id,id,…> <step> …`; ids[0] is the host of
the connection. Steps: `H<i>` registration of ids[i]; `C<tag>+<tag>…` one packet read from the channel
(`-` = no tags; a tag is `i<k>` = hash of ids[k] or `n<value>`); answers list the Sessions whose queue
is redirected to the connection afterwards. -/

def chanRedirected (ids : List ID) (t : RouteChan.CTbl) : String :=
  listOr (sortStr ((t.filter (fun e => e.2.chn == some 1)).map (fun e => idxOf ids e.2.id)))

def parseTag (ids : List ID) (s : String) : Option Nat :=
  match s.front with
  | 'i' => do let k ← natOf (s.drop 1).toString; let d ← ids[k]?; some (idHash d)
  | 'n' => natOf (s.drop 1).toString
  | _ => none

def chanRun (ids : List ID) : RouteChan.CTbl → RouteChan.Conn → List String → List String → Option String
  | _, _, [], acc => some (" | ".intercalate acc.reverse)
  | t, c, tok :: toks, acc =>
    let rest := (tok.drop 1).toString
    match tok.front with
    | 'H' => do
      let k ← natOf rest
      let d ← ids[k]?
      let t' := if idEmpty d then t else match t.get (idHash d) with
        | some _ => t
        | none => t ++ [(idHash d, { id := d, chn := none })]
      chanRun ids t' c toks ("H" :: acc)
    | 'C' => do
      let tags ← if rest = "-" then some [] else (splitOn1 rest '+').mapM (parseTag ids)
      match RouteChan.resolve c tags t with
      | none => chanRun ids t c toks (s!"C:err r={chanRedirected ids t}" :: acc)
      | some (t', c') => chanRun ids t' c' toks (s!"C:ok r={chanRedirected ids t'}" :: acc)
    | _ => none

def handle (args : List String) : String :=
  match args with
  | ["hash", a, b] =>
    match ofHex a, ofHex b with
    | some a, some b => s!"{idHash a} {idHash b}"
    | _, _ => "bad-op"
  | "srv" :: ids :: toks =>
    match parseIds ids with
    | some ids => (srvRun ids [] toks []).getD "bad-op"
    | none => "bad-op"
  | "chan" :: ids :: toks =>
    match parseIds ids with
    | some (host :: rest) => (chanRun (host :: rest) [] { cid := 1, host := host, subs := [] } toks []).getD "bad-op"
    | _ => "bad-op"
  | ["prxreg", ids] =>
    -- the clients of a proxy (in the order given) after one `subsRegister`: for each the device its new
    -- request names, as an index into the list
    match parseIds ids with
    | some cl =>
      let t : Proxy.PTbl := (List.range cl.length).zip (cl.map fun i => ({ id := i, q := [] } : Proxy.Client))
      let t' := (Proxy.subsRegister t (fun _ => 0)).1
      " ".intercalate (t'.map fun e =>
        let nw := e.2.q.map fun l => match cl.findIdx? (· == l.dev) with | some k => toString k | none => "?"
        s!"{e.1}>{",".intercalate nw}")
    | none => "bad-op"
  | "prx" :: ids :: toks =>
    match parseIds ids with
    | some (parent :: rest) => (prxRun (parent :: rest) parent [] toks []).getD "bad-op"
    | _ => "bad-op"
  | _ => "bad-op"

end XMT.Drv.C15
