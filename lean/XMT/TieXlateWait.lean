/-
  XMT.TieXlateWait — the hand-written model of the delay arithmetic of `(*Session).wait`
  (XMT/Jitter.lean: `delay`, `applyJitter`, `fastRandN`, `uint64Of`, `abs64`) is PROVED equal to the
  definitions that `xmth facts` (go/cmd/xmth/xlate.go + xlate2_s3.go) regenerates from the current Go
  source on every run:

    Facts.x_c2_Session_wait_delay  the statements of wait() from `w := s.sleep` up to the arming of the
                                   ticker (`if s.tick == nil`), value = the local `w`; signed arithmetic is
                                   `Int` with an explicit int64 wrap after every operator; the field reads
                                   `s.sleep`, `s.jitter` and the three PRNG call sites are parameters in order
                                   of first appearance (a call site is a function applied to its translated
                                   arguments)
    Facts.x_util_FastRandN / x_util_abs64 / x_util_random_Uint64   util/rand.go, util/rand_fast.go
                                   (`fastRand()` / `FastRand()` call sites are parameters)

  A source edit that changes what the segment computes makes `x_wait_delay_eq` fail to check; one that
  leaves the translated fragment (or moves the marker statements) removes the generated definition,
  with the same effect: a broken tie, reported by every check that builds this module (C19).
-/
import XMT.JitterLemmas
import XMT.Generated.Facts
namespace XMT.TieXlateWait
open XMT.Jitter

/-- word index of the first draw of `Int63n`: `s.jitter == 100 || uint8(util.FastRandN(100)) < s.jitter`
short-circuits the percentage draw when the jitter is 100 -/
def firstWord (jitter : Nat) : Nat := if jitter = 100 then 0 else 1

/-- The delay part of `wait()` assembled around the REGENERATED segment: the guard `if s.sleep < 1
{ return }` in front of it, the segment with its PRNG call sites instantiated by the PRNG helpers on the
raw words at the positions Go's evaluation order gives them (`util.Rand.Int63n(n)` =
`int64(abs64(r.Uint64())) % n` with Go's truncated `%`), and the ticker behind it. -/
def srcDelay (sleep : Int) (jitter : Nat) (q : Nat → Nat) : Delay :=
  if sleep < 1 then .none
  else
    let k := firstWord jitter
    tick (Facts.x_c2_Session_wait_delay sleep jitter
      (fun n => fastRandN (raw q 0) n.toNat)
      (fun n => Int.tmod (i64 ((abs64 (uint64Of (raw q k) (raw q (k + 1))) : Nat) : Int)) n)
      (fun n => fastRandN (raw q (k + 2)) n.toNat))

theorem abs64_lt (v : Nat) : abs64 v < 2^63 :=
  Nat.lt_of_le_of_lt Nat.and_le_right (by decide)

/-- the translator spells `int64(x)` out with the literals -/
theorem i64_lit (x : Int) :
    (x + 9223372036854775808) % 18446744073709551616 - 9223372036854775808 = i64 x := rfl

/-- the regenerated segment in the vocabulary of the model: the same two tests around `applyJitter` -/
theorem x_segment_eq (S : Int) (jitter : Nat) (f : Int → Nat) (g : Int → Int) (h : Int → Nat) :
    Facts.x_c2_Session_wait_delay S jitter f g h =
      if decide (jitter > 0) && decide (jitter < 101) then
        if (decide (jitter = 100) || decide (f 100 % 256 < jitter)) && decide (S > 1000000) then
          applyJitter S (g (i64 (i64 (S.tdiv 1000000)))) (decide (h 2 = 1))
        else S
      else S := by
  obtain ⟨hF, hM, _⟩ : Jitter.FactsOK := by decide
  unfold Facts.x_c2_Session_wait_delay applyJitter ms
  rw [hF, hM]
  simp only [i64_lit, decide_eq_true_eq, if_true, Int.cast_ofNat_Int, Nat.reducePow]

/-- For EVERY int64 sleep, every jitter and every PRNG stream the hand model computes what the
regenerated segment computes (in particular the model's `integer divide by zero` arm is dead: the
segment calls `Int63n` only under `w > time.Millisecond`). -/
theorem x_wait_delay_eq (S : Int) (jitter : Nat) (q : Nat → Nat) (hS1 : -2^63 ≤ S) (hS2 : S < 2^63) :
    (delay S jitter q).1 = srcDelay S jitter q := by
  obtain ⟨_, hM, hSB, hJB, hJA⟩ : Jitter.FactsOK := by decide
  have hRN : Facts.c19JitterRandN = 100 := by decide
  have hSN : Facts.c19SignRandN = 2 := by decide
  -- the model keeps the outcome of the percentage test and the number of words it drew as one pair
  have hhit : (if jitter = 100 then (true, 0) else (decide (fastRandN (raw q 0) 100 % 256 < jitter), 1)) =
      (decide (jitter = 100) || decide (fastRandN (raw q 0) 100 % 256 < jitter), firstWord jitter) := by
    unfold firstWord; split <;> simp [*]
  unfold delay srcDelay ms
  rw [hSB, hJB, hJA, hM, hRN, hSN]
  simp only [x_segment_eq, Int.cast_ofNat_Int, hhit, Int.reduceToNat]
  generalize firstWord jitter = k
  have ha := abs64_lt (uint64Of (raw q k) (raw q (k + 1)))
  by_cases hlt : S < 1
  · rw [if_pos hlt, if_pos hlt]
  rw [if_neg hlt, if_neg hlt]
  by_cases hj : (decide (jitter > 0) && decide (jitter < 101)) = true
  · rw [if_pos hj, if_pos hj]
    by_cases hb : ((decide (jitter = 100) || decide (fastRandN (raw q 0) 100 % 256 < jitter)) &&
        decide (S > 1000000)) = true
    · rw [if_pos hb, if_pos hb]
      have hms : S > 1000000 := by simp at hb; exact hb.2
      -- all casts of the model are the identity here, and Go's truncated `/`, `%` agree with Lean's
      -- on non-negative operands
      have hn : i64 (S / 1000000) = S / 1000000 := i64_id _ (by omega) (by omega)
      rw [Int.tdiv_eq_ediv_of_nonneg (by omega), hn, hn, i64_id (abs64 _ : Nat) (by omega) (by omega),
        Int.tmod_eq_emod_of_nonneg (Int.natCast_nonneg _), if_neg (by omega)]
    · rw [if_neg hb, if_neg hb]
  · rw [if_neg hj, if_neg hj]

/-- `util.FastRandN(n)` on the raw word `r` (`n` is an `int`; the model takes it as a `Nat`) -/
theorem x_util_FastRandN_eq (n : Int) (r : Nat) (hn : 0 ≤ n) :
    Facts.x_util_FastRandN n r = fastRandN r n.toNat := by
  unfold Facts.x_util_FastRandN fastRandN u32 u64
  rw [Int.toNat_emod hn (by decide)]
  rfl

/-- `random.Uint64()`: first call = high word -/
theorem x_util_random_Uint64_eq (hi lo : Nat) : Facts.x_util_random_Uint64 hi lo = uint64Of hi lo := rfl

theorem x_util_abs64_eq (v : Nat) : Facts.x_util_abs64 v = abs64 v := by
  unfold Facts.x_util_abs64 abs64
  rw [show ((2:Nat)^64 - 1) ^^^ 9223372036854775808 = 2^63 - 1 from by decide]

end XMT.TieXlateWait
