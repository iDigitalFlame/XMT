/-
  XMT.BatchDrawSim — `Session.next` with Job draws (`nextD`, XMT/BatchDraw.lean) IS the draw-free
  `next` on the same session in which the packets that are stamped by this call already carry the
  drawn Job: the batching code never looks at the Job field.  `Stamped w k k' l l'` says exactly which
  packets were stamped with which words (`verifyPacket` runs front to back); `JR` / `LR` keep of it
  what the property theorems state: `b` is `a`, or `a` needed a Job and `b` is `a` with a drawn
  word's low 16 bits as Job.  The simulation is proved once, for every abandoned group `last`
  (`nextFromD_stamped`, for a whole session `nextD_stamped`); where no packet needs a Job it says that
  the two models agree outright and no word is consumed (`nextFromD_no_draw`).
-/
import XMT.BatchDraw
import XMT.BatchDrain
namespace XMT.Batch

/-- `b` is what `a` may look like after `verifyPacket` ran on it (any number of times) -/
def JR (w : Nat → Nat) (a b : Pkt) : Prop :=
  b = a ∨ (needsJob a = true ∧ ∃ j, b = { a with job := w j % 2^16 })

inductive LR (w : Nat → Nat) : List Pkt → List Pkt → Prop
  | nil : LR w [] []
  | cons {a b : Pkt} {as bs : List Pkt} : JR w a b → LR w as bs → LR w (a :: as) (b :: bs)

theorem JR.refl (w : Nat → Nat) (a : Pkt) : JR w a a := Or.inl rfl

theorem LR.refl (w : Nat → Nat) : ∀ l : List Pkt, LR w l l
  | [] => .nil
  | a :: l => .cons (JR.refl w a) (LR.refl w l)

theorem stamp_JR (w : Nat → Nat) (k : Nat) (n : Pkt) : JR w n (stamp w k n).1 := by
  unfold stamp
  by_cases h : needsJob n = true
  · rw [if_pos h]; exact Or.inr ⟨h, k, rfl⟩
  · rw [if_neg h]; exact Or.inl rfl

theorem JR.trans {w : Nat → Nat} {a b c : Pkt} (h1 : JR w a b) (h2 : JR w b c) : JR w a c := by
  rcases h1 with rfl | ⟨hn, j, rfl⟩
  · exact h2
  · rcases h2 with rfl | ⟨_, j', rfl⟩
    · exact Or.inr ⟨hn, j, rfl⟩
    · exact Or.inr ⟨hn, j', rfl⟩

/-- the fields the batching code looks at -/
theorem JR.fields {w : Nat → Nat} {a b : Pkt} (h : JR w a b) :
    b.id = a.id ∧ b.flags = a.flags ∧ b.tags = a.tags ∧ b.dev = a.dev ∧ b.payload = a.payload := by
  rcases h with rfl | ⟨_, j, rfl⟩ <;> exact ⟨rfl, rfl, rfl, rfl, rfl⟩

theorem JR.flags_eq {w : Nat → Nat} {a b : Pkt} (h : JR w a b) : b.flags = a.flags := h.fields.2.1
theorem JR.tags_eq {w : Nat → Nat} {a b : Pkt} (h : JR w a b) : b.tags = a.tags := h.fields.2.2.1
theorem JR.size_eq {w : Nat → Nat} {a b : Pkt} (h : JR w a b) : Packet.size b = Packet.size a := by
  rcases h with rfl | ⟨_, j, rfl⟩ <;> rfl
theorem JR.elide_eq {w : Nat → Nat} {a b : Pkt} (h : JR w a b) (i : Bytes) (s : Nat) (m : Bool) :
    elide i s m b = elide i s m a := by
  rcases h with rfl | ⟨_, j, rfl⟩ <;> rfl
theorem JR.isRekey_eq {w : Nat → Nat} {a b : Pkt} (h : JR w a b) : isRekey b = isRekey a := by
  rcases h with rfl | ⟨_, j, rfl⟩ <;> rfl
theorem JR.verify_snd {w : Nat → Nat} {a b : Pkt} (h : JR w a b) (i : Bytes) :
    (verify b i).2 = (verify a i).2 := by
  unfold verify; rw [h.fields.2.2.2.1]; split <;> rfl

theorem JR.qwf {w : Nat → Nat} {a b : Pkt} (h : JR w a b) (ha : QWF a) : QWF b := by
  rcases h with rfl | ⟨_, j, rfl⟩
  · exact ha
  · exact ⟨⟨Nat.mod_lt _ (by decide), ha.wf.flags, ha.wf.ntags, ha.wf.tags, ha.wf.devLen, ha.wf.devNZ,
      ha.wf.pay⟩, ha.plain⟩

theorem LR.qwf {w : Nat → Nat} {a b : List Pkt} (h : LR w a b) (ha : ∀ x ∈ a, QWF x) : ∀ x ∈ b, QWF x := by
  induction h with
  | nil => exact ha
  | cons hj _ ih =>
    intro x hx
    rcases List.mem_cons.mp hx with rfl | hx
    · exact hj.qwf (ha _ List.mem_cons_self)
    · exact ih (fun y hy => ha y (List.mem_cons_of_mem _ hy)) x hx

theorem LR.append {w : Nat → Nat} {a b c d : List Pkt} (h1 : LR w a b) (h2 : LR w c d) :
    LR w (a ++ c) (b ++ d) := by
  induction h1 with
  | nil => exact h2
  | cons hj _ ih => exact .cons hj ih

theorem LR.length {w : Nat → Nat} {a b : List Pkt} (h : LR w a b) : a.length = b.length := by
  induction h with
  | nil => rfl
  | cons _ _ ih => simp [ih]

theorem LR.trans {w : Nat → Nat} {a b c : List Pkt} (h1 : LR w a b) (h2 : LR w b c) : LR w a c := by
  induction h1 generalizing c with
  | nil => exact h2
  | cons hj _ ih => cases h2 with | cons hj2 h2 => exact .cons (hj.trans hj2) (ih h2)

theorem LR.head {w : Nat → Nat} {a b : Pkt} {as bs : List Pkt} : LR w (a :: as) (b :: bs) → JR w a b
  | .cons h _ => h

/-- the "sent on its own" test of `next` does not look at the Job -/
theorem LR.alone_iff {w : Nat → Nat} {n n' : Pkt} {q q' : List Pkt} (h : LR w (n :: q) (n' :: q')) (i : Bytes) :
    ((q' = [] ∨ isRekey n' = true) ∧ (verify n' i).2 = true) ↔
      ((q = [] ∨ isRekey n = true) ∧ (verify n i).2 = true) := by
  cases h with
  | cons hj hq => rw [hj.isRekey_eq, hj.verify_snd, show q' = [] ↔ q = [] by cases hq <;> simp]

/-- `l'` is `l` after `verifyPacket` ran on some of its packets, front to back, drawing the words
`k` … `k' - 1` in this order. `stamp` stays on the packet it stamped: `next` verifies a packet it may
send on its own and `nextPacket` verifies it again, and a drawn Job of 0 is then drawn anew. -/
inductive Stamped (w : Nat → Nat) : Nat → Nat → List Pkt → List Pkt → Prop
  | nil (k : Nat) : Stamped w k k [] []
  | keep {k k' : Nat} {a : Pkt} {as bs : List Pkt} : Stamped w k k' as bs → Stamped w k k' (a :: as) (a :: bs)
  | stamp {k k' : Nat} {a : Pkt} {as bs : List Pkt} :
      Stamped w (stamp w k a).2 k' ((stamp w k a).1 :: as) bs → Stamped w k k' (a :: as) bs

theorem Stamped.refl (w : Nat → Nat) (k : Nat) : ∀ l : List Pkt, Stamped w k k l l
  | [] => .nil k
  | _ :: l => .keep (Stamped.refl w k l)

theorem Stamped.prefix {w : Nat → Nat} {k k' : Nat} {l l' : List Pkt} (h : Stamped w k k' l l') :
    ∀ dr : List Pkt, Stamped w k k' (dr ++ l) (dr ++ l')
  | [] => h
  | _ :: dr => .keep (h.prefix dr)

theorem Stamped.lr {w : Nat → Nat} {k k' : Nat} {l l' : List Pkt} (h : Stamped w k k' l l') : LR w l l' := by
  induction h with
  | nil => exact .nil
  | keep _ ih => exact .cons (JR.refl w _) ih
  | stamp _ ih => cases ih with | cons hj ih => exact .cons ((stamp_JR w _ _).trans hj) ih

theorem Stamped.of_no_needs {w : Nat → Nat} {k k' : Nat} {l l' : List Pkt} (h : Stamped w k k' l l')
    (hl : ∀ a ∈ l, needsJob a = false) : l' = l ∧ k' = k := by
  induction h with
  | nil => exact ⟨rfl, rfl⟩
  | keep _ ih =>
    obtain ⟨rfl, rfl⟩ := ih fun a ha => hl a (List.mem_cons_of_mem _ ha)
    exact ⟨rfl, rfl⟩
  | stamp _ ih =>
    rw [stamp_of_not_needs w _ _ (hl _ List.mem_cons_self)] at ih
    exact ih hl

/-- a draw-free result with the word counter beside it -/
def withK {α β γ : Type} (r : α × β × γ) (k : Nat) : α × β × γ × Nat := (r.1, r.2.1, r.2.2, k)

section
variable (w : Nat → Nat) (P F : Nat)

/-- a packet in hand is looked at like the head of the queue (as `loop_some`) -/
theorem loopD_some (i : Bytes) (fuel x s : Nat) (m : Bool) (o a : Pkt) (q : List Pkt) (k : Nat)
    (hx : x < P) (hq : q ≠ []) :
    loopD w P F i (fuel + 1) x s m o (some a) q k = loopD w P F i (fuel + 1) x s m o none (a :: q) k := by
  have h2 : x < P ∧ a :: q ≠ [] := ⟨hx, List.cons_ne_nil _ _⟩
  rw [loopD, loopD, if_pos ⟨hx, hq⟩, if_pos h2]; rfl

/-- the batching loop with draws is the draw-free loop on the pre-stamped packets -/
theorem loopD_sim (i : Bytes) :
    ∀ (fuel x s : Nat) (m : Bool) (o : Pkt) (q : List Pkt) (k : Nat),
      ∃ q' k', Stamped w k k' q q' ∧
        loopD w P F i fuel x s m o none q k = withK (loop P F i fuel x s m o none q') k' := by
  intro fuel
  induction fuel with
  | zero => intro x s m o q k; exact ⟨q, k, .refl w k q, rfl⟩
  | succ fuel ih =>
    intro x s m o q k
    by_cases hcond : x < P ∧ q ≠ []
    · obtain ⟨a, t, rfl⟩ := List.exists_cons_of_ne_nil hcond.2
      rw [loopD, if_pos hcond]
      show ∃ q' k', Stamped w k k' (a :: t) q' ∧ (if hasFlag a.flags Facts.flagCrypt ∧ Flag.len o.flags > 0 then _
        else if elide i s m a then _ else if s > 0 ∧ s + Packet.size a > F then _ else _) = _
      by_cases hkey : hasFlag a.flags Facts.flagCrypt = true ∧ Flag.len o.flags > 0
      · exact ⟨a :: t, k, .refl w k _, by rw [if_pos hkey, loop_cons P F hcond.1, if_pos hkey]; rfl⟩
      rw [if_neg hkey]
      by_cases hnop : elide i s m a = true
      · obtain ⟨t', k', ht, he⟩ := ih (x + 1) s m o t k
        exact ⟨a :: t', k', .keep ht, by
          rw [if_pos hnop, loop_cons P F hcond.1, if_neg hkey, if_pos hnop]; exact he⟩
      rw [if_neg hnop]
      by_cases hfit : s > 0 ∧ s + Packet.size a > F
      · exact ⟨a :: t, k, .refl w k _, by
          rw [if_pos hfit, loop_cons P F hcond.1, if_neg hkey, if_neg hnop, if_pos hfit]; rfl⟩
      rw [if_neg hfit]
      -- `verifyPacket` stamps the packet that is packed
      have hj := stamp_JR w k a
      obtain ⟨t', k', ht, he⟩ := ih (x + 1) (s + Packet.size a) (packOne i m o (stamp w k a).1).2
        (packOne i m o (stamp w k a).1).1 t (stamp w k a).2
      refine ⟨(stamp w k a).1 :: t', k', .stamp (.keep ht), ?_⟩
      rw [loop_cons P F hcond.1, hj.flags_eq, hj.elide_eq, hj.size_eq, if_neg hkey, if_neg hnop, if_neg hfit]
      exact he
    · exact ⟨q, k, .refl w k q, by rw [loopD, loop, if_neg hcond, if_neg hcond]; rfl⟩

theorem nextPacketD_sim (i : Bytes) (t : List Nat) (a : Pkt) (q : List Pkt) (k : Nat) :
    ∃ a' q' k', Stamped w k k' (a :: q) (a' :: q') ∧
      nextPacketD w P F q (some a) i t k = withK (nextPacket P F q' (some a') i t) k' := by
  unfold nextPacketD
  cases q with
  | nil => exact ⟨(stamp w k a).1, [], _, .stamp (.refl w _ _), rfl⟩
  | cons h tl =>
    simp only
    by_cases hP1 : P ≤ 1
    · exact ⟨(stamp w k a).1, h :: tl, _, .stamp (.refl w _ _),
        by rw [if_pos hP1]; simp only [nextPacket, if_pos hP1]; rfl⟩
    · rw [if_neg hP1, loopD_some w P F i P 0 0 false _ a (h :: tl) k (by omega) (List.cons_ne_nil _ _)]
      obtain ⟨q', k', hq, he⟩ :=
        loopD_sim w P F i (P + 1) 0 0 false (emptyBatch i Facts.flagMulti) (a :: h :: tl) k
      obtain ⟨a', h', tl', rfl⟩ : ∃ a' h' tl', q' = a' :: h' :: tl' := by
        cases hq.lr with | cons _ h2 => cases h2 with | cons _ _ => exact ⟨_, _, _, rfl⟩
      refine ⟨a', h' :: tl', k', hq, ?_⟩
      simp only [nextPacket, if_neg hP1]
      rw [loop_some P F i P 0 0 false _ _ _ (by omega) (List.cons_ne_nil _ _), he]; rfl

/-- **`Session.next` with Job draws, once a packet was picked, is the draw-free one on the
pre-stamped packets**, with or without an abandoned group pending (the skip loop only looks at the
flags). -/
theorem nextFromD_stamped (last : Nat) (i : Bytes) (n : Pkt) (q : List Pkt) (k : Nat) :
    ∃ n' q' k', Stamped w k k' (n :: q) (n' :: q') ∧
      nextFromD w P F last i n q k = ((nextFrom P F last i n' q').1, (nextFrom P F last i n' q').2, k') := by
  -- the batching branches, with `a` = `n` as the "sent on its own" test left it
  have rest : ∀ (a : Pkt) (ka : Nat), ¬ ((q = [] ∨ isRekey a = true) ∧ (verify a i).2 = true) →
      ∃ n' q' k', Stamped w ka k' (a :: q) (n' :: q') ∧
        nextRestD w P F last i a q ka = ((nextFrom P F last i n' q').1, (nextFrom P F last i n' q').2, k') := by
    intro a ka hna
    unfold nextRestD
    by_cases hl : last > 0
    · rw [if_pos hl]
      by_cases hg : Flag.group (skipGroup last a q).1.flags = last
      · exact ⟨a, q, ka, .refl w ka _, by simp only [nextFrom, if_neg hna, if_pos hl, if_pos hg]⟩
      · -- the packets of the abandoned group in front are not stamped: put them back
        obtain ⟨dr, hd1, hd2, _⟩ := skipGroup_spec last a q
        obtain ⟨b', qs', k', hs, he⟩ :=
          nextPacketD_sim w P F i a.tags (skipGroup last a q).1 (skipGroup last a q).2 ka
        obtain ⟨n', q', hnq⟩ : ∃ n' q', n' :: q' = dr ++ b' :: qs' := by cases dr <;> exact ⟨_, _, rfl⟩
        have hs' : Stamped w ka k' (a :: q) (n' :: q') := by rw [hd1, hnq]; exact hs.prefix dr
        have hg' : ¬ Flag.group b'.flags = last := by rw [hs.lr.head.flags_eq]; exact hg
        have hsk : skipGroup last n' q' = (b', qs') :=
          skipGroup_of_split last dr n' b' q' qs' hnq hd2 fun h => absurd h hg'
        have hna' := fun h => hna ((hs'.lr.alone_iff i).mp h)
        refine ⟨n', q', k', hs', ?_⟩
        simp only [nextFrom, if_neg hna', if_pos hl, hsk, if_neg hg', if_neg hg, hs'.lr.head.tags_eq, he]
        rfl
    · rw [if_neg hl]
      obtain ⟨n', q', k', hs, he⟩ := nextPacketD_sim w P F i a.tags a q ka
      have hna' := fun h => hna ((hs.lr.alone_iff i).mp h)
      refine ⟨n', q', k', hs, ?_⟩
      simp only [nextFrom, if_neg hna', if_neg hl, hs.lr.head.tags_eq, he]
      rfl
  unfold nextFromD
  by_cases hc : q = [] ∨ isRekey n = true
  · rw [if_pos hc]
    have hj := stamp_JR w k n
    by_cases hv : (verifyD w n i k).2.1 = true
    · rw [if_pos hv]
      have hv' : (verify (stamp w k n).1 i).2 = true := hv
      have hc' : (q = [] ∨ isRekey (stamp w k n).1 = true) := by rw [hj.isRekey_eq]; exact hc
      exact ⟨(stamp w k n).1, q, _, .stamp (.refl w _ _),
        by rw [← nextFromM_mergeTags, nextFromM_alone mergeTags P F last i ⟨hc', hv'⟩]; rfl⟩
    · rw [if_neg hv]
      obtain ⟨n', q', k', hs, he⟩ := rest (stamp w k n).1 (stamp w k n).2 (fun h => hv h.2)
      exact ⟨n', q', k', .stamp hs, he⟩
  · rw [if_neg hc]
    exact rest n k (fun h => hc h.1)

/-- `next` after a packet was picked, no abandoned group pending -/
theorem nextFromD_sim (i : Bytes) (n : Pkt) (q : List Pkt) (k : Nat) :
    ∃ n' q', JR w n n' ∧ LR w q q' ∧
      (nextFromD w P F 0 i n q k).1 = (nextFrom P F 0 i n' q').1 ∧
      (nextFromD w P F 0 i n q k).2.1 = (nextFrom P F 0 i n' q').2 := by
  obtain ⟨n', q', k', hs, he⟩ := nextFromD_stamped w P F 0 i n q k
  cases hs.lr with
  | cons hn hq => exact ⟨n', q', hn, hq, by rw [he], by rw [he]⟩

theorem nextFromD_no_draw (last : Nat) (i : Bytes) (n : Pkt) (q : List Pkt) (k : Nat)
    (hq : ∀ a ∈ n :: q, needsJob a = false) :
    nextFromD w P F last i n q k = ((nextFrom P F last i n q).1, (nextFrom P F last i n q).2, k) := by
  obtain ⟨n', q', k', hs, he⟩ := nextFromD_stamped w P F last i n q k
  obtain ⟨h, rfl⟩ := hs.of_no_needs hq
  obtain ⟨rfl, rfl⟩ := List.cons.inj h
  exact he

theorem nextD_nil {st : St} (i : Bytes) (k : Nat) (h : content st = []) :
    nextD w P F st i k = (none, st, k) := by
  obtain ⟨hp, hq⟩ := content_eq_nil h
  obtain ⟨q, pk, l⟩ := st
  subst hp hq
  rfl

theorem nextD_cons {st : St} (i : Bytes) (k : Nat) {n : Pkt} {q : List Pkt} (h : content st = n :: q) :
    nextD w P F st i k = nextFromD w P F st.last i n q k := by
  rcases pick_spec st with ⟨h0, _⟩ | ⟨n', q', hc, hp⟩
  · exact nomatch h0.symm.trans h
  · obtain ⟨rfl, rfl⟩ := List.cons.inj (hc.symm.trans h)
    unfold nextD; rw [hp]

theorem nextD_stamped (st : St) (i : Bytes) (k : Nat) :
    ∃ (st₁ : St) (k' : Nat), Stamped w k k' (content st) (content st₁) ∧ st₁.last = st.last ∧
      nextD w P F st i k = ((next P F st₁ i).1, (next P F st₁ i).2, k') := by
  cases hc : content st with
  | nil =>
    refine ⟨st, k, hc ▸ Stamped.refl w k _, rfl, ?_⟩
    rw [nextD_nil w P F i k hc, ← nextM_mergeTags, nextM_nil mergeTags P F i hc]
  | cons n q =>
    obtain ⟨n', q', k', hs, he⟩ := nextFromD_stamped w P F st.last i n q k
    refine ⟨{ q := q', peek := some n', last := st.last }, k', hs, rfl, ?_⟩
    rw [nextD_cons w P F i k hc, he, ← nextM_mergeTags,
      nextM_cons mergeTags P F i (st := { q := q', peek := some n', last := st.last }) rfl]
    rfl

end
end XMT.Batch
