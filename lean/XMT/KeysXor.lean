/-
  Lemmas about the XorOp model (XMT/Keys.lean): length, the pointwise characterisation (byte `i` of
  the value meets key byte `i mod |key|`), and what follows from it: involution, the all-zero key,
  the first byte.
-/
import XMT.Keys
namespace XMT.Keys

theorem xor_cancel (a b : UInt8) : a ^^^ (a ^^^ b) = b := by
  rw [← UInt8.xor_assoc, UInt8.xor_self, UInt8.zero_xor]

theorem xorBytes_length (x y : Bytes) : (xorBytes x y).length = min x.length y.length := by
  simp [xorBytes]

theorem xorLoop_length (key : Bytes) : ∀ (fuel : Nat) (v : Bytes), (xorLoop key fuel v).length = v.length
  | 0, v => rfl
  | fuel + 1, v => by
    unfold xorLoop
    split
    · rfl
    · simp only [List.length_append, xorLoop_length key fuel, List.length_drop, xorBytes_length]
      omega

theorem xorOp_noop (v k : Bytes) (h : k.length = 0 ∨ v.length = 0) : xorOp v k = v := by
  unfold xorOp; rw [if_pos h]

theorem xorOp_eqlen (v k : Bytes) (h0 : ¬ (k.length = 0 ∨ v.length = 0)) (he : k.length = v.length) :
    xorOp v k = xorBytes k v := by
  unfold xorOp; rw [if_neg h0, if_pos he]

theorem xorOp_loop (v k : Bytes) (h0 : ¬ (k.length = 0 ∨ v.length = 0)) (he : k.length ≠ v.length) :
    xorOp v k = xorLoop k v.length v := by
  unfold xorOp; rw [if_neg h0, if_neg he]

theorem xorOp_length (v k : Bytes) : (xorOp v k).length = v.length := by
  unfold xorOp
  split
  · rfl
  · split
    · rename_i h; simp [xorBytes_length, h]
    · exact xorLoop_length _ _ _

/-- Within the first block the key is not yet repeated. -/
theorem xorBytes_getElem? (key v : Bytes) (i : Nat) (hi : i < key.length) :
    (xorBytes key v)[i]? = v[i]?.map (key[i % key.length]?.getD 0 ^^^ ·) := by
  rw [Nat.mod_eq_of_lt hi, xorBytes, List.getElem?_zipWith, List.getElem?_eq_getElem hi]
  cases v[i]? <;> rfl

/-- The loop restarts the key at every block, so position `i` meets key byte `i mod |key|`. -/
theorem xorLoop_getElem? (key : Bytes) (hk : key.length ≠ 0) : ∀ (fuel : Nat) (v : Bytes) (i : Nat),
    v.length ≤ fuel → (xorLoop key fuel v)[i]? = v[i]?.map (key[i % key.length]?.getD 0 ^^^ ·)
  | 0, v, i, h => by
    rw [List.length_eq_zero_iff.mp (Nat.le_zero.mp h)]; rfl
  | fuel + 1, v, i, h => by
    unfold xorLoop
    split
    · rename_i hv; rw [List.length_eq_zero_iff.mp hv]; rfl
    · rw [List.getElem?_append, xorBytes_length]
      split
      · exact xorBytes_getElem? key v i (by omega)
      · rename_i hi
        rw [xorLoop_getElem? key hk fuel _ _ (by rw [List.length_drop]; omega), List.getElem?_drop,
          Nat.add_sub_cancel' (Nat.le_of_not_lt hi)]
        -- a position the value has lies beyond a whole key block
        by_cases hv : i < v.length
        · rw [Nat.min_eq_left (by omega), ← Nat.mod_eq_sub_mod (by omega)]
        · rw [(List.getElem?_eq_none (by omega) : v[i]? = none)]; rfl

/-- An empty key contributes `0`. -/
theorem xorOp_getElem? (v k : Bytes) (i : Nat) :
    (xorOp v k)[i]? = v[i]?.map (k[i % k.length]?.getD 0 ^^^ ·) := by
  by_cases h0 : k.length = 0 ∨ v.length = 0
  · rw [xorOp_noop v k h0]
    rcases h0 with h | h <;> rw [List.length_eq_zero_iff.mp h]
    · cases v[i]? <;> simp
    · rfl
  · by_cases he : k.length = v.length
    · rw [xorOp_eqlen v k h0 he]
      by_cases hi : i < k.length
      · exact xorBytes_getElem? k v i hi
      · rw [(List.getElem?_eq_none (by omega) : v[i]? = none)]
        exact List.getElem?_eq_none (by rw [xorBytes_length]; omega)
    · rw [xorOp_loop v k h0 he]
      exact xorLoop_getElem? k (fun h => h0 (Or.inl h)) _ v i (Nat.le_refl _)

theorem xorOp_involutive (v k : Bytes) : xorOp (xorOp v k) k = v := by
  apply List.ext_getElem?
  intro i
  rw [xorOp_getElem?, xorOp_getElem?]
  cases v[i]? <;> simp [xor_cancel]

theorem xorOp_zero_key (v key : Bytes) (hk : ∀ k ∈ key, k = 0) : xorOp v key = v := by
  apply List.ext_getElem?
  intro i
  have : key[i % key.length]?.getD 0 = 0 := by
    cases h : key[i % key.length]? with
    | none => rfl
    | some b => exact hk b (List.mem_of_getElem? h)
  rw [xorOp_getElem?, this]
  cases v[i]? <;> simp

theorem xorOp_head (a k : UInt8) (v ks : Bytes) :
    ∃ t, xorOp (a :: v) (k :: ks) = (k ^^^ a) :: t := by
  have h := xorOp_getElem? (a :: v) (k :: ks) 0
  cases hx : xorOp (a :: v) (k :: ks) with
  | nil => simp [hx] at h
  | cons x t => exact ⟨t, by simpa [hx] using h⟩

end XMT.Keys
