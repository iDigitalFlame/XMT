/-
  Lemmas about XMT/KeysConn.lean: the conn built by `Listener.resolve` carries the Session's key on
  every path; in a poll the reply is encrypted with the key the client decrypts it with; what each
  channel event does (`chanStep_*`); a channel without a re-key keeps every `KeyCrypt` pair on one key
  (the invariant `ChanInv`, defined here; `ChanInvS` is the part that survives the client's swap).
-/
import XMT.KeysConn
import XMT.KeysLemmas
namespace XMT.Keys

theorem KeyUse.agree_same (b : Bool) (k p : Bytes) : KeyUse.Agree ⟨b, k, k, p, xorOp (xorOp p k) k⟩ :=
  ⟨rfl, xorOp_involutive p k⟩

/-- The tag loop only ever writes `add` and `subs`. -/
theorem connResolveLoop_keys (hostId i : Nat) (tags : List Nat) (hs : List Host) (c : Conn) :
    (connResolveLoop hostId i tags hs c).1.keys = c.keys ∧
    (connResolveLoop hostId i tags hs c).1.host = c.host := by
  fun_induction connResolveLoop hostId i tags hs c <;> first | exact ⟨rfl, rfl⟩ | assumption

theorem listenerResolve_keys (hs : List Host) (s : Host) (tags : List Nat) :
    (listenerResolve hs s tags).1.keys = s.keys ∧ (listenerResolve hs s tags).1.host = s.id := by
  unfold listenerResolve
  split
  · exact ⟨rfl, rfl⟩
  · exact connResolveLoop_keys s.id 0 tags hs _

/-- `resolve` without tags cannot fail; the conn is the bare copy of the Session's keys. -/
theorem talkConn_nil (c : Curve) (live : Bool) (sk : KeyPair) (w : Pkt) (reply : Bytes) :
    talkConn c live [] sk w reply = some (talkBody c live { host := 0, keys := sk } sk w reply) := rfl

theorem talkConn_some (c : Curve) (live : Bool) (tags : List Nat) (sk : KeyPair) (w : Pkt) (reply : Bytes)
    (t : KeyPair × Pkt × Option Bytes × Conn) (h : talkConn c live tags sk w reply = some t) :
    ∃ conn, conn.keys = sk ∧ t = talkBody c live conn sk w reply := by
  unfold talkConn at h
  have hk := (listenerResolve_keys [] { id := 0, keys := sk } tags).1
  generalize listenerResolve [] { id := 0, keys := sk } tags = r at h hk
  obtain ⟨conn, hs, ok⟩ := r
  cases ok
  · simp at h
  · simp only [Option.some.injEq] at h
    exact ⟨conn, hk, h.symm⟩

theorem talkConn_share (c : Curve) (tags : List Nat) (sk : KeyPair) (w : Pkt) (reply : Bytes)
    (t : KeyPair × Pkt × Option Bytes × Conn) (h : talkConn c false tags sk w reply = some t) :
    t.2.2.2.keys = sk ∧ t.2.1.payload = xorOp reply sk.share := by
  obtain ⟨conn, hk, rfl⟩ := talkConn_some c false tags sk w reply t h
  simp [talkBody, hk]

theorem talkConn_rekey (c : Curve) (live : Bool) (tags : List Nat) (sk : KeyPair) (buf v reply : Bytes)
    (hk : sk.pub.length = pubSize) (hb : buf.length = pubSize) (hv : c.dh sk.priv buf = some v)
    (t : KeyPair × Pkt × Option Bytes × Conn)
    (h : talkConn c live tags sk { id := .data, crypt := true, payload := xorOp buf sk.share } reply = some t) :
    t.1.share = copyInto sk.share v ∧ t.2.2.2.keys.share = sk.share ∧
    t.2.1.payload = xorOp reply (if live then copyInto sk.share v else sk.share) := by
  obtain ⟨conn, hkk, rfl⟩ := talkConn_some c live tags sk _ reply t h
  rw [talkBody_rekey c live conn sk buf v reply hk hb hv, hkk]
  exact ⟨rfl, rfl, rfl⟩

theorem pollUses_agree (c : Curve) (tags : List Nat) (cl : Client) (srv : Server) (sk : KeyPair)
    (send : Send) (reply : Bytes) (f : Fault) (hs : srv.sess = some sk)
    (hk : cl.keys.share = sk.share) :
    ∀ u ∈ pollUses c false tags cl srv send reply f, u.Agree := by
  have hkk : (clientNext c cl send).2.keys.share = sk.share := by rw [clientNext_keys]; exact hk
  simp only [pollUses, hs, hkk]
  split
  · simp
  split
  · simp
  rename_i t ht
  obtain ⟨h1, h2⟩ := talkConn_share c tags sk _ reply t ht
  simp only [Bool.false_eq_true, if_false, h1, h2]
  have hrq := KeyUse.agree_same true sk.share (clientNext c cl send).1.payload
  split
  · exact List.forall_mem_singleton.mpr hrq
  · exact List.forall_mem_cons.mpr ⟨hrq, List.forall_mem_singleton.mpr (KeyUse.agree_same false sk.share reply)⟩

theorem stepUses_agree (c : Curve) (s : State) (e : Ev) (h : Synced s) :
    ∀ u ∈ stepUses c false s e, u.Agree := by
  cases e with
  | drop => simp [stepUses]
  | connect a info f => simp [stepUses]
  | xchg send reply fresh f =>
    cases hcl : s.client with
    | none => simp [stepUses, hcl]
    | some cl =>
      cases hsk : s.server.sess with
      | none => simp [stepUses, hcl, pollUses, hsk]
      | some sk =>
        simpa [stepUses, hcl] using
          pollUses_agree c [] cl s.server sk send reply f hsk (h cl sk hcl hsk)

theorem histUses_agree (c : Curve) (hc : c.WF) (evs : List Ev) : ∀ (s : State),
    (∀ e ∈ evs, e.Sized ∧ e.NoLoss) → Inv c s → ∀ u ∈ histUses c false s evs, u.Agree := by
  induction evs with
  | nil => intro s _ _ u hu; simp [histUses] at hu
  | cons e es ih =>
    intro s hall h
    have he := hall e (by simp)
    exact List.forall_mem_append.mpr ⟨stepUses_agree c s e h.synced,
      ih (step c s e) (fun e' he' => hall e' (by simp [he'])) (step_inv c hc s e he.1 he.2 h)⟩

/-- What a channel keeps while no re-key is announced: the client's key, the conn's key and the key
of every packet in flight are one share `K`; every recorded `KeyCrypt` pair agrees. -/
structure ChanInv (K : Bytes) (s : Chan) : Prop where
  next : s.cl.next = none
  hello : s.cl.hello = none
  cli : s.cl.keys.share = K
  conn : s.conn.keys.share = K
  c2s : ∀ w ∈ s.c2s, w.enc = K ∧ w.pkt.crypt = false ∧ w.pkt.payload = xorOp w.sent K
  s2c : ∀ w ∈ s.s2c, w.enc = K ∧ w.pkt.payload = xorOp w.sent K
  uses : ∀ u ∈ s.uses, u.Agree

/-- The weaker invariant that survives the client's swap: server-bound traffic still matches the
conn's copy. -/
structure ChanInvS (K : Bytes) (s : Chan) : Prop where
  conn : s.conn.keys.share = K
  c2s : ∀ w ∈ s.c2s, w.enc = K ∧ w.pkt.payload = xorOp w.sent K
  uses : ∀ u ∈ s.uses, u.Agree

theorem ChanGood.inv {s : Chan} (h : ChanGood s) : ChanInv s.sess.share s := by
  obtain ⟨h1, h2, h3, h4, h5, h6, h7, _⟩ := h
  exact ⟨h1, h2, h3, h4, by simp [h5], by simp [h6], by simp [h7]⟩

theorem ChanInv.toS {K : Bytes} {s : Chan} (h : ChanInv K s) : ChanInvS K s :=
  ⟨h.conn, fun w hw => ⟨(h.c2s w hw).1, (h.c2s w hw).2.2⟩, h.uses⟩

theorem chanStep_down (c : Curve) (s : Chan) (e : ChanEv) (h : s.up = false) : chanStep c s e = s := by
  cases e <;> simp [chanStep, h]

theorem chanStep_cSend (c : Curve) (s : Chan) (send : Send) (fail : Bool) (hup : s.up = true) :
    chanStep c s (.cSend send fail) =
      let pc := clientNext c s.cl send
      if fail then { s with cl := { pc.2 with next := none }, up := false }
      else { s with cl := (checkSync c pc.2).1,
                    c2s := s.c2s ++ [⟨pc.1.encryptedWith pc.2.keys.share, pc.1.payload, pc.2.keys.share⟩] } := by
  simp only [chanStep, hup, Bool.not_true, Bool.false_eq_true, if_false, Pkt.encryptedWith]

theorem chanStep_sRecv_nil (c : Curve) (s : Chan) (hq : s.c2s = []) : chanStep c s .sRecv = s := by
  simp [chanStep, hq]

/-- The server decrypts with the conn's copy; a re-key announcement moves the Session's key only. -/
theorem chanStep_sRecv_cons (c : Curve) (s : Chan) (w : Wire) (rest : List Wire) (hup : s.up = true)
    (hq : s.c2s = w :: rest) :
    chanStep c s .sRecv =
      { s with c2s := rest,
               sess := (updateIfCrypt c s.sess w.pkt.crypt (xorOp w.pkt.payload s.conn.keys.share)).1,
               uses := s.uses ++ [⟨true, w.enc, s.conn.keys.share, w.sent,
                                   xorOp w.pkt.payload s.conn.keys.share⟩] } := by
  simp [chanStep, hup, hq]

theorem chanStep_sSend (c : Curve) (s : Chan) (p : Bytes) (fail : Bool) (hup : s.up = true) :
    chanStep c s (.sSend p fail) =
      if fail then { s with up := false }
      else { s with s2c := s.s2c ++ [⟨{ id := .data, crypt := false, payload := xorOp p s.conn.keys.share },
                                      p, s.conn.keys.share⟩] } := by
  simp only [chanStep, hup, Bool.not_true, Bool.false_eq_true, if_false]

theorem chanStep_cRecv_nil (c : Curve) (s : Chan) (hq : s.s2c = []) : chanStep c s .cRecv = s := by
  simp [chanStep, hq]

/-- The client decrypts with the key it holds at the time of the read. -/
theorem chanStep_cRecv_cons (c : Curve) (s : Chan) (w : Wire) (rest : List Wire) (hup : s.up = true)
    (hq : s.s2c = w :: rest) :
    chanStep c s .cRecv =
      { s with s2c := rest,
               uses := s.uses ++ [⟨false, w.enc, s.cl.keys.share, w.sent,
                                   xorOp w.pkt.payload s.cl.keys.share⟩] } := by
  simp [chanStep, hup, hq]

/-- A read on either side: the packet was encrypted with `K` and is decrypted with `K`. -/
theorem recv_agree {K : Bytes} {uses : List KeyUse} (huses : ∀ u ∈ uses, u.Agree) (b : Bool) (w : Wire)
    (key : Bytes) (hkey : key = K) (henc : w.enc = K) (hpay : w.pkt.payload = xorOp w.sent K) :
    ∀ u ∈ uses ++ [⟨b, w.enc, key, w.sent, xorOp w.pkt.payload key⟩], u.Agree := by
  rw [hkey, henc, hpay]
  exact forall_mem_snoc huses (KeyUse.agree_same b K w.sent)

theorem chanStep_inv (c : Curve) (K : Bytes) (s : Chan) (e : ChanEv) (hn : e.NoRekey)
    (h : ChanInv K s) : ChanInv K (chanStep c s e) := by
  cases hup : s.up
  · rw [chanStep_down c s e hup]; exact h
  have ⟨hnext, hhello, hcli, hconn, hc2s, hs2c, huses⟩ := h
  cases e with
  | cSend send fail =>
    cases send with
    | rekey a => exact hn.elim
    | data p =>
      simp only [chanStep_cSend c s _ fail hup, clientNext_data c s.cl p hhello, checkSync_none c s.cl hnext]
      cases fail
      · exact ⟨hnext, hhello, hcli, hconn, forall_mem_snoc hc2s ⟨hcli, rfl, by rw [hcli]; rfl⟩, hs2c, huses⟩
      · exact ⟨rfl, hhello, hcli, hconn, hc2s, hs2c, huses⟩
  | sRecv =>
    cases hq : s.c2s with
    | nil => rw [chanStep_sRecv_nil c s hq]; exact h
    | cons w rest =>
      rw [chanStep_sRecv_cons c s w rest hup hq]
      rw [hq] at hc2s
      have hw := hc2s w List.mem_cons_self
      exact ⟨hnext, hhello, hcli, hconn, fun w' hw' => hc2s w' (List.mem_cons_of_mem _ hw'), hs2c,
        recv_agree huses true w _ hconn hw.1 hw.2.2⟩
  | sSend p fail =>
    rw [chanStep_sSend c s p fail hup]
    cases fail
    · exact ⟨hnext, hhello, hcli, hconn, hc2s, forall_mem_snoc hs2c ⟨hconn, by rw [hconn]⟩, huses⟩
    · exact ⟨hnext, hhello, hcli, hconn, hc2s, hs2c, huses⟩
  | cRecv =>
    cases hq : s.s2c with
    | nil => rw [chanStep_cRecv_nil c s hq]; exact h
    | cons w rest =>
      rw [chanStep_cRecv_cons c s w rest hup hq]
      rw [hq] at hs2c
      have hw := hs2c w List.mem_cons_self
      exact ⟨hnext, hhello, hcli, hconn, hc2s, fun w' hw' => hs2c w' (List.mem_cons_of_mem _ hw'),
        recv_agree huses false w _ hcli hw.1 hw.2⟩

theorem chanRun_inv (c : Curve) (K : Bytes) (evs : List ChanEv) (s : Chan)
    (hev : ∀ e ∈ evs, e.NoRekey) (h : ChanInv K s) : ChanInv K (chanRun c s evs) :=
  List.foldlRecOn evs (chanStep c) h fun s h e he => chanStep_inv c K s e (hev e he) h

/-- Any client write from a state of `ChanInv` (a re-key announcement included) leaves the
server-bound traffic on the conn's key: the client swaps only AFTER the write. -/
theorem chanStep_cSend_invS (c : Curve) (K : Bytes) (s : Chan) (send : Send) (fail : Bool)
    (h : ChanInv K s) : ChanInvS K (chanStep c s (.cSend send fail)) := by
  cases hup : s.up
  · rw [chanStep_down c s _ hup]; exact h.toS
  rw [chanStep_cSend c s send fail hup]
  have hk : (clientNext c s.cl send).2.keys.share = K := by rw [clientNext_keys]; exact h.cli
  cases fail
  · exact ⟨h.conn, forall_mem_snoc h.toS.c2s ⟨hk, by rw [hk]; rfl⟩, h.uses⟩
  · exact ⟨h.conn, h.toS.c2s, h.uses⟩

theorem chanStep_sRecv_invS (c : Curve) (K : Bytes) (s : Chan) (e : ChanEv) (he : e.IsSRecv)
    (h : ChanInvS K s) : ChanInvS K (chanStep c s e) := by
  cases e <;> try exact he.elim
  cases hup : s.up
  · rw [chanStep_down c s _ hup]; exact h
  have ⟨hconn, hc2s, huses⟩ := h
  cases hq : s.c2s with
  | nil => rw [chanStep_sRecv_nil c s hq]; exact h
  | cons w rest =>
    rw [chanStep_sRecv_cons c s w rest hup hq]
    rw [hq] at hc2s
    have hw := hc2s w List.mem_cons_self
    exact ⟨hconn, fun w' hw' => hc2s w' (List.mem_cons_of_mem _ hw'),
      recv_agree huses true w _ hconn hw.1 hw.2⟩

theorem chanRun_sRecv_invS (c : Curve) (K : Bytes) (evs : List ChanEv) (s : Chan)
    (hev : ∀ e ∈ evs, e.IsSRecv) (h : ChanInvS K s) : ChanInvS K (chanRun c s evs) :=
  List.foldlRecOn evs (chanStep c) h fun s h e he => chanStep_sRecv_invS c K s e (hev e he) h

theorem chanOpen_eq (c : Curve) (refresh : Bool) (cl : Client) (sk : KeyPair) (send : Send) (reply : Bytes) :
    chanOpen c refresh cl sk send reply =
      let pc := clientNext c cl send
      let t := talkBody c false { host := 0, keys := sk } sk (pc.1.encryptedWith pc.2.keys.share) reply
      some { cl := (checkSync c pc.2).1, sess := t.1,
             conn := { host := 0, keys := if refresh then t.1 else sk } } := by
  simp only [chanOpen, talkConn_nil, Pkt.encryptedWith]
  cases refresh <;> rfl

end XMT.Keys
