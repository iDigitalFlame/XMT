/-
  XMT.Utf16Utf8 — the model of Go's `[]rune(s)` conversion (UTF-8 decoding). One step yields a scalar
  value, 0 only for the byte 0, and consumes besides the first byte only continuation bytes (`StepOk`);
  hence every rune of `[]rune(s)` is a scalar value, a 0 rune appears exactly where a NUL byte was, and
  appending a NUL byte appends a 0 rune. With that `UTF16FromString` on bytes is the one on runes.
  Only `utf8DecodeF_fuel` looks at the fuel; the rest goes step by step along `utf8Decode_cons`
  (`utf8First_induction`).
-/
import XMT.Utf16Lemmas
namespace XMT.Utf16

theorem cont?_some {o : Option UInt8} {x : Nat} (h : cont? o = some x) :
    ∃ b, o = some b ∧ 0x80 ≤ b.toNat ∧ x < 64 := by
  cases o with
  | none => cases h
  | some b =>
    simp only [cont?] at h
    split at h
    · rename_i hb
      cases h
      exact ⟨b, rfl, hb.1, Nat.mod_lt _ (by decide)⟩
    · cases h

theorem cont?_append_zero (t : Bytes) (i : Nat) : cont? (t ++ [0])[i]? = cont? t[i]? := by
  by_cases h : i < t.length
  · rw [List.getElem?_append_left h]
  · by_cases h2 : i = t.length
    · subst h2
      rw [List.getElem?_append_right (Nat.le_refl _), List.getElem?_eq_none (Nat.le_refl _)]
      simp [cont?]
    · rw [List.getElem?_eq_none (by simp; omega), List.getElem?_eq_none (by omega)]

theorem utf8First_append_zero (b0 : UInt8) (t : Bytes) :
    utf8First (b0 :: (t ++ [0])) = utf8First (b0 :: t) := by
  unfold utf8First
  simp only [cont?_append_zero]

/-- What a decoding step on `b0 :: t` returns: a scalar value that is 0 only for the byte 0, and the
number of bytes taken, those after `b0` being continuation bytes (so none of them is NUL). -/
def StepOk (b0 : UInt8) (t : Bytes) (p : Int × Nat) : Prop :=
  isScalar p.1 = true ∧ (p.1 = 0 ↔ b0 = 0) ∧
    ∃ k, p.2 = k + 1 ∧ ∀ i < k, ∃ b, t[i]? = some b ∧ 0x80 ≤ b.toNat

theorem isScalar_natCast (r : Nat) :
    isScalar (r : Int) = true ↔ r < 0xD800 ∨ (0xE000 ≤ r ∧ r ≤ 0x10FFFF) := by
  rw [isScalar_iff]
  omega

/-- An ASCII byte as itself. -/
theorem StepOk.ascii {b0 : UInt8} {t : Bytes} (h : b0.toNat < 0x80) : StepOk b0 t ((b0.toNat : Int), 1) :=
  ⟨(isScalar_natCast _).mpr (by omega),
   ⟨fun e => UInt8.toNat_inj.mp (by simpa using e), fun e => by rw [e]; rfl⟩, 0, rfl, nofun⟩

/-- U+FFFD for one byte that starts no well-formed sequence. -/
theorem StepOk.bad {b0 : UInt8} {t : Bytes} (h : 0x80 ≤ b0.toNat) : StepOk b0 t (0xFFFD, 1) :=
  ⟨by decide, ⟨fun e => absurd e (by decide), fun e => by rw [e] at h; exact absurd h (by decide)⟩, 0, rfl, nofun⟩

/-- The code point of a sequence of `k + 1` bytes. -/
theorem StepOk.multi {b0 : UInt8} {t : Bytes} (r k : Nat) (h : 0x80 ≤ b0.toNat)
    (hc : ∀ i < k, ∃ b, t[i]? = some b ∧ 0x80 ≤ b.toNat) (hr : 0x7F < r)
    (hs : r < 0xD800 ∨ (0xE000 ≤ r ∧ r ≤ 0x10FFFF)) : StepOk b0 t ((r : Int), k + 1) :=
  ⟨(isScalar_natCast r).mpr hs,
   ⟨fun e => by omega, fun e => by rw [e] at h; exact absurd h (by decide)⟩, k, rfl, hc⟩

theorem utf8First_ok (b0 : UInt8) (t : Bytes) : StepOk b0 t (utf8First (b0 :: t)) := by
  unfold utf8First
  dsimp only
  split
  · exact .ascii ‹_›
  have hge : 0x80 ≤ b0.toNat := by omega
  split
  · split
    · rename_i x1 e1
      obtain ⟨b1, g1, l1, u1⟩ := cont?_some e1
      split
      · exact .multi _ 1 hge (by simp only [Nat.forall_lt_succ_right]; exact ⟨nofun, b1, g1, l1⟩)
          ‹_› (by omega)
      · exact .bad hge
    · exact .bad hge
  split
  · split
    · rename_i x1 x2 e1 e2
      obtain ⟨b1, g1, l1, u1⟩ := cont?_some e1
      obtain ⟨b2, g2, l2, u2⟩ := cont?_some e2
      split
      · exact .multi _ 2 hge
          (by simp only [Nat.forall_lt_succ_right]; exact ⟨⟨nofun, b1, g1, l1⟩, b2, g2, l2⟩)
          (by omega) (by omega)
      · exact .bad hge
    · exact .bad hge
  split
  · split
    · rename_i x1 x2 x3 e1 e2 e3
      obtain ⟨b1, g1, l1, u1⟩ := cont?_some e1
      obtain ⟨b2, g2, l2, u2⟩ := cont?_some e2
      obtain ⟨b3, g3, l3, u3⟩ := cont?_some e3
      split
      · exact .multi _ 3 hge
          (by simp only [Nat.forall_lt_succ_right]; exact ⟨⟨⟨nofun, b1, g1, l1⟩, b2, g2, l2⟩, b3, g3, l3⟩)
          (by omega) (by omega)
      · exact .bad hge
    · exact .bad hge
  · exact .bad hge

/-- The bytes a step takes lie within the string: each continuation byte it took is there. -/
theorem StepOk.width {b0 : UInt8} {t : Bytes} {p : Int × Nat} (h : StepOk b0 t p) :
    1 ≤ p.2 ∧ p.2 ≤ t.length + 1 := by
  obtain ⟨_, _, k, hk, hc⟩ := h
  have hlen : k ≤ t.length := by
    apply Nat.le_of_not_lt
    intro hlt
    obtain ⟨b, hb, _⟩ := hc t.length hlt
    rw [List.getElem?_eq_none (Nat.le_refl _)] at hb
    cases hb
  omega

/-- No NUL among the bytes a step takes, but possibly the first, which then gives the rune 0. -/
theorem StepOk.zero_mem {b0 : UInt8} {t : Bytes} {p : Int × Nat} (h : StepOk b0 t p) :
    (0 : UInt8) ∈ b0 :: t ↔ p.1 = 0 ∨ (0 : UInt8) ∈ (b0 :: t).drop p.2 := by
  obtain ⟨_, hz, k, hk, hc⟩ := h
  have hnz : (0 : UInt8) ∉ t.take k := by
    intro hm
    obtain ⟨i, hi⟩ := List.mem_iff_getElem?.mp hm
    rw [List.getElem?_take] at hi
    split at hi
    · obtain ⟨b, hb, hb'⟩ := hc i ‹_›
      rw [hb] at hi
      cases hi
      exact absurd hb' (by decide)
    · cases hi
  rw [hk, List.drop_succ_cons, hz, List.mem_cons, eq_comm]
  conv => lhs; rw [← List.take_append_drop k t, List.mem_append]
  simp only [hnz, false_or]

theorem utf8DecodeF_nil (f : Nat) : utf8DecodeF f [] = [] := by
  cases f <;> rfl

theorem utf8First_width (b : UInt8) (t : Bytes) :
    ((b :: t).drop (utf8First (b :: t)).2).length ≤ t.length := by
  have := (utf8First_ok b t).width
  rw [List.length_drop, List.length_cons]; omega

/-- Induction along the steps of `[]rune(s)`: from `b :: t` to what is left behind its first rune. -/
theorem utf8First_induction {P : Bytes → Prop} (nil : P [])
    (cons : ∀ b t, P ((b :: t).drop (utf8First (b :: t)).2) → P (b :: t)) : ∀ s, P s
  | [] => nil
  | b :: t => cons b t (utf8First_induction nil cons _)
termination_by s => s.length
decreasing_by exact Nat.lt_succ_of_le (utf8First_width b t)

/-- Fuel beyond `len(s)` is not used: every step takes at least one byte. -/
theorem utf8DecodeF_fuel : ∀ (f : Nat) (s : Bytes), s.length ≤ f → utf8DecodeF f s = utf8Decode s
  | f, [], _ => utf8DecodeF_nil f
  | f + 1, b :: t, h => by
    have hw := utf8First_width b t
    rw [utf8Decode, List.length_cons, utf8DecodeF, utf8DecodeF,
      utf8DecodeF_fuel f _ (by rw [List.length_cons] at h; omega), utf8DecodeF_fuel t.length _ hw]

theorem utf8Decode_cons (b : UInt8) (t : Bytes) :
    utf8Decode (b :: t) = (utf8First (b :: t)).1 :: utf8Decode ((b :: t).drop (utf8First (b :: t)).2) :=
  congrArg _ (utf8DecodeF_fuel _ _ (utf8First_width b t))

theorem utf8Decode_append_zero (s : Bytes) : utf8Decode (s ++ [0]) = utf8Decode s ++ [0] := by
  induction s using utf8First_induction with
  | nil => rfl
  | cons b t ih =>
    have hw := (utf8First_ok b t).width.2
    rw [List.cons_append, utf8Decode_cons, utf8Decode_cons, utf8First_append_zero, ← List.cons_append,
      List.drop_append_of_le_length (by rw [List.length_cons]; omega), ih]
    rfl

theorem zero_mem_utf8Decode (s : Bytes) : (0 : Int) ∈ utf8Decode s ↔ (0 : UInt8) ∈ s := by
  induction s using utf8First_induction with
  | nil => simp [utf8Decode, utf8DecodeF]
  | cons b t ih => rw [utf8Decode_cons, List.mem_cons, ih, (utf8First_ok b t).zero_mem, eq_comm]

theorem utf8Decode_scalar (s : Bytes) : ∀ r ∈ utf8Decode s, isScalar r = true := by
  induction s using utf8First_induction with
  | nil => nofun
  | cons b t ih =>
    rw [utf8Decode_cons]
    exact List.forall_mem_cons.mpr ⟨(utf8First_ok b t).1, ih⟩

theorem utf8Decode_length_zero (s : Bytes) : (utf8Decode s).length = 0 ↔ s.length = 0 := by
  cases s <;> simp [utf8Decode, utf8DecodeF]

theorem utf16FromStringB_eq_runes (s : Bytes) : utf16FromStringB s = utf16FromString (utf8Decode s) := by
  unfold utf16FromStringB utf16FromString
  rw [utf8Decode_append_zero]
  simp only [utf8Decode_length_zero]

theorem utf16FromStringB_eq (s : Bytes) :
    utf16FromStringB s =
      if (0 : UInt8) ∈ s then .err .einval else .ok (refEncode (utf8Decode s) ++ [0]) := by
  rw [utf16FromStringB_eq_runes, utf16FromString_eq]
  simp only [zero_mem_utf8Decode]

end XMT.Utf16
