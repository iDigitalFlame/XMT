/-
  XMT.StateAccInv — invariants of the access-level machine XMT.StateAcc (ALL methods of
  c2/state.go as sequences of atomic accesses) under ALL schedules.

  `stepG` is `stepA` with a ghost history: the read-modify-write primitives (the compare-and-swap
  loops Set / Unset / SetLast / tryUnset / trySet, whether called directly or from inside
  SetChannel / Tag / ChannelCanStop) in the order in which they took effect (`stepG_sys`: erasing the
  ghost gives `stepA`).  `GInv`: the history is a legal sequential execution of those primitives that
  ends in the current word (`StateConc.Lin`, so every per-bit lemma of XMT.StateLin applies),
  every primitive in it belongs to a call of the thread's program (`Call.prims`), and every directly
  called primitive that has returned is in it.  `ginv_no_lost` is the per-bit consequence (no lost update,
  either polarity); `closedAnswer` is the table of answers Props/C13 `acc_closed_dominates_partial` is
  stated with.
-/
import XMT.StateAcc
import XMT.StateLin
namespace XMT.StateAccInv
open XMT.State XMT.StateConc XMT.StateAcc

/-- the read-modify-write primitives a call can perform -/
def Call.prims : Call → List Op
  | .prim op => [op]
  | .canStop => [.tryUnset stChannelUpdated]
  | .setChannel true => [.set stChannelValue, .set stChannelUpdated]
  | .setChannel false => [.unset stChannelValue, .set stChannelUpdated]
  | .tag => [.tryUnset stSeen]
  | .origTag => [.unset stSeen]
  | _ => []

structure GSys where
  sys : ASys
  hist : List Ev := []

def GSys.init (w : Nat) (progs : List (List Call)) : GSys := { sys := ASys.init w progs }

def stepG (g : GSys) (t : Nat) : GSys :=
  match g.sys.thr[t]? with
  | none => g
  | some th =>
    match th.calls with
    | [] => g
    | c :: rest =>
      match th.cur.getD c.meth with
      | .ret r => { g with sys := { g.sys with thr := g.sys.thr.set t { calls := rest, cur := none, loaded := none, rets := th.rets ++ [r] } } }
      | .load k => { g with sys := { g.sys with thr := g.sys.thr.set t (settle th rest (k g.sys.mem)) } }
      | .rmw op k =>
        match th.loaded with
        | none =>
          if op.early g.sys.mem then
            { sys := { g.sys with thr := g.sys.thr.set t (settle th rest (k (op.ret g.sys.mem))) },
              hist := g.hist ++ [⟨t, op, op.ret g.sys.mem⟩] }
          else { g with sys := { g.sys with thr := g.sys.thr.set t { th with cur := some (.rmw op k), loaded := some g.sys.mem } } }
        | some o =>
          if g.sys.mem = o then
            { sys := { g.sys with mem := op.apply o, thr := g.sys.thr.set t (settle th rest (k (op.ret o))) },
              hist := g.hist ++ [⟨t, op, op.ret o⟩] }
          else
            { g with sys := { g.sys with thr := g.sys.thr.set t { th with cur := some (.rmw op k), loaded := none },
                                         casFail := g.sys.casFail + 1 } }

def runG (g : GSys) (sched : List Nat) : GSys := sched.foldl stepG g

/-- the ghost history does not influence the machine -/
theorem stepG_sys (g : GSys) (t : Nat) : (stepG g t).sys = stepA g.sys t := by
  unfold stepG stepA
  cases h1 : g.sys.thr[t]? with
  | none => rfl
  | some th =>
    simp only []
    cases h2 : th.calls with
    | nil => rfl
    | cons c rest =>
      simp only []
      cases h3 : th.cur.getD c.meth with
      | ret r => rfl
      | load k => rfl
      | rmw op k =>
        simp only []
        cases h4 : th.loaded with
        | none => simp only []; split <;> rfl
        | some o => simp only []; split <;> rfl

theorem runG_sys (g : GSys) (sched : List Nat) : (runG g sched).sys = runA g.sys sched :=
  (List.foldl_hom GSys.sys fun g t => (stepG_sys g t).symm).symm

/-- every read-modify-write in the program tree satisfies `S`, whatever the loads return -/
def OpsIn (S : Op → Prop) : Meth → Prop
  | .ret _ => True
  | .load k => ∀ w, OpsIn S (k w)
  | .rmw op k => S op ∧ ∀ b, OpsIn S (k b)

theorem opsIn_ite {S : Op → Prop} {c : Prop} [Decidable c] {a b : Meth} :
    OpsIn S (if c then a else b) ↔ (c → OpsIn S a) ∧ (¬ c → OpsIn S b) := by
  split <;> simp [*]

/-- the program in progress belongs to call `c`; of a directly called primitive it is still the whole call, so
the event logged when it takes effect is the call's own and the call returns with it -/
def Good (c : Call) (m : Meth) : Prop := OpsIn (· ∈ Call.prims c) m ∧ ∀ op, c = .prim op → m = c.meth

theorem good_meth (c : Call) : Good c c.meth := by
  refine ⟨?_, fun _ _ => rfl⟩
  rcases c with _ | _ | _ | _ | _ | _ | _ | _ | (_ | _) | _ | _ | _ <;>
    simp [Call.meth, Call.prims, OpsIn, flagM, dom1M, closedM, opsIn_ite]

structure GInv (w : Nat) (progs : List (List Call)) (g : GSys) : Prop where
  lin : Lin w g.hist g.sys.mem
  len : g.sys.thr.length = progs.length
  thr : ∀ t th, g.sys.thr[t]? = some th → ∃ done, progs[t]? = some (done ++ th.calls) ∧
    (∀ op, Call.prim op ∈ done → ∃ e ∈ g.hist, e.op = op ∧ e.tid = t) ∧
    (∀ c rest m, th.calls = c :: rest → th.cur = some m → Good c m)
  ops : ∀ e ∈ g.hist, ∃ p, progs[e.tid]? = some p ∧ ∃ c ∈ p, e.op ∈ Call.prims c

theorem ginv_init (w : Nat) (progs : List (List Call)) : GInv w progs (GSys.init w progs) := by
  refine ⟨Lin.nil, by simp [GSys.init, ASys.init], ?_, by simp [GSys.init]⟩
  intro t th h
  simp only [GSys.init, ASys.init, List.getElem?_map, Option.map_eq_some_iff] at h
  obtain ⟨p, hp, rfl⟩ := h
  exact ⟨[], by simpa using hp, by simp, by simp⟩

variable {w : Nat} {progs : List (List Call)} {g : GSys}

/-- the generic step: thread `t` (in call `c`) is replaced by `th'`, the history grows by events of
thread `t` whose primitive belongs to `c`; `th'` is either still in `c` (with a good program) or has
returned from it (and, if `c` is a directly called primitive, its event is in the history). -/
theorem ginv_update (hi : GInv w progs g) {t : Nat} {th : AThread}
    {c : Call} {rest : List Call} (ht : g.sys.thr[t]? = some th) (hc : th.calls = c :: rest)
    (mem' cf : Nat) (hist' : List Ev) (th' : AThread)
    (hlin : Lin w hist' mem')
    (hsub : ∀ e ∈ g.hist, e ∈ hist')
    (hnew : ∀ e ∈ hist', e ∈ g.hist ∨ (e.tid = t ∧ e.op ∈ Call.prims c))
    (hth : (th'.calls = th.calls ∧ ∀ m, th'.cur = some m → Good c m) ∨
           (th'.calls = rest ∧ th'.cur = none ∧ ∀ op, c = .prim op → ∃ e ∈ hist', e.op = op ∧ e.tid = t)) :
    GInv w progs { sys := { mem := mem', thr := g.sys.thr.set t th', casFail := cf }, hist := hist' } := by
  obtain ⟨done, hp, hdone, _⟩ := hi.thr t th ht
  have hdone' : ∀ {t : Nat} {done : List Call}, (∀ op, Call.prim op ∈ done → ∃ e ∈ g.hist, e.op = op ∧ e.tid = t) →
      ∀ op, Call.prim op ∈ done → ∃ e ∈ hist', e.op = op ∧ e.tid = t :=
    fun h op hop => (h op hop).imp fun e he => ⟨hsub e he.1, he.2⟩
  refine ⟨hlin, by simp [hi.len], ?_, ?_⟩
  · intro t' th'' h'
    rcases getElem?_set_cases h' with ⟨rfl, rfl⟩ | ⟨_, h'⟩
    · rcases hth with ⟨h1, h2⟩ | ⟨h1, h2, h3⟩
      · refine ⟨done, h1 ▸ hp, hdone' hdone, fun c' rest' m hc' hm => ?_⟩
        cases (h1 ▸ hc').symm.trans hc
        exact h2 m hm
      · refine ⟨done ++ [c], by rw [h1, hp, hc]; simp, fun op hop => ?_, fun _ _ m _ hm => nomatch h2 ▸ hm⟩
        rcases List.mem_append.mp hop with hop | hop
        · exact hdone' hdone op hop
        · exact h3 op (List.mem_singleton.mp hop).symm
    · obtain ⟨done', hp', hd', hcur'⟩ := hi.thr t' th'' h'
      exact ⟨done', hp', hdone' hd', hcur'⟩
  · intro e he
    rcases hnew e he with h | ⟨h1, h2⟩
    · exact hi.ops e h
    · exact ⟨done ++ th.calls, h1 ▸ hp, c, by simp [hc], h2⟩

/-- thread `t`, in call `c`, goes on with the continuation `m` of that call (or returns, if `m` is a
return); a directly called primitive returns at once and its event is in the history -/
theorem ginv_settle (hi : GInv w progs g) {t : Nat} {th : AThread}
    {c : Call} {rest : List Call} (ht : g.sys.thr[t]? = some th) (hc : th.calls = c :: rest)
    (mem' : Nat) (hist' : List Ev) (m : Meth)
    (hlin : Lin w hist' mem')
    (hsub : ∀ e ∈ g.hist, e ∈ hist')
    (hnew : ∀ e ∈ hist', e ∈ g.hist ∨ (e.tid = t ∧ e.op ∈ Call.prims c))
    (hm : OpsIn (· ∈ Call.prims c) m)
    (hprim : ∀ op, c = .prim op → (∃ r, m = .ret r) ∧ ∃ e ∈ hist', e.op = op ∧ e.tid = t) :
    GInv w progs { sys := { mem := mem', thr := g.sys.thr.set t (settle th rest m), casFail := g.sys.casFail },
                   hist := hist' } := by
  refine ginv_update hi ht hc mem' _ hist' _ hlin hsub hnew ?_
  have hgo : ∀ m', (∀ r, m ≠ .ret r) → m = m' → Good c m' :=
    fun m' hne h => h ▸ ⟨hm, fun op hcp => ((hprim op hcp).1.elim fun r hr => absurd hr (hne r))⟩
  cases m with
  | ret r => exact Or.inr ⟨rfl, rfl, fun op h => (hprim op h).2⟩
  | load k => exact Or.inl ⟨rfl, fun m' h' => hgo m' (fun _ h => nomatch h) (Option.some.inj h')⟩
  | rmw op k => exact Or.inl ⟨rfl, fun m' h' => hgo m' (fun _ h => nomatch h) (Option.some.inj h')⟩

theorem ginv_step (hi : GInv w progs g) (t : Nat) :
    GInv w progs (stepG g t) := by
  unfold stepG
  split
  · exact hi
  · rename_i th ht
    split
    · exact hi
    · rename_i c rest hc
      have hgood : Good c (th.cur.getD c.meth) := by
        cases hcur : th.cur with
        | none => exact good_meth c
        | some m =>
          obtain ⟨_, _, _, h⟩ := hi.thr t th ht
          exact h c rest m hc hcur
      have hold : ∀ e ∈ g.hist, e ∈ g.hist ∨ (e.tid = t ∧ e.op ∈ Call.prims c) := fun e he => Or.inl he
      -- the program of a directly called primitive is its read-modify-write
      have hnoprim : ∀ m, th.cur.getD c.meth = m → (∀ op k, m ≠ .rmw op k) →
          ∀ op, c ≠ .prim op := by
        intro m hm hne op hcp
        have := hgood.2 op hcp
        rw [hm, hcp] at this
        exact hne _ _ this
      split
      · -- the program is a bare return
        rename_i r hm
        exact ginv_settle hi ht hc g.sys.mem g.hist (.ret r) hi.lin (fun e he => he) hold trivial
          fun op hcp => absurd hcp (hnoprim _ hm (fun _ _ h => nomatch h) op)
      · -- a plain load
        rename_i k hm
        exact ginv_settle hi ht hc g.sys.mem g.hist _ hi.lin (fun e he => he) hold ((hm ▸ hgood).1 g.sys.mem)
          fun op hcp => absurd hcp (hnoprim _ hm (fun _ _ h => nomatch h) op)
      · -- a read-modify-write primitive
        rename_i op k hm
        rw [hm] at hgood
        -- the step after which the primitive has taken effect
        have heff : ∀ (b : Bool) (mem' : Nat), Lin w (g.hist ++ [⟨t, op, b⟩]) mem' →
            GInv w progs { sys := { mem := mem', thr := g.sys.thr.set t (settle th rest (k b)), casFail := g.sys.casFail },
                           hist := g.hist ++ [⟨t, op, b⟩] } := by
          intro b mem' hl
          refine ginv_settle hi ht hc mem' _ _ hl (fun e he => by simp [he]) (fun e he => ?_) (hgood.1.2 b)
            fun op' hcp => ?_
          · rcases List.mem_append.mp he with he | he
            · exact Or.inl he
            · exact List.mem_singleton.mp he ▸ Or.inr ⟨rfl, hgood.1.1⟩
          · have := hgood.2 op' hcp
            rw [hcp] at this
            simp only [Call.meth, Meth.rmw.injEq] at this
            exact ⟨⟨_, by rw [this.2]⟩, ⟨t, op, b⟩, by simp, this.1, rfl⟩
        -- the step that only touches the thread's private `loaded` register
        have hstay : ∀ (l : Option Nat) (cf : Nat),
            GInv w progs { g with sys := { g.sys with thr := g.sys.thr.set t { th with cur := some (.rmw op k), loaded := l }, casFail := cf } } :=
          fun l cf => ginv_update hi ht hc g.sys.mem cf g.hist _ hi.lin (fun e he => he) hold
            (Or.inl ⟨rfl, fun m hm' => Option.some.inj hm' ▸ hgood⟩)
        split
        · split
          · rename_i he
            have := Lin.snoc (⟨t, op, op.ret g.sys.mem⟩ : Ev) hi.lin rfl
            rw [show (⟨t, op, op.ret g.sys.mem⟩ : Ev).op.apply g.sys.mem = g.sys.mem from early_apply op _ he] at this
            exact heff _ _ this
          · exact hstay _ _
        · rename_i o _
          split
          · rename_i hmo
            exact heff _ _ (hmo ▸ Lin.snoc (⟨t, op, op.ret g.sys.mem⟩ : Ev) hi.lin rfl)
          · exact hstay _ _

theorem ginv_run (hi : GInv w progs g) (sched : List Nat) :
    GInv w progs (runG g sched) :=
  List.foldlRecOn (motive := GInv w progs) sched stepG hi fun _ h t _ => ginv_step h t

theorem ginv_reach (w : Nat) (progs : List (List Call)) (sched : List Nat) :
    ∃ hist, GInv w progs ⟨runA (ASys.init w progs) sched, hist⟩ := by
  rw [show runA (ASys.init w progs) sched = (runG (GSys.init w progs) sched).sys from (runG_sys (GSys.init w progs) sched).symm]
  exact ⟨_, ginv_run (ginv_init w progs) sched⟩

theorem ginv_forall_hist (hi : GInv w progs g) {P : Op → Prop}
    (h : ∀ p ∈ progs, ∀ c ∈ p, ∀ op ∈ Call.prims c, P op) : ∀ e ∈ g.hist, P e.op := by
  intro e he
  obtain ⟨p, hp, c, hc, hop⟩ := hi.ops e he
  exact h p (List.mem_of_getElem? hp) c hc _ hop

theorem ginv_done_hist (hi : GInv w progs g) {t : Nat} {th : AThread}
    {done : List Call} {op : Op} (ht : g.sys.thr[t]? = some th) (hp : progs[t]? = some (done ++ th.calls))
    (hop : Call.prim op ∈ done) : ∃ e ∈ g.hist, e.op = op ∧ e.tid = t := by
  obtain ⟨done', h1, h2, _⟩ := hi.thr t th ht
  cases List.append_cancel_right (Option.some.inj (hp.symm.trans h1))
  exact h2 op hop

theorem ginv_no_lost (b : Bool) (hi : GInv w progs g) {k : Nat} (hk : k < 16)
    (hc : ∀ p ∈ progs, ∀ c ∈ p, ∀ op ∈ Call.prims c, op.drives k (!b) = false) :
    (w.testBit k = b → g.sys.mem.testBit k = b) ∧
    ∀ (t : Nat) (th : AThread) (done : List Call) (op : Op), g.sys.thr[t]? = some th →
      progs[t]? = some (done ++ th.calls) → Call.prim op ∈ done → op.drives k b = true → g.sys.mem.testBit k = b := by
  have hl := fun hs => lin_bit b hi.lin hk (ginv_forall_hist hi hc) hs
  refine ⟨fun hw => hl (Or.inl hw), fun t th done op ht hp hop hd => ?_⟩
  obtain ⟨e, he, rfl, _⟩ := ginv_done_hist hi ht hp hop
  exact hl (Or.inr ⟨e, he, hd⟩)

/-- the value a call must return on a closed session -/
def closedAnswer : Call → Option Nat
  | .ready => some 0
  | .canRecv => some 0
  | .canStart => some 0
  | .canStop => some 1
  | .dom _ => some 1
  | _ => none

end XMT.StateAccInv
