/-
  XMT.ClientLoopSwitch — what `(*Session).listen` reports to the profile selector: the argument of the
  k-th call `s.p.Switch(e)` says whether connection attempt k-1 failed (connect error or failed
  exchange); the first call reports no failure.
-/
import XMT.ClientLoopLemmas
namespace XMT.Client

/-- attempt number `k` (counted from the start of the script) failed -/
def failed (script : Nat → Res) (k : Nat) : Bool := script k != .ok

/-- the report the selector should get before attempt `k` of a loop that started at attempt `c0` -/
def report (script : Nat → Res) (c0 k : Nat) : Bool := decide (k > c0) && failed script (k - 1)

/-- the reports made so far are true -/
def SwOK (script : Nat → Res) (c0 : Nat) (st : St) : Prop :=
  c0 ≤ st.ci ∧ st.sw = (List.range (st.ci - c0)).map (fun j => report script c0 (c0 + j))

/-- invariant: one report per attempt so far, each one true to the attempt before it; `e` holds the
report for the next attempt -/
def SwInv (script : Nat → Res) (c0 : Nat) (st : St) : Prop :=
  c0 ≤ st.ci ∧ st.sw = (List.range (st.ci - c0)).map (fun j => report script c0 (c0 + j)) ∧
    st.e = report script c0 st.ci

theorem step_sw (c : Cfg) (q : Nat → Nat) (script : Nat → Res) (c0 : Nat) (st : St)
    (h : SwInv script c0 st) :
    SwOK script c0 (step c q script st).1 ∧
      ((step c q script st).2 = true → SwInv script c0 (step c q script st).1) := by
  obtain ⟨h1, h2, h3⟩ := h
  obtain ⟨hw1, hw2, hw3, _⟩ := wait_keeps c q st
  rw [step_eq]
  split
  · exact ⟨⟨hw1 ▸ h1, by rw [hw2, hw1]; exact h2⟩, nofun⟩
  · obtain ⟨a1, a2, _⟩ := attempt_facts script (wait c q st)
    obtain ⟨f1, f2, _, _, f3⟩ := finish_facts (script (wait c q st).ci) (attempt script (wait c q st))
    rw [hw1] at a1
    rw [hw2, hw3] at a2
    have hok : SwOK script c0 (finish (script (wait c q st).ci) (attempt script (wait c q st))).1 := by
      refine ⟨by rw [f1, a1]; omega, ?_⟩
      rw [f2, a2, f1, a1, h2, h3, show st.ci + 1 - c0 = st.ci - c0 + 1 by omega, List.range_succ,
        List.map_append, List.map_singleton, show c0 + (st.ci - c0) = st.ci by omega]
    refine ⟨hok, fun hc => ⟨hok.1, hok.2, ?_⟩⟩
    rw [(f3 hc).1, f1, a1, hw1, report, failed, decide_eq_true (by omega), Nat.add_sub_cancel]
    rfl

theorem run_sw (c : Cfg) (q : Nat → Nat) (script : Nat → Res) (c0 : Nat) : ∀ (fuel : Nat) (st : St),
    SwInv script c0 st → SwOK script c0 (run c q script fuel st)
  | 0, _, h => ⟨h.1, h.2.1⟩
  | f + 1, st, h => by
    have hs := step_sw c q script c0 st h
    rw [run_succ]
    split
    · next hc => exact run_sw c q script c0 f _ (hs.2 hc)
    · exact hs.1

end XMT.Client
