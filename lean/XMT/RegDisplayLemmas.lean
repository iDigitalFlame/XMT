/-
  XMT.RegDisplayLemmas — `util.Uitoa` writes the decimal numeral of every `uint64`, and `Entry.String`
  (XMT/RegDisplay.lean) returns the reference display form, for every type code, name and value; the
  one exception is a value with more words than the `[1 << 29]uint16` view holds (slice-bounds panic).
  Its MULTI_SZ loop is not analysed again: it runs as the loop of `ToStringList` does, joining as it goes
  (`dispLoop_sim`). With a view of more words than the value has it reads outside (`entryStringV_oob`).
-/
import XMT.Utf16Reg
import XMT.RegDisplay
namespace XMT.Utf16

theorem decRef_lt {v : Nat} (h : v < 10) : decRef v = [UInt8.ofNat (0x30 + v)] := by
  rw [decRef, if_pos h]

theorem decRef_ge {v : Nat} (h : ¬ v < 10) :
    decRef v = decRef (v / 10) ++ [UInt8.ofNat (0x30 + v % 10)] := by
  rw [decRef, if_neg h]

/-- The number a string of ASCII digits denotes. -/
def decValue (s : Bytes) : Nat := s.foldl (fun a b => 10 * a + (b.toNat - 0x30)) 0

theorem digit_toNat {n : Nat} (h : n < 10) : (UInt8.ofNat (0x30 + n)).toNat = 0x30 + n := by
  rw [UInt8.toNat_ofNat']; omega

theorem decRef_spec (v : Nat) :
    decValue (decRef v) = v ∧ (∀ b ∈ decRef v, 0x30 ≤ b.toNat ∧ b.toNat ≤ 0x39) ∧
    (v ≠ 0 → (decRef v).head? ≠ some 0x30) ∧ decRef v ≠ [] := by
  induction v using decRef.induct with
  | case1 v h10 =>
    have ht := digit_toNat h10
    rw [decRef_lt h10]
    generalize UInt8.ofNat (0x30 + v) = x at ht
    refine ⟨by simp [decValue, ht], ?_, ?_, by simp⟩
    · intro b hb
      rw [List.mem_singleton.mp hb, ht]; omega
    · intro h0 hh
      have := congrArg UInt8.toNat (Option.some.inj hh)
      rw [ht] at this
      exact h0 (by simpa using this)
  | case2 v h10 ih =>
    have ht := digit_toNat (Nat.mod_lt v (by decide : 0 < 10))
    obtain ⟨hval, hdig, hlead, hne⟩ := ih
    rw [decRef_ge h10]
    generalize UInt8.ofNat (0x30 + v % 10) = x at ht
    refine ⟨?_, ?_, ?_, by simp⟩
    · unfold decValue at hval ⊢
      rw [List.foldl_append, hval]
      simp [ht]
      omega
    · intro b hb
      rcases List.mem_append.mp hb with h | h
      · exact hdig b h
      · rw [List.mem_singleton.mp h, ht]; omega
    · intro _
      have := hlead (by omega)
      cases hd : decRef (v / 10) with
      | nil => exact absurd hd hne
      | cons a t => rw [hd] at this; simpa using this

theorem drop_set_self {α : Type} (b : List α) (k : Nat) (x : α) (h : k < b.length) :
    (b.set k x).drop k = x :: b.drop (k + 1) := by
  rw [List.drop_set, if_neg (Nat.lt_irrefl k), Nat.sub_self, List.drop_eq_getElem_cons h, List.set_cons_zero]

/-- Each iteration stores the last digit of `v` at `b[k]` and goes on with `v / 10` to its left; the
wrapping `0x30 + v - n*0xA` of the code is that digit. -/
theorem uitoaLoop_eq (v : Nat) : ∀ (k : Nat) (b : Bytes), v < 10 ^ (k + 1) → v < 18446744073709551616 →
    k < b.length → uitoaLoop (k + 1) v b = .ok (decRef v ++ b.drop (k + 1)) := by
  induction v using decRef.induct with
  | case1 v h10 =>
    intro k b _ _ hk
    rw [uitoaLoop, if_neg (by omega), wr_of_lt hk, decRef_lt h10]
    dsimp only
    rw [drop_set_self b k _ hk, Nat.mod_eq_of_lt (by omega)]
    rfl
  | case2 v h10 ih =>
    intro k b hv h64 hk
    have hk0 : k ≠ 0 := by rintro rfl; omega
    obtain ⟨k, rfl⟩ : ∃ k', k = k' + 1 := ⟨k - 1, by omega⟩
    have hd : ((0x30 + v) % 18446744073709551616 + 18446744073709551616
        - (v / 0xA * 0xA) % 18446744073709551616) % 18446744073709551616 = 0x30 + v % 10 := by omega
    rw [uitoaLoop, if_pos (by omega), wr_of_lt hk, hd]
    dsimp only
    rw [ih k _ (by rw [Nat.pow_succ] at hv; omega) (by omega) (by rw [List.length_set]; omega),
      drop_set_self b (k + 1) _ hk, decRef_ge h10, List.append_assoc]
    rfl

theorem uitoa_eq (v : Nat) (h : v < 18446744073709551616) : uitoa v = .ok (decRef v) := by
  unfold uitoa
  by_cases h0 : v = 0
  · rw [if_pos h0, h0, decRef_lt (by decide)]; rfl
  · rw [if_neg h0, uitoaLoop_eq v 19 _ (by omega) h (by decide)]
    simp

/-- The view of `Entry.String` as written is the one the decoders lay over the value. -/
theorem regViewN_half (d : Bytes) : regViewN d (d.length / 2) = regView d :=
  rfl

theorem regViewN_oob {d : Bytes} {n : Nat} (h : d ≠ []) (hc : n ≤ Facts.regArrayCap) (hn : d.length < 2 * n) :
    regViewN d n = .panic "read-oob" := by
  obtain ⟨a, t, rfl⟩ := List.exists_cons_of_ne_nil h
  exact (if_neg (Nat.not_lt.mpr hc)).trans (viewU16_oob _ hn)

/-- With any view length that covers more than the value, `Entry.String` of a string or string-list
value of at least 3 bytes reads outside it: all three cases build the view first. -/
theorem entryStringV_oob (vl : Nat → Nat) (ty nameLen : Nat) (d : Bytes)
    (hty : ty = Facts.regTypeString ∨ ty = Facts.regTypeExpandString ∨ ty = Facts.regTypeStringList)
    (h3 : 3 ≤ d.length) (hn : d.length < 2 * vl d.length) (hc : vl d.length ≤ Facts.regArrayCap) :
    entryStringV vl ty nameLen d = .panic "read-oob" := by
  have hv := regViewN_oob (by rintro rfl; simp at h3) hc hn
  have h3' : ¬ d.length < 3 := Nat.not_lt.mpr h3
  unfold entryStringV
  rcases hty with rfl | rfl | rfl <;>
    simp [hv, h3', Facts.regTypeString, Facts.regTypeExpandString, Facts.regTypeStringList,
      Facts.regTypeDword, Facts.regTypeQword, Facts.regTypeBinary]

/-- `strings.Join` after one more element; `n > 0` is how the loop knows that there was one before. -/
theorem joinSegs_concat {n : Nat} {l : List (List Int)} (hn : n > 0 ↔ l ≠ []) (s : List Int) :
    joinSegs (l ++ [s]) = (if n > 0 then joinSegs l ++ [44, 32] else joinSegs l) ++ s := by
  cases l with
  | nil => rw [if_neg (by simp [hn])]; simp [joinSegs, joinTail]
  | cons a t => rw [if_pos (by simp [hn])]; simp [joinSegs, joinTail]

/-- The display loop is the splitting loop of `ToStringList` with the Builder holding the elements
found so far, joined: same tests, same slices, and nothing here depends on where `i` and `n` stand. -/
theorem dispLoop_sim (v : U16s) : ∀ (rest : U16s) (i n : Nat) (l : List (List Int)), (n > 0 ↔ l ≠ []) →
    dispLoop v rest i n (joinSegs l) =
      match slLoop v rest i n l with
      | .ok r => .ok (joinSegs r)
      | .err e => .err e
      | .panic p => .panic p
  | [], _, _, _, _ => rfl
  | x :: rest, i, n, l, hn => by
    unfold dispLoop slLoop
    by_cases hx : x.toNat > 0
    · rw [if_pos hx, if_pos hx]
      exact dispLoop_sim v rest (i + 1) n l hn
    · rw [if_neg hx, if_neg hx]
      cases slice v n i with
      | ok seg =>
        simp only [utf16Decode_eq, ← joinSegs_concat hn]
        exact dispLoop_sim v rest (i + 1) (i + 1) _ (by simp)
      | err e => rfl
      | panic p => rfl

theorem dispLoop_all (v : U16s) : dispLoop v v 0 0 [] = .ok (joinSegs ((segs v).map refDecode)) := by
  have h := dispLoop_sim v v 0 0 [] (by simp)
  rwa [slLoop_all] at h

/-- `Entry.String` on the value `d` ends in `x`: it returns the display form `r`; where it lays the
view over the value (`regView_then`) it panics instead, on the slice bounds, if the value has more
words than the array type of the view. -/
def Shows (d : Bytes) (x : Outcome (List Int)) (r : List Int) : Prop :=
  x = .ok r ∨ x = if Facts.regArrayCap < d.length / 2 then .panic "slice-bounds" else .ok r

theorem Shows.ne_oob {d : Bytes} {x : Outcome (List Int)} {r : List Int} (h : Shows d x r) :
    x ≠ .panic "read-oob" := by
  rcases h with rfl | rfl
  · nofun
  · exact ite_ne panic_ne_oob nofun

theorem Shows.ok {d : Bytes} {x : Outcome (List Int)} {r : List Int} (h : Shows d x r)
    (hc : d.length / 2 ≤ Facts.regArrayCap) : x = .ok r :=
  h.elim id fun h => h.trans (if_neg (Nat.not_lt.mpr hc))

theorem ite_rel {α β : Type} {R : α → β → Prop} {c : Prop} [Decidable c] {a b : α} {a' b' : β}
    (h1 : c → R a a') (h2 : ¬ c → R b b') : R (ite c a b) (ite c a' b') := by
  split
  · exact h1 ‹_›
  · exact h2 ‹_›

/-- The type switch of `Entry.String` and that of the reference have the same cases in the same order;
only the two cases that lay the view over the value can fail. -/
theorem entryString_shows (ty nameLen : Nat) (d : Bytes) :
    Shows d (entryString ty nameLen d) (refDisplay ty nameLen d) := by
  unfold entryString entryStringV refDisplay
  simp only [ne_eq, ite_not]
  refine ite_rel (fun _ => ite_rel (fun _ => .inl rfl) fun _ => .inl rfl) fun _ =>
    ite_rel (fun _ => ite_rel (fun h4 => .inl ?dword) fun _ => .inl rfl) fun _ =>
    ite_rel (fun _ => ite_rel (fun h8 => .inl ?qword) fun _ => .inl rfl) fun _ =>
    ite_rel (fun _ => .inl rfl) fun _ =>
    ite_rel (fun _ => ite_rel (fun _ => .inl rfl) fun h3 => ?multi) fun _ =>
    ite_rel (fun _ => ite_rel (fun _ => .inl rfl) fun h3 => ?sz) fun _ => .inl rfl
  case dword =>
    match d, h4 with
    | [b0, b1, b2, b3], _ =>
      simp only [List.getElem?_cons_succ, List.getElem?_cons_zero]
      rw [leNat4, uitoa_eq _ (Nat.lt_of_lt_of_le (leNat_lt _) (by decide : 256 ^ 4 ≤ _))]
  case qword =>
    match d, h8 with
    | [b0, b1, b2, b3, b4, b5, b6, b7], _ =>
      simp only [List.getElem?_cons_succ, List.getElem?_cons_zero]
      rw [leNat8, uitoa_eq _ (Nat.lt_of_lt_of_le (leNat_lt _) (by decide : 256 ^ 8 ≤ _))]
  case multi =>
    rw [regViewN_half]
    refine .inr (regView_then d (by rintro rfl; simp at h3) ?_)
    have h0 : (leWords d).length ≠ 0 := by rw [leWords_length]; omega
    obtain ⟨last, h1, h2⟩ := stripLast_eq _ h0
    simp only [if_neg h0, h1, h2]
    exact dispLoop_all _
  case sz =>
    rw [regViewN_half]
    exact .inr (regView_then d (by rintro rfl; simp at h3) (utf16Decode_eq _))

theorem refDisplay_sz {ty : Nat} (h : ty = Facts.regTypeString ∨ ty = Facts.regTypeExpandString)
    (nameLen : Nat) (d : Bytes) :
    refDisplay ty nameLen d = if d.length < 3 then [] else refDecode (untilNul (leWords d)) := by
  rcases h with rfl | rfl <;> rfl

theorem refDisplay_multi (nameLen : Nat) (d : Bytes) :
    refDisplay Facts.regTypeStringList nameLen d
      = if d.length < 3 then [] else joinSegs ((segs (stripLastNul (leWords d))).map refDecode) :=
  rfl

end XMT.Utf16
