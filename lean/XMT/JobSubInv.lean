/-
  XMT.JobSubInv — invariant `InvS` of the sub-step model XMT/JobSub.lean (repaired write order
  `cancelActs`) and its frame lemma: which changes of the state by one thread leave the clauses about
  the other threads intact (`invS_frame`, which concludes `GoodS`), specialised to the shapes a single action
  has, each concluding `StepOK`: own locals and the lock (`invS_frame_lock`, `invS_frame_loc`), one Job and at
  most one table entry (`invS_frame_write`, with `invS_frame_job`, `invS_frame_pending` and `invS_frame_take` as
  its common cases). The clauses of `JobOKS`, `OwnsS`, `TabOKS`, `RdOKS` and `MonoS` have names
  (`JobOKS.of_closed`, `OwnsS.status_at56`, `TabOKS.noResult`, `RdOKS.status`, …); what the invariant says to one
  who has a state satisfying it is `InvS.owned`, `InvS.lock_ne_fin`, `InvS.reader_status`, `InvS.reader_result`,
  `InvS.reader_err`. XMT/JobSubStep.lean applies the shapes to every pc of every thread kind.
-/
import XMT.JobSub
import XMT.JobInv
namespace XMT.JobSub
open XMT.Job

/-- Consistency of one Job object with its ghost fields, in EVERY state between two single writes:
an open channel means nothing was released and the field is not nil; a closed channel carries the
Status of the event that closed it, and the Result / Error belonging to that event. -/
def JobOKS (j : JobSt) : Prop :=
  (j.closed = false → j.closes = 0 ∧ j.first = none ∧ j.doneNil = false) ∧
  (j.closed = true → j.closes = 1 ∧ ∃ e, j.first = some e ∧ j.status = e.status ∧
    (e = .canceled → j.result = none ∧ j.err = false) ∧
    (e = .error → j.result ≠ none ∧ j.err = true) ∧
    (e = .completed → j.result ≠ none ∧ j.err = false))

section
variable {j : JobSt} (h : JobOKS j)
include h
theorem JobOKS.of_open (c : j.closed = false) : j.closes = 0 ∧ j.first = none ∧ j.doneNil = false := h.1 c
theorem JobOKS.of_closed (c : j.closed = true) : j.closes = 1 ∧ ∃ e, j.first = some e ∧ j.status = e.status ∧
    (e = .canceled → j.result = none ∧ j.err = false) ∧ (e = .error → j.result ≠ none ∧ j.err = true) ∧
    (e = .completed → j.result ≠ none ∧ j.err = false) := h.2 c
end

/-- what the coarse model asks of a Job object, so that its facts about open Jobs (`jobLe_of_open`,
`closeDone_ok`) apply here -/
theorem JobOKS.ok {j : JobSt} (h : JobOKS j) : JobOK j :=
  ⟨fun c => ⟨(h.of_open c).1, (h.of_open c).2.1⟩,
    fun c => have ⟨a, e, b, d, _⟩ := h.of_closed c; ⟨a, e, b, d⟩⟩

theorem jobOKS_open {j : JobSt} (hc : j.closed = false) (h : j.closes = 0 ∧ j.first = none ∧ j.doneNil = false) :
    JobOKS j :=
  ⟨fun _ => h, fun e => nomatch hc.symm.trans e⟩

/-- closing a Job whose Status, Result and Error are those of the closing event -/
theorem jobOKS_close {j : JobSt} {e : Ev} (hs : j.status = e.status)
    (hr : (e = .canceled → j.result = none ∧ j.err = false) ∧ (e = .error → j.result ≠ none ∧ j.err = true) ∧
      (e = .completed → j.result ≠ none ∧ j.err = false)) :
    JobOKS { j with closed := true, closes := 1, first := some e } :=
  ⟨fun c => (nomatch c), fun _ => ⟨rfl, e, rfl, hs, hr⟩⟩

theorem jobOKS_doneNil {j : JobSt} (hj : JobOKS j) (hc : j.closed = true) : JobOKS { j with doneNil := true } :=
  ⟨fun e => (nomatch hc.symm.trans e), hj.2⟩

theorem JobOKS.closed_of_doneNil {j : JobSt} (hj : JobOKS j) (hn : j.doneNil = true) : j.closed = true := by
  cases hc : j.closed with
  | true => rfl
  | false => exact nomatch (hj.of_open hc).2.2.symm.trans hn

/-- handle-thread `t` between its locked removal (pc 2) and its last store (pc 7) -/
def OwnsS (j : JobSt) (t pc id : Nat) (ef : Bool) (tag : Nat) : Prop :=
  j.owner = some t ∧ j.id = id ∧
  (pc ≤ 6 → j.closed = false ∧ j.doneNil = false) ∧
  (pc = 2 → j.result = none ∧ j.err = false) ∧
  (3 ≤ pc → j.result = some tag) ∧
  (pc = 3 ∨ pc = 4 → ef = true ∧ j.err = false) ∧
  (pc = 4 → j.status = stError) ∧
  (pc = 5 ∨ pc = 6 → j.status = (evOf ef).status ∧ j.err = ef) ∧
  (pc = 7 → j.closed = true)

section
variable {j : JobSt} {t pc i : Nat} {ef : Bool} {tag : Nat} (h : OwnsS j t pc i ef tag)
include h
theorem OwnsS.owner : j.owner = some t := h.1
theorem OwnsS.id : j.id = i := h.2.1
theorem OwnsS.open_of_le6 (p : pc ≤ 6) : j.closed = false ∧ j.doneNil = false := h.2.2.1 p
theorem OwnsS.fresh_at2 (p : pc = 2) : j.result = none ∧ j.err = false := h.2.2.2.1 p
theorem OwnsS.result_of_ge3 (p : 3 ≤ pc) : j.result = some tag := h.2.2.2.2.1 p
theorem OwnsS.flagged_at34 (p : pc = 3 ∨ pc = 4) : ef = true ∧ j.err = false := h.2.2.2.2.2.1 p
theorem OwnsS.status_at4 (p : pc = 4) : j.status = stError := h.2.2.2.2.2.2.1 p
theorem OwnsS.status_at56 (p : pc = 5 ∨ pc = 6) : j.status = (evOf ef).status ∧ j.err = ef := h.2.2.2.2.2.2.2.1 p
theorem OwnsS.closed_at7 (p : pc = 7) : j.closed = true := h.2.2.2.2.2.2.2.2 p
end

def TabOKS (s : StS) (i r : Nat) : Prop :=
  r < s.nJobs ∧ (s.jobs r).id = i ∧ (s.jobs r).closed = false ∧ (s.jobs r).doneNil = false ∧
  (s.jobs r).owner = none ∧ (s.jobs r).result = none ∧ (s.jobs r).err = false

section
variable {s : StS} {i r : Nat} (h : TabOKS s i r)
include h
theorem TabOKS.lt : r < s.nJobs := h.1
theorem TabOKS.id : (s.jobs r).id = i := h.2.1
theorem TabOKS.isOpen : (s.jobs r).closed = false := h.2.2.1
theorem TabOKS.notNil : (s.jobs r).doneNil = false := h.2.2.2.1
theorem TabOKS.free : (s.jobs r).owner = none := h.2.2.2.2.1
theorem TabOKS.noResult : (s.jobs r).result = none := h.2.2.2.2.2.1
theorem TabOKS.noErr : (s.jobs r).err = false := h.2.2.2.2.2.2
end

def OwnOKS (s : StS) (t id : Nat) (ef : Bool) (tag : Nat) (l : LocS) : Prop :=
  2 ≤ l.pc → l.pc ≤ 7 → l.ref ≠ none ∧ ∀ r, l.ref = some r → r < s.nJobs ∧ OwnsS (s.jobs r) t l.pc id ef tag

/-- Cancel thread `t` inside its locked region (pc 2 … 6 = next write mapNil, delete, status, close,
doneNil): it holds the lock; before the delete its Job is still in the table, afterwards it owns it. -/
def CanOKS (s : StS) (t k : Nat) (l : LocS) : Prop :=
  2 ≤ l.pc → l.pc ≤ 6 → s.lock = some t ∧ ∃ r, jobOf s k = some (some r) ∧ r < s.nJobs ∧
    (l.pc ≤ 3 → s.table (s.jobs r).id = some r) ∧
    (4 ≤ l.pc → (s.jobs r).owner = some t ∧ (s.jobs r).result = none ∧ (s.jobs r).err = false ∧
      (l.pc ≤ 5 → (s.jobs r).closed = false ∧ (s.jobs r).doneNil = false) ∧
      (l.pc = 5 → (s.jobs r).status = stCanceled) ∧
      (l.pc = 6 → (s.jobs r).closed = true))

/-- frag thread between its two writes -/
def FrgOKS (s : StS) (t id : Nat) (l : LocS) : Prop :=
  l.pc = 2 → s.lock = some t ∧ ∃ r, l.ref = some r ∧ s.table id = some r

/-- the lock is only ever held by a Cancel or frag thread that is inside its region (in particular
never by a thread that has returned or died) -/
def HolderS (prog : List KindS) (s : StS) (t : Nat) : Prop :=
  (∃ k, prog[t]? = some (.cancel k) ∧ 2 ≤ (s.loc t).pc ∧ (s.loc t).pc ≤ 6) ∨
  (∃ id mx cur, prog[t]? = some (.frag id mx cur) ∧ (s.loc t).pc = 2)

/-- a reader that is past its done-test (Wait returned / IsDone said true) reads a finished Job, and
whatever it has read so far is what the Job holds (and will hold: a finished Job is frozen). -/
def RdOKS (s : StS) (k : Nat) (l : LocS) : Prop :=
  (jobOf s k = none → l.pc = 0 ∧ l.oSt = none ∧ l.oRes = none ∧ l.oErr = none) ∧
  ∀ r, jobOf s k = some (some r) →
    (2 ≤ l.pc → l.pc ≤ 4 → (s.jobs r).closed = true) ∧
    (∀ v, l.oSt = some v → (s.jobs r).closed = true ∧ v = (s.jobs r).status) ∧
    (∀ v, l.oRes = some v → (s.jobs r).closed = true ∧ v = (s.jobs r).result) ∧
    (∀ v, l.oErr = some v → (s.jobs r).closed = true ∧ v = (s.jobs r).err)

section
variable {s : StS} {k r : Nat} {l : LocS} (h : RdOKS s k l) (e : jobOf s k = some (some r))
include h e
theorem RdOKS.closed (h2 : 2 ≤ l.pc) (h4 : l.pc ≤ 4) : (s.jobs r).closed = true := (h.2 r e).1 h2 h4
/-- the three clauses about what the reader has recorded, as `RdOKS` of its next locals asks for them -/
theorem RdOKS.reads :
    (∀ v, l.oSt = some v → (s.jobs r).closed = true ∧ v = (s.jobs r).status) ∧
    (∀ v, l.oRes = some v → (s.jobs r).closed = true ∧ v = (s.jobs r).result) ∧
    (∀ v, l.oErr = some v → (s.jobs r).closed = true ∧ v = (s.jobs r).err) := (h.2 r e).2
theorem RdOKS.status {v : Nat} (hv : l.oSt = some v) : (s.jobs r).closed = true ∧ v = (s.jobs r).status :=
  (h.2 r e).2.1 v hv
theorem RdOKS.result {v : Option Nat} (hv : l.oRes = some v) : (s.jobs r).closed = true ∧ v = (s.jobs r).result :=
  (h.2 r e).2.2.1 v hv
theorem RdOKS.err {v : Bool} (hv : l.oErr = some v) : (s.jobs r).closed = true ∧ v = (s.jobs r).err :=
  (h.2 r e).2.2.2 v hv
end

def isReader (prog : List KindS) (t k : Nat) : Prop :=
  prog[t]? = some (.waitRd k) ∨ prog[t]? = some (.doneRd k) ∨ prog[t]? = some (.isError k)

/-- `res`: a stored Result is the packet of the handle-thread that owns the Job, and that thread's packet carries
the Job's number (what `InvS.reader_result` rests on). The other clauses say of every thread, table entry or Job
what the predicate named in them says of one. -/
structure InvS (prog : List KindS) (s : StS) : Prop where
  lockOK : ∀ t, s.lock = some t → HolderS prog s t
  noPanic : ∀ t, (s.loc t).out ≠ .panicClosed ∧ (s.loc t).out ≠ .panicNil
  tab : ∀ i r, s.table i = some r → TabOKS s i r
  jobs : ∀ r, r < s.nJobs → JobOKS (s.jobs r)
  outJob : ∀ t r, (s.loc t).out = .job r → r < s.nJobs
  own : ∀ t id ef tag, prog[t]? = some (.result id ef tag) → OwnOKS s t id ef tag (s.loc t)
  can : ∀ t k, prog[t]? = some (.cancel k) → CanOKS s t k (s.loc t)
  frg : ∀ t id mx cur, prog[t]? = some (.frag id mx cur) → FrgOKS s t id (s.loc t)
  rd : ∀ t k, isReader prog t k → RdOKS s k (s.loc t)
  res : ∀ r g, r < s.nJobs → (s.jobs r).result = some g →
    ∃ t ef, (s.jobs r).owner = some t ∧ prog[t]? = some (.result (s.jobs r).id ef g)

def MonoS (s s' : StS) : Prop := s.nJobs ≤ s'.nJobs ∧ ∀ r, r < s.nJobs → JobLe (s.jobs r) (s'.jobs r)
theorem MonoS.nJobs_le {s s' : StS} (h : MonoS s s') : s.nJobs ≤ s'.nJobs := h.1
theorem MonoS.jobLe {s s' : StS} (h : MonoS s s') {r : Nat} (hr : r < s.nJobs) : JobLe (s.jobs r) (s'.jobs r) := h.2 r hr
def GoodS (prog : List KindS) (s s' : StS) : Prop := InvS prog s' ∧ MonoS s s'

theorem monoS_refl (s : StS) : MonoS s s := ⟨Nat.le_refl _, fun _ _ => jobLe_refl _⟩
theorem monoS_trans {a b c : StS} (h1 : MonoS a b) (h2 : MonoS b c) : MonoS a c :=
  ⟨Nat.le_trans h1.nJobs_le h2.nJobs_le,
    fun _ hr => jobLe_trans (h1.jobLe hr) (h2.jobLe (Nat.lt_of_lt_of_le hr h1.nJobs_le))⟩
theorem goodS_refl {prog : List KindS} {s : StS} (h : InvS prog s) : GoodS prog s s := ⟨h, monoS_refl s⟩

theorem invS_init (prog : List KindS) : InvS prog {} := by
  constructor <;> simp [OwnOKS, CanOKS, FrgOKS, RdOKS, jobOf, fin]

theorem jobOf_congr {s s' : StS} {k : Nat} (h : s'.loc k = s.loc k) : jobOf s' k = jobOf s k := by
  simp only [jobOf, h]

theorem jobOf_job {s : StS} {k r : Nat} (h : jobOf s k = some (some r)) : (s.loc k).out = .job r := by
  unfold jobOf at h
  split at h
  · split at h
    · rename_i r' ho; cases h; exact ho
    · cases h
  · cases h

theorem jobOf_fin {s : StS} {k : Nat} {x : Option Nat} (h : jobOf s k = some x) : (s.loc k).pc = fin := by
  unfold jobOf at h
  split at h
  · assumption
  · cases h

theorem jobOf_lt {prog : List KindS} {s : StS} {k r : Nat} (h : InvS prog s) (e : jobOf s k = some (some r)) :
    r < s.nJobs := h.outJob k r (jobOf_job e)

/-- a thread that has returned is not the one that moves: its `jobOf` stays -/
theorem jobOf_step {s s' : StS} {t k : Nat} {l' : LocS} {x : Option Nat} (h0 : (s.loc t).pc ≠ fin)
    (hl : s'.loc = upd s.loc t l') (e : jobOf s k = some x) : jobOf s' k = some x := by
  have ne : k ≠ t := fun ek => h0 (ek ▸ jobOf_fin e)
  rw [jobOf_congr (s := s) (by rw [hl, upd_other _ _ _ _ ne]), e]

theorem ne_fin_of_le {n : Nat} (h : n ≤ 7) : n ≠ fin := by unfold fin; omega

/-- what `InvS` says about thread `t` of kind `K` when its locals are `l` -/
def KindOKS (s : StS) (t : Nat) (l : LocS) : KindS → Prop
  | .result id ef tag => OwnOKS s t id ef tag l
  | .cancel k => CanOKS s t k l
  | .frag id _ _ => FrgOKS s t id l
  | .waitRd k | .doneRd k | .isError k => RdOKS s k l
  | _ => True

/-- the pcs at which a thread of kind `K` holds the lock -/
def HoldsS : KindS → Nat → Prop
  | .cancel _, pc => 2 ≤ pc ∧ pc ≤ 6
  | .frag .., pc => pc = 2
  | _, _ => False

/-- what a step of `t` may do to the lock: nothing, or take / release it if no other thread holds it -/
abbrev LockStep (t : Nat) (lk lk' : Option Nat) : Prop :=
  lk' = lk ∨ ((lk = none ∨ lk = some t) ∧ (lk' = none ∨ lk' = some t))

theorem not_held_of_free {lk : Option Nat} {t t' : Nat} (a : lk = none ∨ lk = some t) (ne : t' ≠ t) :
    lk ≠ some t' := by
  rintro rfl
  rcases a with a | a <;> cases a
  exact ne rfl

/-- what a single action does: the invariant holds afterwards, every Job has only moved forward, and
the table changed by at most one insert or delete, `count` following it -/
def StepOK (prog : List KindS) (s s' : StS) : Prop := GoodS prog s s' ∧ TabStep s.table s.count s'.table s'.count

variable {prog : List KindS} {s s' : StS} {t : Nat} {K : KindS}

theorem StepOK.good (h : StepOK prog s s') : GoodS prog s s' := h.1
theorem StepOK.tabStep (h : StepOK prog s s') : TabStep s.table s.count s'.table s'.count := h.2

theorem stepOK_refl (h : InvS prog s) : StepOK prog s s :=
  ⟨goodS_refl h, tabStep_refl _ _⟩

theorem InvS.holds (h : InvS prog s) (hk : prog[t]? = some K) (hl : s.lock = some t) : HoldsS K (s.loc t).pc := by
  rcases h.lockOK t hl with ⟨k, e, a, b⟩ | ⟨id, mx, cur, e, a⟩ <;> (rw [hk] at e; cases e)
  · exact ⟨a, b⟩
  · exact a

theorem InvS.outOK (h : InvS prog s) (t : Nat) : OutOK s.nJobs (s.loc t).out :=
  ⟨(h.noPanic t).1, (h.noPanic t).2, h.outJob t⟩

/-- the `own` clause in the form its users want: the Job a handle-thread holds between its removal of the Job
from the table and its last store -/
theorem InvS.owned (h : InvS prog s) {id : Nat} {ef : Bool} {tag : Nat} (hk : prog[t]? = some (.result id ef tag))
    (h2 : 2 ≤ (s.loc t).pc) (h7 : (s.loc t).pc ≤ 7) :
    ∃ r, (s.loc t).ref = some r ∧ r < s.nJobs ∧ OwnsS (s.jobs r) t (s.loc t).pc id ef tag ∧ JobOKS (s.jobs r) := by
  obtain ⟨hn, hr⟩ := h.own t id ef tag hk h2 h7
  obtain ⟨r, e⟩ := Option.ne_none_iff_exists'.1 hn
  exact ⟨r, e, (hr r e).1, (hr r e).2, h.jobs r (hr r e).1⟩

theorem InvS.lock_ne_fin (h : InvS prog s) (hl : s.lock = some t) : (s.loc t).pc ≠ fin := by
  rcases h.lockOK t hl with ⟨_, _, _, h6⟩ | ⟨_, _, _, _, h2⟩
  · exact ne_fin_of_le (Nat.le_trans h6 (by decide))
  · exact ne_fin_of_le (h2 ▸ by decide)

section Reader
-- what reader `t` has recorded is what a closed Job holds (`rd`), and `JobOKS` of a closed Job ties that to the event
-- that closed it
variable {k r : Nat} (h : InvS prog s) (hk : isReader prog t k) (hj : jobOf s k = some (some r))
include h hk hj

theorem InvS.reader_status {v : Nat} (hv : (s.loc t).oSt = some v) :
    ∃ e, (s.jobs r).first = some e ∧ v = e.status ∧ (s.jobs r).status = v ∧ (s.jobs r).closed = true ∧
      v ≠ stWaiting ∧ v ≠ stAccepted ∧ v ≠ stReceiving := by
  obtain ⟨hc, hs⟩ := (h.rd t k hk).status hj hv
  obtain ⟨_, e, h2, h3, _⟩ := (h.jobs r (jobOf_lt h hj)).of_closed hc
  refine ⟨e, h2, hs.trans h3, hs.symm, hc, ?_⟩
  rw [hs, h3]
  cases e <;> decide

theorem InvS.reader_result {x : Option Nat} (hv : (s.loc t).oRes = some x) :
    x = (s.jobs r).result ∧ (s.jobs r).closed = true ∧ ((s.jobs r).first = some .canceled → x = none) ∧
    ∀ g, x = some g → ∃ (t' : Nat) (ef : Bool), prog[t']? = some (KindS.result (s.jobs r).id ef g) := by
  obtain ⟨hc, hs⟩ := (h.rd t k hk).result hj hv
  have hr := jobOf_lt h hj
  obtain ⟨_, e, h2, _, h4, _⟩ := (h.jobs r hr).of_closed hc
  refine ⟨hs, hc, fun hf => ?_, fun g hg => ?_⟩
  · cases h2.symm.trans hf
    exact hs.trans (h4 rfl).1
  · obtain ⟨t', ef, _, hp⟩ := h.res r g hr (hs ▸ hg)
    exact ⟨t', ef, hp⟩

theorem InvS.reader_err {b : Bool} (hv : (s.loc t).oErr = some b) : b = true ↔ (s.jobs r).first = some .error := by
  obtain ⟨hc, hs⟩ := (h.rd t k hk).err hj hv
  obtain ⟨_, e, h2, _, h4, h5, h6⟩ := (h.jobs r (jobOf_lt h hj)).of_closed hc
  rw [h2, hs]
  cases e with
  | completed => simp [(h6 rfl).2]
  | error => simp [(h5 rfl).2]
  | canceled => simp [(h4 rfl).2]

end Reader

/-- Frame lemma: a step of thread `t` (not finished, locals `l'` afterwards) preserves the invariant
if it leaves the lock and the table alone while another thread holds the lock, leaves Jobs owned by
other threads alone, moves every Job only forward (`JobLe`), and re-establishes the conditions that
concern `t` itself and the table. The other threads' clauses survive because they speak only of
their own locals, of Jobs they own or that are closed (frozen by `JobLe`), and of lock and table
while they hold the lock. -/
theorem invS_frame (hk : prog[t]? = some K) (h : InvS prog s) (h0 : (s.loc t).pc ≠ fin)
    (hlk : (s'.lock = s.lock ∧ s'.table = s.table) ∨
      ((s.lock = none ∨ s.lock = some t) ∧ (s'.lock = none ∨ s'.lock = some t)))
    {l' : LocS} (hloc : s'.loc = upd s.loc t l')
    (hout : OutOK s'.nJobs l'.out)
    (hn : s.nJobs ≤ s'.nJobs)
    (hjobs : ∀ r, r < s'.nJobs → JobOKS (s'.jobs r))
    (htab : ∀ i r, s'.table i = some r → TabOKS s' i r)
    (hown : ∀ r t', r < s.nJobs → (s.jobs r).owner = some t' → t' ≠ t → s'.jobs r = s.jobs r)
    (hK : KindOKS s' t l' K) (hH : s'.lock = some t → HoldsS K l'.pc)
    (hle : ∀ r, r < s.nJobs → JobLe (s.jobs r) (s'.jobs r))
    (hres : ∀ r g, r < s'.nJobs → (s'.jobs r).result = some g →
      ∃ t ef, (s'.jobs r).owner = some t ∧ prog[t]? = some (.result (s'.jobs r).id ef g)) :
    GoodS prog s s' := by
  have hlt : s'.loc t = l' := by rw [hloc, upd_same]
  have hme : ∀ {K'}, prog[t]? = some K' → KindOKS s' t (s'.loc t) K' := fun hk' => by
    cases hk.symm.trans hk'; rw [hlt]; exact hK
  have hother : ∀ t', t' ≠ t → s'.loc t' = s.loc t' := fun t' ne => by rw [hloc, upd_other _ _ _ _ ne]
  -- while another thread holds the lock, lock and table are unchanged
  have hheld : ∀ t', t' ≠ t → s.lock = some t' → s'.lock = some t' ∧ s'.table = s.table := fun t' ne hl =>
    hlk.elim (fun a => ⟨a.1 ▸ hl, a.2⟩) (fun a => absurd hl (not_held_of_free a.1 ne))
  refine ⟨⟨?_, ?_, htab, hjobs, ?_, ?_, ?_, ?_, ?_, hres⟩, hn, hle⟩
  · -- lockOK
    intro t' hl
    by_cases e : t' = t
    · subst e
      have hh := hH hl
      unfold HolderS
      rw [hlt]
      cases K with
      | cancel k => exact Or.inl ⟨k, hk, hh⟩
      | frag id mx cur => exact Or.inr ⟨id, mx, cur, hk, hh⟩
      | _ => exact hh.elim
    · have hl0 : s.lock = some t' := hlk.elim (fun a => a.1 ▸ hl) (fun a => absurd hl (not_held_of_free a.2 e))
      have := h.lockOK t' hl0
      unfold HolderS at *
      rw [hother t' e]; exact this
  · intro t'
    by_cases e : t' = t
    · subst e; rw [hlt]; exact ⟨hout.1, hout.2.1⟩
    · rw [hother t' e]; exact h.noPanic t'
  · intro t' r
    by_cases e : t' = t
    · subst e; rw [hlt]; exact hout.2.2 r
    · rw [hother t' e]; intro hh; exact Nat.lt_of_lt_of_le (h.outJob t' r hh) hn
  · intro t' id ef tag hk'
    by_cases e : t' = t
    · subst e; exact hme hk'
    · rw [hother t' e]
      intro ha hb
      obtain ⟨hne, hr⟩ := h.own t' id ef tag hk' ha hb
      refine ⟨hne, ?_⟩
      intro r hrr
      obtain ⟨hlt, ho⟩ := hr r hrr
      rw [hown r t' hlt ho.1 e]
      exact ⟨Nat.lt_of_lt_of_le hlt hn, ho⟩
  · intro t' k hk'
    by_cases e : t' = t
    · subst e; exact hme hk'
    · rw [hother t' e]
      intro ha hb
      obtain ⟨hl, r, hj, hlt, hA, hB⟩ := h.can t' k hk' ha hb
      obtain ⟨hl', htb⟩ := hheld t' e hl
      refine ⟨hl', r, jobOf_step h0 hloc hj, Nat.lt_of_lt_of_le hlt hn, ?_, ?_⟩
      · intro h3'
        have := hA h3'
        rw [htb, ← (hle r hlt).id]; exact this
      · intro h4'
        have hB' := hB h4'
        rw [hown r t' hlt hB'.1 e]; exact hB'
  · intro t' id mx cur hk'
    by_cases e : t' = t
    · subst e; exact hme hk'
    · rw [hother t' e]
      intro ha
      obtain ⟨hl, r, hr, ht⟩ := h.frg t' id mx cur hk' ha
      obtain ⟨hl', htb⟩ := hheld t' e hl
      exact ⟨hl', r, hr, htb ▸ ht⟩
  · intro t' k hk'
    by_cases e : t' = t
    · subst e
      rcases hk' with hk' | hk' | hk' <;> exact hme hk'
    · rw [hother t' e]
      have old := h.rd t' k hk'
      by_cases ek : k = t
      · -- the reader's Job is the one `t` will return: `t` has not returned, the reader has not started
        subst ek
        obtain ⟨p0, p1, p2, p3⟩ := old.1 (by simp [jobOf, h0])
        exact ⟨fun _ => ⟨p0, p1, p2, p3⟩, fun r _ => by simp [p0, p1, p2, p3]⟩
      · unfold RdOKS
        rw [jobOf_congr (hother k ek)]
        refine ⟨old.1, fun r hj => ?_⟩
        -- a closed Job stays closed, and its Status, Result and Error stay what the reader has read
        have le := hle r (jobOf_lt h hj)
        exact ⟨fun a b => le.closed (old.closed hj a b),
          fun _ hv => have ⟨a, b⟩ := old.status hj hv; ⟨le.closed a, b.trans (le.frozen a).1.symm⟩,
          fun _ hv => have ⟨a, b⟩ := old.result hj hv; ⟨le.closed a, b.trans (le.frozen a).2.1.symm⟩,
          fun _ hv => have ⟨a, b⟩ := old.err hj hv; ⟨le.closed a, b.trans (le.frozen a).2.2.symm⟩⟩

section Shapes
-- `h0`: `t` has not returned (`ne_fin_of_le`). 7 is the last pc of `handle`, the longest thread; in this form
-- `omega` closes it at every call from what the case split on the pc has left.
variable (hk : prog[t]? = some K) (h : InvS prog s) (h0 : (s.loc t).pc ≤ 7)
include hk h h0

/-- the step changes only `t`'s locals and, if the lock is free or `t`'s, the lock -/
theorem invS_frame_lock {lk' : Option Nat} {l' : LocS} (hlk : LockStep t s.lock lk')
    (hout : OutOK s.nJobs l'.out) (hH : lk' = some t → HoldsS K l'.pc)
    (hK : KindOKS (setLoc { s with lock := lk' } t l') t l' K) : StepOK prog s (setLoc { s with lock := lk' } t l') :=
  ⟨invS_frame hk h (ne_fin_of_le h0) (hlk.elim (fun e => Or.inl ⟨e, rfl⟩) Or.inr) rfl hout (Nat.le_refl _)
    h.jobs h.tab (fun _ _ _ _ _ => rfl) hK hH (fun _ _ => jobLe_refl _) h.res, tabStep_refl _ _⟩

/-- the step changes only `t`'s locals -/
theorem invS_frame_loc {l' : LocS} (hout : OutOK s.nJobs l'.out) (hH : s.lock = some t → HoldsS K l'.pc)
    (hK : KindOKS (setLoc s t l') t l' K) : StepOK prog s (setLoc s t l') :=
  invS_frame_lock hk h h0 (lk' := s.lock) (Or.inl rfl) hout hH hK

/-- The step writes one Job `r`, an existing one that no other thread owns or the new one at the next
index, and changes the table by at most one entry (lock as in `invS_frame`). `htab`: an entry of the
new table is an old one of another Job, or points to `r`, which then looks like a pending Job. -/
theorem invS_frame_write {r n' c' : Nat} {j' : JobSt} {tb' : Nat → Option Nat} {lk' : Option Nat} {l' : LocS}
    {p' : List Nat}
    (hs : s' = { jobs := upd s.jobs r j', nJobs := n', table := tb', count := c', loc := upd s.loc t l',
                 lock := lk', pub := p' })
    (hn : r < s.nJobs ∧ n' = s.nJobs ∨ r = s.nJobs ∧ n' = s.nJobs + 1)
    (hlk : (lk' = s.lock ∧ tb' = s.table) ∨ ((s.lock = none ∨ s.lock = some t) ∧ (lk' = none ∨ lk' = some t)))
    (hts : TabStep s.table s.count tb' c')
    (hold : r < s.nJobs → (∀ t', (s.jobs r).owner = some t' → t' = t) ∧ JobLe (s.jobs r) j') (hok : JobOKS j')
    (htab : ∀ i r', tb' i = some r' → r' ≠ r ∧ s.table i = some r' ∨ r' = r ∧ j'.id = i ∧ j'.closed = false ∧
      j'.doneNil = false ∧ j'.owner = none ∧ j'.result = none ∧ j'.err = false)
    (hres : ∀ g, j'.result = some g → ∃ t ef, j'.owner = some t ∧ prog[t]? = some (.result j'.id ef g))
    (hout : OutOK n' l'.out) (hH : lk' = some t → HoldsS K l'.pc) (hK : KindOKS s' t l' K) : StepOK prog s s' := by
  subst hs
  have hj : ∀ r', r' ≠ r → upd s.jobs r j' r' = s.jobs r' := fun r' ne => upd_other _ _ _ _ ne
  have hlt : ∀ r', r' < n' → r' ≠ r → r' < s.nJobs := by omega
  refine ⟨invS_frame hk h (ne_fin_of_le h0) hlk rfl hout (show s.nJobs ≤ n' by omega) ?_ ?_ ?_ hK hH ?_ ?_, hts⟩
  all_goals simp only [TabOKS]
  · intro r' hr'
    by_cases e : r' = r
    · rw [e, upd_same]; exact hok
    · rw [hj r' e]; exact h.jobs r' (hlt r' hr' e)
  · intro i r' hi
    rcases htab i r' hi with ⟨e, hi⟩ | ⟨e, hj'⟩
    · have old := h.tab i r' hi
      rw [hj r' e]; exact ⟨Nat.lt_of_lt_of_le old.lt (by omega), old.2⟩
    · rw [e, upd_same]; exact ⟨by omega, hj'⟩
  · intro r' t' hr' hown ne
    by_cases e : r' = r
    · exact absurd ((hold (e ▸ hr')).1 t' (e ▸ hown)) ne
    · exact hj r' e
  · intro r' hr'
    by_cases e : r' = r
    · rw [e, upd_same]; exact (hold (e ▸ hr')).2
    · rw [hj r' e]; exact jobLe_refl _
  · intro r' g hr'
    by_cases e : r' = r
    · rw [e, upd_same]; exact hres g
    · rw [hj r' e]; exact h.res r' g (hlt r' hr' e)

/-- the step writes Job `r`, which `t` owns, and possibly takes or releases the lock -/
theorem invS_frame_job {r : Nat} {j' : JobSt} {l' : LocS} {lk' : Option Nat}
    (hs : s' = { s with jobs := upd s.jobs r j', loc := upd s.loc t l', lock := lk' }) (hr : r < s.nJobs)
    (ho : (s.jobs r).owner = some t) (hle : JobLe (s.jobs r) j') (hok : JobOKS j')
    (hres : ∀ g, j'.result = some g → ∃ t ef, j'.owner = some t ∧ prog[t]? = some (.result j'.id ef g))
    (hlk : LockStep t s.lock lk') (hout : OutOK s.nJobs l'.out) (hH : lk' = some t → HoldsS K l'.pc)
    (hK : KindOKS s' t l' K) : StepOK prog s s' := by
  refine invS_frame_write hk h h0 hs (.inl ⟨hr, rfl⟩) (hlk.elim (fun e => .inl ⟨e, rfl⟩) .inr) (tabStep_refl _ _)
    (fun _ => ⟨fun _ e => (Option.some.inj (ho.symm.trans e)).symm, hle⟩) hok (fun i r' hi => .inl ⟨?_, hi⟩)
    hres hout hH hK
  -- no entry of the table points to a Job that has an owner
  rintro rfl
  exact nomatch (h.tab i r' hi).free.symm.trans ho

/-- the step stores Status, Frags, Current of the Job pending under `i`, which stays pending -/
theorem invS_frame_pending {i r a b c : Nat} {l' : LocS} {lk' : Option Nat}
    (hs : s' = { s with jobs := upd s.jobs r { s.jobs r with status := a, frags := b, current := c },
                        loc := upd s.loc t l', lock := lk' })
    (hin : s.table i = some r) (hlk : LockStep t s.lock lk') (hout : OutOK s.nJobs l'.out)
    (hH : lk' = some t → HoldsS K l'.pc) (hK : KindOKS s' t l' K) : StepOK prog s s' := by
  have tk := h.tab i r hin
  have hr := tk.lt
  have hc := tk.isOpen
  have hJ := h.jobs r hr
  refine invS_frame_write hk h h0 hs (.inl ⟨hr, rfl⟩) (hlk.elim (fun e => .inl ⟨e, rfl⟩) .inr) (tabStep_refl _ _)
    (fun _ => ⟨fun _ e => (nomatch tk.free.symm.trans e), jobLe_of_open hJ.ok hc rfl⟩) (jobOKS_open hc (hJ.of_open hc))
    (fun i' r' hi' => ?_) (h.res r · hr) hout hH hK
  by_cases e : r' = r
  · exact .inr ⟨e, e ▸ (h.tab i' r' hi').id, hc, tk.notNil, tk.free, tk.noResult, tk.noErr⟩
  · exact .inl ⟨e, hi'⟩

/-- the step deletes Job `r` from the table and makes `t` its owner (lock free or `t`'s) -/
theorem invS_frame_take {i r : Nat} {l' : LocS}
    (hs : s' = { s with table := upd s.table i none, count := s.count - 1,
                        jobs := upd s.jobs r { s.jobs r with owner := some t }, loc := upd s.loc t l' })
    (hin : s.table i = some r) (hlk : s.lock = none ∨ s.lock = some t) (hout : OutOK s.nJobs l'.out)
    (hH : s.lock = some t → HoldsS K l'.pc) (hK : KindOKS s' t l' K) : StepOK prog s s' := by
  have tk := h.tab i r hin
  have hr := tk.lt
  refine invS_frame_write hk h h0 hs (.inl ⟨hr, rfl⟩) (.inr ⟨hlk, hlk⟩) (.inr (.inr ⟨i, r, hin, rfl, rfl⟩))
    (fun _ => ⟨fun t' e => (nomatch tk.free.symm.trans e), jobLe_refl _⟩) (h.jobs r hr) (fun i' r' hi' => ?_)
    (fun g hg => nomatch tk.noResult.symm.trans hg) hout hH hK
  -- an entry that is left belongs to another Job, since `r` carries the number `i`
  have ne : i' ≠ i := fun e => by rw [e, upd_same] at hi'; cases hi'
  rw [upd_other _ _ _ _ ne] at hi'
  exact .inl ⟨fun e => ne (by rw [← (h.tab i' r' hi').id, e, tk.id]), hi'⟩

end Shapes

end XMT.JobSub
