/- Lemmas about the CBK block cipher model (XMT.Cbk): the block transform of `flushOutput` is undone
by the one of `readInput`, and neither panics — the latter on arbitrary bytes. -/
import XMT.Cbk
namespace XMT.Cbk

theorem pack {a b : Nat} (ha : a < 16) (hb : b < 16) : a <<< 4 % 2 ^ 8 ||| b = 16 * a + b := by
  rw [Nat.mod_eq_of_lt (by rw [Nat.shiftLeft_eq]; omega), ← Nat.shiftLeft_add_eq_or_of_lt hb,
    Nat.shiftLeft_eq]
  omega

theorem and15 (a : Nat) : a &&& 15 = a % 16 := Nat.and_two_pow_sub_one_eq_mod a 4

/-- `nibA` packs the low nibbles of its arguments, `nibB` the high ones: all that the identities
below rest on. -/
theorem nibA_toNat (x y : UInt8) : (nibA x y).toNat = 16 * (x.toNat % 16) + y.toNat % 16 := by
  simp only [nibA, UInt8.toNat_or, UInt8.toNat_and, UInt8.toNat_shiftLeft]
  show (x.toNat &&& 15) <<< 4 % 2 ^ 8 ||| (y.toNat &&& 15) = _
  rw [and15, and15, pack (Nat.mod_lt _ (by decide)) (Nat.mod_lt _ (by decide))]

theorem nibB_toNat (x y : UInt8) : (nibB x y).toNat = 16 * (x.toNat / 16) + y.toNat / 16 := by
  have := x.toNat_lt
  have := y.toNat_lt
  simp only [nibB, UInt8.toNat_or, UInt8.toNat_and, UInt8.toNat_shiftLeft, UInt8.toNat_shiftRight]
  show (x.toNat >>> 4) <<< 4 % 2 ^ 8 ||| (y.toNat >>> 4 &&& 15) = _
  rw [and15, Nat.shiftRight_eq_div_pow, Nat.shiftRight_eq_div_pow,
    pack (by omega) (Nat.mod_lt _ (by decide))]
  omega

theorem nibA_invol (x y : UInt8) : nibA (nibB x y) (nibA x y) = y := by
  have := y.toNat_lt
  rw [← UInt8.toNat_inj]; simp only [nibA_toNat, nibB_toNat]; omega
theorem nibB_invol (x y : UInt8) : nibB (nibB x y) (nibA x y) = x := by
  have := x.toNat_lt
  have := y.toNat_lt
  rw [← UInt8.toNat_inj]; simp only [nibA_toNat, nibB_toNat]; omega
/-- The identities `nibStep_comm` needs where the two exchanges share a byte (`g = h+1` or `h = g+1`):
`nibA` reads only the low nibbles of its arguments and `nibB` only the high ones, so each sees through
a result of the other. -/
theorem nib_c1 (x y z : UInt8) : nibA z (nibB x y) = nibB (nibA z x) y := by
  have := y.toNat_lt
  rw [← UInt8.toNat_inj]; simp only [nibA_toNat, nibB_toNat]; omega
theorem nib_c2 (x y z : UInt8) : nibB z (nibB x y) = nibB z x := by
  have := x.toNat_lt
  have := y.toNat_lt
  rw [← UInt8.toNat_inj]; simp only [nibB_toNat]; omega
theorem nib_c3 (x y z : UInt8) : nibA (nibA z x) y = nibA x y := by
  rw [← UInt8.toNat_inj]; simp only [nibA_toNat]; omega

theorem nibStep_eq {h g : Nat} {b : Bytes} (hh : h < b.length) (hg : g < b.length) :
    nibStep h g b = some ((b.set h (nibA b[g] b[h])).set g (nibB b[g] b[h])) := by
  simp [nibStep, List.getElem?_eq_getElem hh, List.getElem?_eq_getElem hg]

theorem pairSwap_eq {g h : Nat} {b : Bytes} (hg : 2*g+1 < b.length) (hh : 2*h+1 < b.length) :
    pairSwap g h b =
      some ((((b.set (2*g) b[2*h]).set (2*g+1) b[2*h+1]).set (2*h) b[2*g]).set (2*h+1) b[2*g+1]) := by
  have h0 : 2*g < b.length := by omega
  have h1 : 2*h < b.length := by omega
  simp [pairSwap, List.getElem?_eq_getElem hg, List.getElem?_eq_getElem hh,
    List.getElem?_eq_getElem h0, List.getElem?_eq_getElem h1]

theorem nibStep_invol {h g : Nat} {b : Bytes} (hne : h ≠ g) (hh : h < b.length) (hg : g < b.length) :
    ∃ b', nibStep h g b = some b' ∧ b'.length = b.length ∧ nibStep h g b' = some b := by
  refine ⟨_, nibStep_eq hh hg, by simp, ?_⟩
  rw [nibStep_eq (by simpa using hh) (by simpa using hg)]
  congr 1
  apply List.ext_getElem?
  intro i
  simp only [List.getElem?_set, List.getElem_set, List.length_set]
  -- entry by entry: `i = g`, `i = h` (the two nibble identities) or neither (untouched)
  grind [nibA_invol, nibB_invol]

theorem pairSwap_invol {g h : Nat} {b : Bytes} (hne : g ≠ h) (hg : 2*g+1 < b.length) (hh : 2*h+1 < b.length) :
    ∃ b', pairSwap g h b = some b' ∧ b'.length = b.length ∧ pairSwap g h b' = some b := by
  refine ⟨_, pairSwap_eq hg hh, by simp, ?_⟩
  rw [pairSwap_eq (by simpa using hg) (by simpa using hh)]
  congr 1
  apply List.ext_getElem?
  intro i
  simp only [List.getElem?_set, List.getElem_set, List.length_set]
  -- entry by entry: `i` is one of the four positions `2g`, `2g+1`, `2h`, `2h+1` (distinct, as `g ≠ h`) or none
  grind

/-- The two nibble exchanges of a round act on different nibbles, so they commute (even when
they share a byte, i.e. `g = h+1` or `h = g+1`). -/
theorem nibStep_comm {h g : Nat} {b : Bytes} (hne : h ≠ g) (hh : h + 1 < b.length) (hg : g + 1 < b.length) :
    (nibStep h g b).bind (nibStep (h+1) (g+1)) = (nibStep (h+1) (g+1) b).bind (nibStep h g) := by
  rw [nibStep_eq (by omega) (by omega), nibStep_eq hh hg, Option.bind_some, Option.bind_some,
    nibStep_eq (by simpa using hh) (by simpa using hg),
    nibStep_eq (by simp; omega) (by simp; omega)]
  congr 1
  apply List.ext_getElem?
  intro i
  simp only [List.getElem?_set, List.getElem_set, List.length_set]
  -- entry by entry: which of `h`, `h+1`, `g`, `g+1` the position `i` is; where two of them coincide the
  -- byte is written by both exchanges, and `nib_c1`–`nib_c3` say the two orders give the same byte
  grind [nib_c1, nib_c2, nib_c3]

/-- One round of `scramble(…, true)` undoes the same round of `scramble(…, false)`.  With `N₁`, `N₂`
the two nibble exchanges and `P` the pair swap, the rounds are `P N₂ N₁` and `N₂ N₁ P`: each of the
three is an involution, and `N₁`, `N₂` commute. -/
theorem round_inv {g h : Nat} {b : Bytes} (hg : g < 8) (hh : h < 8) (hl : 16 ≤ b.length) :
    ∃ b', encRound g h b = some b' ∧ b'.length = b.length ∧ decRound g h b' = some b := by
  unfold encRound decRound
  by_cases e : g = h
  · simp [e]
  · have hne : h ≠ g := fun x => e x.symm
    obtain ⟨b1, e1, l1, i1⟩ := nibStep_invol (b := b) hne (by omega) (by omega)
    obtain ⟨b2, e2, l2, -⟩ := nibStep_invol (h := h+1) (g := g+1) (b := b1) (by omega) (by omega) (by omega)
    obtain ⟨b3, e3, l3, i3⟩ := pairSwap_invol (b := b2) e (by omega) (by omega)
    obtain ⟨c, ec, -, ic⟩ := nibStep_invol (h := h+1) (g := g+1) (b := b) (by omega) (by omega) (by omega)
    have c12 := nibStep_comm (b := b1) hne (by omega) (by omega)
    rw [e2, i1, Option.bind_some, Option.bind_some, ec] at c12
    exact ⟨b3, by simp [e, e1, e2, e3], by omega, by simp [e, i3, ← c12, ic]⟩

theorem decRound_total {g h : Nat} {b : Bytes} (hg : g < 8) (hh : h < 8) (hl : 16 ≤ b.length) :
    ∃ b', decRound g h b = some b' ∧ b'.length = b.length := by
  unfold decRound
  by_cases e : g = h
  · simp [e]
  · have hne : h ≠ g := fun x => e x.symm
    obtain ⟨b1, e1, l1, -⟩ := pairSwap_invol (b := b) e (by omega) (by omega)
    obtain ⟨b2, e2, l2, -⟩ := nibStep_invol (b := b1) hne (by omega) (by omega)
    obtain ⟨b3, e3, l3, -⟩ := nibStep_invol (h := h+1) (g := g+1) (b := b2) (by omega) (by omega) (by omega)
    exact ⟨b3, by simp [e, e1, e2, e3], by omega⟩

theorem shuffle_length (k : Key) (b : Bytes) : (shuffle k b).length = b.length := by
  unfold shuffle; split <;> simp

theorem deshuffle_length (k : Key) (b : Bytes) : (deshuffle k b).length = b.length := by
  unfold deshuffle; split <;> simp

/-- `UInt8` addition wraps around, and subtraction still undoes it: in `deshuffle_shuffle` for the two
constants added to the head, in `unsubst_subst` for the table entry added on the left. -/
theorem add_add_sub_sub (v a s : UInt8) : v + a + s - a - s = v := by
  rw [UInt8.add_assoc, UInt8.add_comm a s, ← UInt8.add_assoc, UInt8.add_sub_cancel,
    UInt8.add_sub_cancel]

theorem add_sub_cancel_left (t v : UInt8) : t + v - t = v := by
  rw [UInt8.add_comm, UInt8.add_sub_cancel]

theorem deshuffle_shuffle (k : Key) (b : Bytes) : deshuffle k (shuffle k b) = b := by
  apply List.ext_getElem (by rw [deshuffle_length, shuffle_length])
  intro i h1 h2
  have hl : (shuffle k b).length = b.length := shuffle_length k b
  unfold deshuffle
  by_cases h : b.length > 1
  · simp only [hl, h, if_true, List.getElem_mapIdx, List.getElem_modifyHead]
    unfold shuffle
    simp only [h, if_true, List.getElem_mapIdx, List.getElem_modifyHead]
    split
    · rename_i h0; subst h0
      simp only [dite_true, add_add_sub_sub]
    · exact UInt8.add_sub_cancel _ _
  · simp only [hl, h, if_false, List.getElem_mapIdx]
    unfold shuffle
    simp only [h, if_false, List.getElem_mapIdx]
    exact UInt8.add_sub_cancel _ _

theorem unsubst_subst (k : Key) (index : UInt8) (b : Bytes) : unsubst k index (subst k index b) = b := by
  apply List.ext_getElem (by simp [unsubst, subst])
  intro i h1 h2
  simp only [unsubst, subst, List.getElem_mapIdx]
  exact add_sub_cancel_left _ _

theorem subst_length (k : Key) (index : UInt8) (b : Bytes) : (subst k index b).length = b.length := by
  simp [subst]

theorem unsubst_length (k : Key) (index : UInt8) (b : Bytes) : (unsubst k index b).length = b.length := by
  simp [unsubst]

theorem cdiv_some {x y : UInt16} (h : y ≠ 0) : cdiv x y = some (x / y) := by simp [cdiv, h]

theorem u16_ne_zero {y : UInt16} (h : y.toNat ≠ 0) : y ≠ 0 := by
  intro e; rw [e] at h; exact h rfl

theorem t1_ne_zero {t : UInt16} {v : Nat} (h : (t % 8).toNat = v) (hv : v ≠ 7) : t + 1 ≠ 0 := by
  apply u16_ne_zero
  simp [UInt16.toNat_add, UInt16.toNat_mod] at h ⊢
  omega

theorem div_add6_ne_zero (x y : UInt16) (hy : 7 ≤ y.toNat) : x / y + 6 ≠ 0 := by
  apply u16_ne_zero
  have hx := UInt16.toNat_lt x
  have hd : x.toNat / y.toNat ≤ x.toNat / 7 := Nat.div_le_div_left hy (by omega)
  have e6 : (6 : UInt16).toNat = 6 := by decide
  rw [UInt16.toNat_add, UInt16.toNat_div, e6]
  generalize x.toNat / y.toNat = q at *
  omega

theorem blockIndex_true_some (k : Key) (t i : UInt16) (hi : i.toNat < 65535) :
    ∃ v, blockIndex k true t i = some v := by
  have hi1 : i + 1 ≠ 0 := by
    apply u16_ne_zero; simp [UInt16.toNat_add]; omega
  unfold blockIndex
  split
  case h_6 h _ => simp [cdiv_some (t1_ne_zero h (by decide))]
  case h_7 h _ => simp [cdiv_some (t1_ne_zero h (by decide)), cdiv_some hi1]
  case h_8 h _ => simp [cdiv_some hi1]
  all_goals first | contradiction | exact ⟨_, rfl⟩

theorem blockIndex_false_some (k : Key) (t i : UInt16) : ∃ v, blockIndex k false t i = some v := by
  unfold blockIndex
  split
  case h_9 h _ => simp [cdiv_some (t1_ne_zero h (by decide))]
  case h_11 h _ =>
    have h5 : (5 + t).toNat % 8 = 7 := by
      simp [UInt16.toNat_add, UInt16.toNat_mod] at h ⊢
      omega
    have ht : 5 + t ≠ 0 := by apply u16_ne_zero; omega
    have hq := div_add6_ne_zero (i + 3) (5 + t) (by omega)
    simp [cdiv_some ht, cdiv_some hq]
  case h_13 h _ =>
    have ht : 3 + t ≠ 0 := by
      apply u16_ne_zero
      simp [UInt16.toNat_add, UInt16.toNat_mod] at h ⊢
      omega
    simp [cdiv_some ht]
  all_goals first | contradiction | exact ⟨_, rfl⟩

theorem gh_some (k : Key) (index : UInt8) (i : Nat) :
    ∃ g h, gh k index i = some (g, h) ∧ g.toNat < 8 ∧ h.toNat < 8 := by
  unfold gh
  have hi : (u16 k.d + u16 index).toNat < 65535 := by
    have h1 := UInt8.toNat_lt k.d
    have h2 := UInt8.toNat_lt index
    simp [u16, UInt16.toNat_add]
    omega
  rcases hx : xyz k index with ⟨x, y, z⟩
  obtain ⟨bg, e1⟩ := blockIndex_true_some k (u16 (k.d*k.a) + UInt16.ofNat i + x) (u16 k.d + u16 index) hi
  obtain ⟨bh, e2⟩ := blockIndex_false_some k (y + u16 k.d + u16 (index * UInt8.ofNat (i+1)))
    (u16 k.d + x + u16 (u8 (UInt16.ofNat i * z) * k.a))
  refine ⟨(u8 (z*y) + bg) % 8, (u8 y - bh) % 8, ?_, ?_, ?_⟩
  · simp only [e1, e2, Option.bind_eq_bind, Option.bind_some]
  · simp [UInt8.toNat_mod]; omega
  · simp [UInt8.toNat_mod]; omega

theorem scrambleRounds_cons {k : Key} {index : UInt8} {d : Bool} {b : Bytes} {i : Nat} {is : List Nat}
    {g h : UInt8} (e : gh k index i = some (g, h)) :
    scrambleRounds k index d b (i :: is) =
      (if d then decRound g.toNat h.toNat b else encRound g.toNat h.toNat b).bind
        fun b' => scrambleRounds k index d b' is := by
  simp only [scrambleRounds, e, Option.bind_eq_bind, Option.bind_some]
  cases d <;> rfl

theorem scrambleRounds_append (k : Key) (index : UInt8) (d : Bool) (b : Bytes) (xs ys : List Nat) :
    scrambleRounds k index d b (xs ++ ys) =
      (scrambleRounds k index d b xs).bind fun b' => scrambleRounds k index d b' ys := by
  induction xs generalizing b with
  | nil => rfl
  | cons x xs ih =>
    obtain ⟨g, h, e, _⟩ := gh_some k index x
    rw [List.cons_append, scrambleRounds_cons e, scrambleRounds_cons e, Option.bind_assoc]
    exact Option.bind_congr fun b' _ => ih b'

theorem scrambleRounds_inv (k : Key) (index : UInt8) (is : List Nat) (b : Bytes) (hl : 16 ≤ b.length) :
    ∃ b', scrambleRounds k index false b is = some b' ∧ b'.length = b.length ∧
      scrambleRounds k index true b' is.reverse = some b := by
  induction is generalizing b with
  | nil => exact ⟨b, rfl, rfl, rfl⟩
  | cons i is ih =>
    obtain ⟨g, h, e, hg, hh⟩ := gh_some k index i
    obtain ⟨b1, e1, l1, d1⟩ := round_inv (b := b) hg hh hl
    obtain ⟨b2, e2, l2, d2⟩ := ih b1 (by omega)
    refine ⟨b2, ?_, by omega, ?_⟩
    · rw [scrambleRounds_cons e]; simp [e1, e2]
    · rw [List.reverse_cons, scrambleRounds_append, d2, Option.bind_some, scrambleRounds_cons e]
      simp [d1, scrambleRounds]

theorem scramble_inv (k : Key) (index : UInt8) (b : Bytes) (hl : 16 ≤ b.length) :
    ∃ b', scramble k index false b = some b' ∧ b'.length = b.length ∧
      scramble k index true b' = some b :=
  scrambleRounds_inv k index [0,1,2,3,4,5] b hl

theorem scrambleRounds_dec_total (k : Key) (index : UInt8) (is : List Nat) (b : Bytes)
    (hl : 16 ≤ b.length) :
    ∃ b', scrambleRounds k index true b is = some b' ∧ b'.length = b.length := by
  induction is generalizing b with
  | nil => exact ⟨b, rfl, rfl⟩
  | cons i is ih =>
    obtain ⟨g, h, e, hg, hh⟩ := gh_some k index i
    obtain ⟨b1, e1, l1⟩ := decRound_total (b := b) hg hh hl
    obtain ⟨b2, e2, l2⟩ := ih b1 (by omega)
    exact ⟨b2, by rw [scrambleRounds_cons e]; simp [e1, e2], by omega⟩

theorem decBlock_encBlock (k : Key) (index : UInt8) (b : Bytes) (hl : 16 ≤ b.length) :
    ∃ c, encBlock k index b = some c ∧ c.length = b.length ∧ decBlock k index c = some b := by
  obtain ⟨s, e1, l, e2⟩ := scramble_inv k index (subst k index b) (by rw [subst_length]; exact hl)
  refine ⟨shuffle k s, by simp [encBlock, e1], ?_, ?_⟩
  · rw [shuffle_length, l, subst_length]
  · simp [decBlock, deshuffle_shuffle, e2, unsubst_subst]

theorem decBlock_total (k : Key) (index : UInt8) (b : Bytes) (hl : 16 ≤ b.length) :
    ∃ c, decBlock k index b = some c ∧ c.length = b.length := by
  obtain ⟨s, e, l⟩ := scrambleRounds_dec_total k index [5,4,3,2,1,0] (deshuffle k b)
    (by rw [deshuffle_length]; exact hl)
  refine ⟨unsubst k index s, by simp [decBlock, scramble, e], ?_⟩
  rw [unsubst_length, l, deshuffle_length]

end XMT.Cbk
