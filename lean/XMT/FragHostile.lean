/-
  XMT.FragHostile — the fragment dispatcher (c2/vars.go receive, FlagFrag arm; c2/types.go
  cluster.add / cluster.done) as a hostile peer drives it: ANY sequence of fragment packets, not
  only those a sender's `write` produces.  The index expressions of the Go code (`c.data[0]` in
  `add`, `c.data[0]` after the sort in `done`) are evaluated as Go does: on an empty slice they are
  a run-time panic, a value of the result type here.  `XMT.Frag` (validated against the code for
  C02) is the panic-free reading of the same functions; the theorems of this file show the two
  coincide, i.e. that no reachable index expression is out of range (`recvAllP_ok`), and bound the
  state kept: a fragment map with distinct keys holds at most one fragment more per arrival
  (`recvAll_held`).  The facts about maps with distinct keys used for that are in `FragMap`.
-/
import XMT.FragMap

namespace XMT.FragHostile
open XMT.Frag

inductive R (α : Type)
  | ok (a : α)
  | panic
  deriving Repr, DecidableEq

/-- Go `c.data[0]` -/
def idx0 (l : List Pkt) : R Pkt :=
  match l with
  | [] => .panic
  | x :: _ => .ok x

/-- the part of `cluster.add` after the `Belongs` test -/
def store (c : Cluster) (p : Pkt) : Cluster :=
  let mx := (Flag.len p.flags + 2^16 - 1) % 2^16
  if p.payload.isEmpty then { c with c := Facts.fragMaxMisses, max := mx, e := (c.e + 1) % 2^16 }
  else { c with c := Facts.fragMaxMisses, max := mx, data := c.data ++ [p] }

/-- `cluster.add(p)`: `if len(c.data) > 0 && !c.data[0].Belongs(p) { return err }` -/
def addP (c : Cluster) (p : Pkt) : R (Option Cluster) :=
  if c.data.length > 0 then
    match idx0 c.data with
    | .panic => .panic
    | .ok d0 => if ¬ belongs d0 p then .ok none else .ok (some (store c p))
  else .ok (some (store c p))

/-- `cluster.done()`: `if len(c.data) == 0 { return nil }`, then the completion test, then
`sort.Sort(c); n := c.data[0]; for x := 1; x < len(c.data); x++ { n.Add(c.data[x]) }` -/
def doneP (c : Cluster) : R (Option Pkt) :=
  if c.data.length = 0 then .ok none
  else if (c.data.length % 2^16 + c.e) % 2^16 > c.max then
    match idx0 (sortByPos c.data) with
    | .panic => .panic
    | .ok n =>
      let n := ((sortByPos c.data).drop 1).foldl addTo n
      .ok (some { n with flags := Flag.clear n.flags })
  else .ok none

/-- the per-group part of the `FlagFrag` arm of `receive` -/
def recvGroupP (c : Option Cluster) (n : Pkt) : R (Option Cluster × Out) :=
  match c with
  | none =>
    if Flag.position n.flags > 0 then .ok (none, .dropReply)
    else
      match addP Cluster.new n with
      | .panic => .panic
      | .ok none => .ok (some Cluster.new, .errMismatch)
      | .ok (some c) =>
        match doneP c with
        | .panic => .panic
        | .ok (some v) => .ok (none, .deliver v)
        | .ok none => .ok (some c, .stored)
  | some c0 =>
    match addP c0 n with
    | .panic => .panic
    | .ok none => .ok (some c0, .errMismatch)
    | .ok (some c) =>
      match doneP c with
      | .panic => .panic
      | .ok (some v) => .ok (none, .deliver v)
      | .ok none => .ok (some c, .stored)

def recvFragP (fs : Frags) (n : Pkt) : R (Frags × Out) :=
  if n.id.toNat = Facts.svDrop ∨ n.id.toNat = Facts.svRegister then .ok (fs, .control)
  else if Flag.len n.flags = 0 then .ok (fs, .errCount)
  else if Flag.len n.flags = 1 then .ok (fs, .deliver { n with flags := Flag.clear n.flags })
  else
    match recvGroupP (fs.find (Flag.group n.flags)) n with
    | .panic => .panic
    | .ok r => .ok (fs.put (Flag.group n.flags) r.1, r.2)

/-- a whole connection history: the fragments a peer sends, one after the other -/
def recvAllP (fs : Frags) : List Pkt → R (Frags × List Out)
  | [] => .ok (fs, [])
  | n :: ns =>
    match recvFragP fs n with
    | .panic => .panic
    | .ok r =>
      match recvAllP r.1 ns with
      | .panic => .panic
      | .ok rs => .ok (rs.1, r.2 :: rs.2)

/-! `cluster.done` as seeded change C04-1 has it: the witness that the panic value is reachable in
this model when the emptiness guard is folded into the count test -/

def doneFolded (c : Cluster) : R (Option Pkt) :=
  let t := (c.data.length % 2^16 + c.e) % 2^16
  if t = 0 ∨ t ≤ c.max then .ok none
  else
    match idx0 (sortByPos c.data) with
    | .panic => .panic
    | .ok n =>
      let n := ((sortByPos c.data).drop 1).foldl addTo n
      .ok (some { n with flags := Flag.clear n.flags })

theorem addP_ok (c : Cluster) (p : Pkt) : addP c p = .ok (c.add p) := by
  rw [Cluster.add_eq]
  obtain ⟨data, mx, e, k⟩ := c
  cases data with
  | nil => rfl
  | cons d0 ds =>
    simp only [addP, idx0, List.length_cons, Nat.zero_lt_succ, if_true, List.head?_cons, Option.all_some]
    cases belongs d0 p <;> rfl

theorem doneP_ok (c : Cluster) : doneP c = .ok c.done := by
  rw [Cluster.done_eq]
  obtain ⟨data, mx, e, k⟩ := c
  cases data with
  | nil => simp only [doneP, List.length_nil, if_true, sortByPos]; split <;> rfl
  | cons d0 ds =>
    simp only [doneP, List.length_cons, Nat.succ_ne_zero, if_false]
    cases hs : sortByPos (d0 :: ds) with
    | nil => exact absurd hs (sortByPos_ne _ (List.cons_ne_nil _ _))
    | cons n rest => simp only [idx0, List.drop_succ_cons, List.drop_zero]; split <;> rfl

theorem recvGroupP_ok (c : Option Cluster) (n : Pkt) : recvGroupP c n = .ok (recvGroup c n) := by
  have hsome : ∀ c0 : Cluster, recvGroupP (some c0) n = .ok (recvGroup (some c0) n) := by
    intro c0
    simp only [recvGroupP, recvGroup, addP_ok]
    cases c0.add n with
    | none => rfl
    | some c1 => simp only [doneP_ok]; cases c1.done <;> rfl
  cases c with
  | some c0 => exact hsome c0
  | none =>
    have : recvGroupP none n = if Flag.position n.flags > 0 then .ok (none, .dropReply)
        else recvGroupP (some Cluster.new) n := rfl
    rw [this, recvGroup_none, hsome]
    split <;> rfl

theorem recvFragP_ok (fs : Frags) (n : Pkt) : recvFragP fs n = .ok (recvFrag fs n) := by
  simp only [recvFragP, recvFrag, recvGroupP_ok]
  repeat' split
  all_goals rfl

theorem recvAllP_ok : ∀ (ns : List Pkt) (fs : Frags), recvAllP fs ns = .ok (recvAll fs ns)
  | [], fs => rfl
  | n :: ns, fs => by
    unfold recvAllP recvAll
    rw [recvFragP_ok]
    simp only
    rw [recvAllP_ok ns]

/-- the cluster a fragment leaves behind holds at most one fragment more than before -/
theorem recvGroup_len (c : Option Cluster) (n : Pkt) :
    (((recvGroup c n).1).map (·.data.length)).getD 0 ≤ ((c.map (·.data.length)).getD 0) + 1 := by
  rcases recvGroup_cases c n with h | ⟨_, h⟩ | ⟨c1, ha, h⟩ <;> rw [h]
  · exact Nat.zero_le _
  · cases c <;> simp [Cluster.new]
  · have := (Cluster.add_some ha).2
    cases c <;> simpa [Cluster.new] using this

theorem recvFrag_held (fs : Frags) (n : Pkt) (hn : (keys fs).Nodup) :
    held (recvFrag fs n).1 ≤ held fs + 1 := by
  rcases recvFrag_cases fs n with h | h <;> rw [h]
  · exact Nat.le_succ _
  · have h1 := held_put fs (Flag.group n.flags) (recvGroup (fs.find (Flag.group n.flags)) n).1 hn
    have h2 := recvGroup_len (fs.find (Flag.group n.flags)) n
    unfold heldAt at h1
    omega

theorem recvAll_held : ∀ (ns : List Pkt) (fs : Frags), (keys fs).Nodup →
    held (recvAll fs ns).1 ≤ held fs + ns.length
  | [], fs, _ => Nat.le_refl _
  | n :: ns, fs, hn => by
    have h1 := recvFrag_held fs n hn
    have h2 := recvAll_held ns (recvFrag fs n).1 (keys_recvFrag_nodup fs n hn)
    simp only [recvAll, List.length_cons]
    omega

end XMT.FragHostile
