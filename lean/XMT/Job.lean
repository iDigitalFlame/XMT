/-
  XMT.Job — executable interleaving model of the Job life cycle of one server-side Session
  (c2/job.go: Cancel, Wait, IsDone;  c2/session_no_implant.go: Task, newJobID, handle, accept, frag).

  Granularity (DESIGN §4 "Concurrency"): a thread is a sequence of atomic actions; a region under
  `s.lock` is ONE action, every unsynchronised access to `j.done` / `j.Status` outside the lock is
  its own action (load and store separately).  The program counter `pc` names the action a thread
  executes next; the yield labels of the instrumented real code (lib/props/C14.json "rewrites")
  delimit exactly these actions (`labelF`).

  Two step functions:
    `stepF`  — the code as repaired by the `fix:` commits (what the theorems are about);
    `stepO`  — the code before the repairs (only used for the machine-checked witnesses of the
               defects, `XMT/Props/C14.lean` section "negations").
  Core only (the driver is a compiled lean_exe).
-/
import XMT.Generated.Facts
namespace XMT.Job

/-! ### constants (regenerated from the source on every run) -/
def stWaiting   : Nat := Facts.c14StatusWaiting
def stAccepted  : Nat := Facts.c14StatusAccepted
def stReceiving : Nat := Facts.c14StatusReceiving
def stCompleted : Nat := Facts.c14StatusCompleted
def stError     : Nat := Facts.c14StatusError
def stCanceled  : Nat := Facts.c14StatusCanceled
def idTries     : Nat := Facts.c14JobIdTries
def idMinExcl   : Nat := Facts.c14JobIdMinExcl
def handleMin   : Nat := Facts.c14HandleMinJob
def acceptMin   : Nat := Facts.c14AcceptMinJob
def fragMin     : Nat := Facts.c14FragMinJob

/-- point update of a function (Go map / heap / thread-local store) -/
def upd {α : Type} (f : Nat → α) (i : Nat) (v : α) : Nat → α := fun k => if k = i then v else f k

@[simp] theorem upd_same {α : Type} (f : Nat → α) (i : Nat) (v : α) : upd f i v i = v := if_pos rfl
theorem upd_apply {α : Type} (f : Nat → α) (i : Nat) (v : α) (k : Nat) :
    upd f i v k = if k = i then v else f k := rfl
theorem upd_other {α : Type} (f : Nat → α) (i : Nat) (v : α) (k : Nat) (h : k ≠ i) :
    upd f i v k = f k := if_neg h
theorem upd_self {α : Type} (f : Nat → α) (i : Nat) : upd f i (f i) = f :=
  funext fun _ => ite_eq_right_iff.2 fun e => e ▸ rfl

/-- an entry of the table that is neither the one written nor the one overwritten -/
theorem upd_eq_some_iff {f : Nat → Option Nat} {i k r : Nat} {x : Option Nat} (hf : f i ≠ some r) (hx : x ≠ some r) :
    upd f i x k = some r ↔ f k = some r := by
  rw [upd_apply]; split
  · rename_i e; subst e; exact ⟨fun a => absurd a hx, fun a => absurd a hf⟩
  · exact Iff.rfl

/-- A finishing event. -/
inductive Ev | completed | error | canceled
deriving DecidableEq, Repr, Inhabited

def Ev.status : Ev → Nat
  | .completed => stCompleted
  | .error => stError
  | .canceled => stCanceled

/-- finishing event of a result packet (`p.Flags & FlagError`) -/
def evOf (ef : Bool) : Ev := if ef then .error else .completed

/-- One `Job` object. `closes`, `first`, `owner` are ghost fields (not in the Go struct):
`closes` counts successful `close(j.done)`, `first` is the event whose `close` released the
waiters, `owner` the handle-thread that took the Job out of the pending table. -/
structure JobSt where
  id : Nat := 0
  status : Nat := 0
  doneNil : Bool := false      -- the field `j.done` is nil
  closed : Bool := false       -- the channel made by Task is closed
  closes : Nat := 0
  first : Option Ev := none
  owner : Option Nat := none
  result : Option Nat := none  -- tag of the packet stored in `j.Result`
  err : Bool := false          -- `len(j.Error) > 0`
  frags : Nat := 0
  current : Nat := 0
deriving Inhabited

/-- What a thread returned (or how it died). -/
inductive Out
  | none
  | job (r : Nat)   -- Task returned Job object r
  | errNoId         -- Task: "cannot assign a Job ID"
  | errDup          -- Task: "job already registered"
  | errWrite        -- Task: write failed (ErrFullBuffer)
  | handled         -- handle returned true
  | ignored         -- handle returned false
  | ret             -- Cancel / Wait / accept / frag returned
  | bool (b : Bool) -- IsDone
  | panicClosed     -- close of closed channel
  | panicNil        -- close of nil channel
deriving DecidableEq, Repr, Inhabited

def Out.isPanic : Out → Bool
  | .panicClosed => true
  | .panicNil => true
  | _ => false

theorem Out.isPanic_eq_false {o : Out} : o.isPanic = false ↔ o ≠ .panicClosed ∧ o ≠ .panicNil := by
  cases o <;> simp [Out.isPanic]

/-- thread-local state -/
structure Loc where
  pc : Nat := 0
  n : Nat := 0                 -- Task: n.Job
  ref : Option Nat := none     -- handle / accept / frag: the local `j`
  out : Out := .none
deriving Inhabited

/-- pc of a finished thread -/
def fin : Nat := 99

/-- Thread programs. `task 0 draws wf` asks newJobID (PRNG draws scripted); `wf` = the send queue
is full (s.write fails). `cancel k` / `wait k` / `isDone k` act on the Job returned by thread k. -/
inductive Kind
  | task (id : Nat) (draws : List Nat) (wf : Bool)
  | result (id : Nat) (ef : Bool) (tag : Nat)
  | cancel (k : Nat)
  | wait (k : Nat)
  | isDone (k : Nat)
  | accept (id : Nat)
  | frag (id mx cur : Nat)
deriving Repr, Inhabited

structure St where
  jobs : Nat → JobSt := fun _ => {}
  nJobs : Nat := 0
  table : Nat → Option Nat := fun _ => none   -- s.jobs : job number ↦ Job object
  count : Nat := 0                            -- len(s.jobs)
  loc : Nat → Loc := fun _ => {}
  lockHeld : Bool := false                    -- a thread died inside a locked region
  pub : List Nat := []                        -- job numbers of the packets queued by s.write

instance : Inhabited St := ⟨{}⟩

/-! ### id allocation (newJobID) -/

/-- `for ; c < 512; c++ { i = uint16(FastRand()); if _, ok = s.jobs[i]; !ok && i > 1 { return i } }; return 0` -/
def newJobIDGo (table : Nat → Option Nat) : List Nat → Nat
  | [] => 0
  | d :: ds =>
    let i := d % 65536
    if table i = none ∧ i > idMinExcl then i else newJobIDGo table ds

def newJobID (table : Nat → Option Nat) (draws : List Nat) : Nat :=
  newJobIDGo table (draws.take idTries)

theorem newJobIDGo_fresh (table : Nat → Option Nat) (ds : List Nat) :
    newJobIDGo table ds = 0 ∨
    (idMinExcl < newJobIDGo table ds ∧ newJobIDGo table ds < 65536 ∧ table (newJobIDGo table ds) = none) := by
  induction ds with
  | nil => exact .inl rfl
  | cons d ds ih =>
    unfold newJobIDGo
    simp only
    split
    · rename_i h
      exact .inr ⟨h.2, Nat.mod_lt _ (by decide), h.1⟩
    · exact ih

/-! ### helpers -/

def setLoc (s : St) (t : Nat) (l : Loc) : St := { s with loc := upd s.loc t l }
def setJob (s : St) (r : Nat) (j : JobSt) : St := { s with jobs := upd s.jobs r j }
def finish (s : St) (t : Nat) (o : Out) : St := setLoc s t { s.loc t with pc := fin, out := o }
def goto (s : St) (t : Nat) (pc : Nat) : St := setLoc s t { s.loc t with pc := pc }

theorem setJob_self (s : St) (r : Nat) : setJob s r (s.jobs r) = s := by rw [setJob, upd_self]

/-- The Job a `cancel k`/`wait k`/`isDone k` thread acts on: `none` = thread k has not returned yet
(the thread cannot start), `some none` = k returned no Job (nil receiver), `some (some r)`. -/
def jobOf (s : St) (k : Nat) : Option (Option Nat) :=
  if (s.loc k).pc = fin then
    match (s.loc k).out with
    | .job r => some (some r)
    | _ => some none
  else none

/-- Go `close(j.done)` reading the field: nil → panic, closed → panic. -/
def closeDone (j : JobSt) (e : Ev) : Except Out JobSt :=
  if j.doneNil then .error .panicNil
  else if j.closed then .error .panicClosed
  else .ok { j with closed := true, closes := j.closes + 1,
                    first := match j.first with | none => some e | some x => some x }

/-! ### repaired code -/

/-- Task: pc0 = newJobID (own RLock region) when n.Job = 0; pc1 = Lock { dup check; s.write; insert }. -/
def taskF (s : St) (t : Nat) (id : Nat) (draws : List Nat) (wf : Bool) : St :=
  let l := s.loc t
  match l.pc with
  | 0 =>
    if id = 0 then
      if s.lockHeld then s else
      let i := newJobID s.table draws
      if i = 0 then finish s t .errNoId else setLoc s t { l with pc := 1, n := i }
    else setLoc s t { l with pc := 1, n := id }
  | 1 =>
    if s.lockHeld then s else
    match s.table l.n with
    | some _ => finish s t .errDup
    | none =>
      if wf then finish s t .errWrite else
      let r := s.nJobs
      finish { s with jobs := upd s.jobs r { id := l.n }, nJobs := r + 1,
                      table := upd s.table l.n (some r), count := s.count + 1,
                      pub := s.pub ++ [l.n] } t (.job r)
  | _ => s

/-- handle: pc0 guards (unlocked `len(s.jobs)`); pc1 Lock { lookup; delete }; pc2 stores
Result/Status=Completed; pc3 Status=Error (flagged packets); pc4 load j.done; pc5 close; pc6 j.done=nil. -/
def resultF (s : St) (t : Nat) (id : Nat) (ef : Bool) (tag : Nat) : St :=
  let l := s.loc t
  match l.pc with
  | 0 => if id < handleMin ∨ s.count = 0 then finish s t .ignored else goto s t 1
  | 1 =>
    if s.lockHeld then s else
    match s.table id with
    | none => finish s t .ignored
    | some r =>
      setLoc { s with table := upd s.table id none, count := s.count - 1,
                      jobs := upd s.jobs r { s.jobs r with owner := some t } }
        t { l with pc := 2, ref := some r }
  | 2 =>
    match l.ref with
    | none => s
    | some r =>
      goto (setJob s r { s.jobs r with result := some tag, status := stCompleted }) t (if ef then 3 else 4)
  | 3 =>
    match l.ref with
    | none => s
    | some r => goto (setJob s r { s.jobs r with status := stError, err := true }) t 4
  | 4 =>
    match l.ref with
    | none => s
    | some r => if (s.jobs r).doneNil then finish s t .handled else goto s t 5
  | 5 =>
    match l.ref with
    | none => s
    | some r =>
      match closeDone (s.jobs r) (evOf ef) with
      | .error o => finish s t o
      | .ok j => goto (setJob s r j) t 6
  | 6 =>
    match l.ref with
    | none => s
    | some r => finish (setJob s r { s.jobs r with doneNil := true }) t .handled
  | _ => s

/-- Cancel: pc0 load j.done; pc1 Lock { if s.jobs[j.ID] == j { delete; close; Status=Canceled; done=nil } }. -/
def cancelF (s : St) (t : Nat) (k : Nat) : St :=
  let l := s.loc t
  match jobOf s k with
  | none => s
  | some none => if l.pc = 0 then finish s t .ret else s
  | some (some r) =>
    match l.pc with
    | 0 => if (s.jobs r).doneNil then finish s t .ret else goto s t 1
    | 1 =>
      if s.lockHeld then s else
      if s.table (s.jobs r).id = some r then
        match closeDone (s.jobs r) .canceled with
        | .error o => finish { s with lockHeld := true } t o
        | .ok j =>
          finish { s with table := upd s.table (s.jobs r).id none, count := s.count - 1,
                          jobs := upd s.jobs r { j with status := stCanceled, doneNil := true } } t .ret
      else finish s t .ret
    | _ => s

/-- Wait: pc0 `d := j.done` (nil → return); pc1 `<-d` (enabled only when the channel is closed). -/
def waitF (s : St) (t : Nat) (k : Nat) : St :=
  let l := s.loc t
  match jobOf s k with
  | none => s
  | some none => if l.pc = 0 then finish s t .ret else s
  | some (some r) =>
    match l.pc with
    | 0 => if (s.jobs r).doneNil then finish s t .ret else goto s t 1
    | 1 => if (s.jobs r).closed then finish s t .ret else s
    | _ => s

/-- IsDone: pc0 `d := j.done` (nil → true); pc1 `select { case <-d: true; default: false }`. -/
def isDoneF (s : St) (t : Nat) (k : Nat) : St :=
  let l := s.loc t
  match jobOf s k with
  | none => s
  | some none => if l.pc = 0 then finish s t (.bool true) else s
  | some (some r) =>
    match l.pc with
    | 0 => if (s.jobs r).doneNil then finish s t (.bool true) else goto s t 1
    | 1 => finish s t (.bool (s.jobs r).closed)
    | _ => s

/-- accept: pc0 guards; pc1 Lock { lookup; if ok { Status = Accepted } }. -/
def acceptF (s : St) (t : Nat) (id : Nat) : St :=
  let l := s.loc t
  match l.pc with
  | 0 => if id < acceptMin ∨ s.count = 0 then finish s t .ret else goto s t 1
  | 1 =>
    if s.lockHeld then s else
    match s.table id with
    | none => finish s t .ret
    | some r => finish (setJob s r { s.jobs r with status := stAccepted }) t .ret
  | _ => s

/-- frag: pc0 guards; pc1 Lock { lookup; if ok { if Frags == 0 { Status = Receiving }; Frags, Current = max, cur } }. -/
def fragF (s : St) (t : Nat) (id mx cur : Nat) : St :=
  let l := s.loc t
  match l.pc with
  | 0 => if id < fragMin ∨ s.count = 0 then finish s t .ret else goto s t 1
  | 1 =>
    if s.lockHeld then s else
    match s.table id with
    | none => finish s t .ret
    | some r =>
      let j := s.jobs r
      finish (setJob s r { j with status := if j.frags = 0 then stReceiving else j.status,
                                  frags := mx, current := cur }) t .ret
  | _ => s

def stepK (s : St) (t : Nat) : Kind → St
  | .task id draws wf => taskF s t id draws wf
  | .result id ef tag => resultF s t id ef tag
  | .cancel k => cancelF s t k
  | .wait k => waitF s t k
  | .isDone k => isDoneF s t k
  | .accept id => acceptF s t id
  | .frag id mx cur => fragF s t id mx cur

/-- One schedule entry: thread `t` executes its next atomic action (no-op when it is finished,
not yet startable, blocked, or `t` names no thread). -/
def stepF (prog : List Kind) (s : St) (t : Nat) : St :=
  match prog[t]? with
  | none => s
  | some k => stepK s t k

def runF (prog : List Kind) (s : St) (sched : List Nat) : St := sched.foldl (stepF prog) s

/-! ### the code before the repairs (for the witnesses of the defects) -/

def taskO (s : St) (t : Nat) (id : Nat) (draws : List Nat) (wf : Bool) : St :=
  let l := s.loc t
  match l.pc with
  | 0 =>
    if id = 0 then
      if s.lockHeld then s else
      let i := newJobID s.table draws
      if i = 0 then finish s t .errNoId else setLoc s t { l with pc := 1, n := i }
    else setLoc s t { l with pc := 1, n := id }
  | 1 => -- RLock { _, ok := s.jobs[n.Job] }
    if s.lockHeld then s else
    match s.table l.n with
    | some _ => finish s t .errDup
    | none => goto s t 2
  | 2 => -- s.write(false, n)
    if wf then finish s t .errWrite else goto { s with pub := s.pub ++ [l.n] } t 3
  | 3 => -- Lock { s.jobs[n.Job] = j }
    if s.lockHeld then s else
    let r := s.nJobs
    finish { s with jobs := upd s.jobs r { id := l.n }, nJobs := r + 1,
                    table := upd s.table l.n (some r),
                    count := if (s.table l.n).isSome then s.count else s.count + 1 } t (.job r)
  | _ => s

def resultO (s : St) (t : Nat) (id : Nat) (ef : Bool) (tag : Nat) : St :=
  let l := s.loc t
  match l.pc with
  | 0 => if id < handleMin ∨ s.count = 0 then finish s t .ignored else goto s t 1
  | 1 => -- RLock { j, ok := s.jobs[p.Job] }
    if s.lockHeld then s else
    match s.table id with
    | none => finish s t .ignored
    | some r => setLoc s t { l with pc := 2, ref := some r }
  | 2 =>
    match l.ref with
    | none => s
    | some r =>
      goto (setJob s r { s.jobs r with result := some tag, status := stCompleted }) t (if ef then 3 else 7)
  | 3 =>
    match l.ref with
    | none => s
    | some r => goto (setJob s r { s.jobs r with status := stError, err := true }) t 7
  | 7 => -- Lock { delete(s.jobs, j.ID) }
    if s.lockHeld then s else
    match l.ref with
    | none => s
    | some r =>
      let i := (s.jobs r).id
      goto { s with table := upd s.table i none,
                    count := if (s.table i).isSome then s.count - 1 else s.count } t 4
  | 4 =>
    match l.ref with
    | none => s
    | some r => if (s.jobs r).doneNil then finish s t .handled else goto s t 5
  | 5 =>
    match l.ref with
    | none => s
    | some r =>
      match closeDone (s.jobs r) (evOf ef) with
      | .error o => finish s t o
      | .ok j => goto (setJob s r j) t 6
  | 6 =>
    match l.ref with
    | none => s
    | some r => finish (setJob s r { s.jobs r with doneNil := true }) t .handled
  | _ => s

/-- `cancelSets` = the pending branch assigns StatusCanceled (first repair applied). -/
def cancelO (cancelSets : Bool) (s : St) (t : Nat) (k : Nat) : St :=
  let l := s.loc t
  match jobOf s k with
  | none => s
  | some none => if l.pc = 0 then finish s t .ret else s
  | some (some r) =>
    match l.pc with
    | 0 => if (s.jobs r).doneNil then finish s t .ret else goto s t 1
    | 1 => if (s.jobs r).status ≥ stCompleted then goto s t 2 else goto s t 4   -- unlocked load of Status
    | 2 => if (s.jobs r).doneNil then finish s t .ret else goto s t 3
    | 3 =>
      match closeDone (s.jobs r) .canceled with
      | .error o => finish s t o
      | .ok j => finish (setJob s r j) t .ret
    | 4 =>
      if s.lockHeld then s else
      let i := (s.jobs r).id
      if s.count = 0 ∨ s.table i = none then
        match closeDone (s.jobs r) .canceled with
        | .error o => finish { s with lockHeld := true } t o
        | .ok j => finish (setJob s r { j with status := stCanceled, doneNil := true }) t .ret
      else
        match closeDone (s.jobs r) .canceled with
        | .error o => finish { s with lockHeld := true, table := upd s.table i none, count := s.count - 1 } t o
        | .ok j =>
          let j' : JobSt := { j with doneNil := true, status := if cancelSets then stCanceled else j.status }
          finish { s with table := upd s.table i none, count := s.count - 1, jobs := upd s.jobs r j' } t .ret
    | _ => s

def waitO (s : St) (t : Nat) (k : Nat) : St :=
  let l := s.loc t
  match jobOf s k with
  | none => s
  | some none => if l.pc = 0 then finish s t .ret else s
  | some (some r) =>
    match l.pc with
    | 0 => if (s.jobs r).doneNil then finish s t .ret else goto s t 1
    | 1 => -- `<-j.done` reads the field again: nil blocks forever
      if (s.jobs r).doneNil then s else if (s.jobs r).closed then finish s t .ret else s
    | _ => s

def isDoneO (s : St) (t : Nat) (k : Nat) : St :=
  let l := s.loc t
  match jobOf s k with
  | none => s
  | some none => if l.pc = 0 then finish s t (.bool true) else s
  | some (some r) =>
    match l.pc with
    | 0 => if (s.jobs r).doneNil then finish s t (.bool true) else goto s t 1
    | 1 => -- `case <-j.done` reads the field again: nil is never ready
      finish s t (.bool (!(s.jobs r).doneNil && (s.jobs r).closed))
    | _ => s

def acceptO (s : St) (t : Nat) (id : Nat) : St :=
  let l := s.loc t
  match l.pc with
  | 0 => if id < acceptMin ∨ s.count = 0 then finish s t .ret else goto s t 1
  | 1 =>
    if s.lockHeld then s else
    match s.table id with
    | none => finish s t .ret
    | some r => setLoc s t { l with pc := 2, ref := some r }
  | 2 =>
    match l.ref with
    | none => s
    | some r => finish (setJob s r { s.jobs r with status := stAccepted }) t .ret
  | _ => s

def fragO (s : St) (t : Nat) (id mx cur : Nat) : St :=
  let l := s.loc t
  match l.pc with
  | 0 => if id < fragMin ∨ s.count = 0 then finish s t .ret else goto s t 1
  | 1 =>
    if s.lockHeld then s else
    match s.table id with
    | none => finish s t .ret
    | some r => setLoc s t { l with pc := 2, ref := some r }
  | 2 =>
    match l.ref with
    | none => s
    | some r =>
      let j := s.jobs r
      finish (setJob s r { j with status := if j.frags = 0 then stReceiving else j.status,
                                  frags := mx, current := cur }) t .ret
  | _ => s

def stepKO (cancelSets : Bool) (s : St) (t : Nat) : Kind → St
  | .task id draws wf => taskO s t id draws wf
  | .result id ef tag => resultO s t id ef tag
  | .cancel k => cancelO cancelSets s t k
  | .wait k => waitO s t k
  | .isDone k => isDoneO s t k
  | .accept id => acceptO s t id
  | .frag id mx cur => fragO s t id mx cur

def stepO (cancelSets : Bool) (prog : List Kind) (s : St) (t : Nat) : St :=
  match prog[t]? with
  | none => s
  | some k => stepKO cancelSets s t k

def runO (cancelSets : Bool) (prog : List Kind) (s : St) (sched : List Nat) : St :=
  sched.foldl (stepO cancelSets prog) s

/-! ### observations -/

/-- thread t is blocked in `Wait` on a Job whose channel is closed (must never happen) -/
def blockedAfterFinish (step : St → Nat → St) (prog : List Kind) (s : St) (t : Nat) : Bool :=
  match prog[t]? with
  | some (.wait k) =>
    match jobOf s k with
    | some (some r) => (s.jobs r).closed && (s.loc t).pc != fin && ((step s t).loc t).pc == (s.loc t).pc
    | _ => false
  | _ => false

/-- label of the yield point thread t is parked at (repaired code), as in the instrumented source -/
def labelF (k : Kind) (pc : Nat) : String :=
  if pc = fin then "end" else
  match k, pc with
  | _, 0 => "start"
  | .task .., 1 => "T2"
  | .result .., 1 => "H1"
  | .result .., 2 => "H2"
  | .result .., 3 => "H2e"
  | .result .., 4 => "H3"
  | .result .., 5 => "H4"
  | .result .., 6 => "H5"
  | .cancel _, 1 => "C2"
  | .wait _, 1 => "W2"
  | .isDone _, 1 => "I2"
  | .accept _, 1 => "AF1"
  | .frag .., 1 => "AF1"
  | _, _ => "?"

/-! ### the SvResync gate (c2/vars.go receiveSingle, `case SvResync: if !s.hasJob(n.Job) { return }`) -/

/-- `hasJob`: a read of the pending table under the lock -/
def hasJob (table : Nat → Option Nat) (id : Nat) : Bool := (table id).isSome

/-- whether the settings an SvResync packet carries are applied to the Session: only while the Job it
names is pending — there is no other condition (no shortcut for low numbers) -/
def resyncApplied (table : Nat → Option Nat) (id : Nat) : Bool := hasJob table id

end XMT.Job
