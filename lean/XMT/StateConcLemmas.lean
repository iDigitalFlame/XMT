/-
  XMT.StateConcLemmas — the interleaving machine of the compare-and-swap mutators: the invariant `Inv` behind
  linearizability (the ghost history is a legal sequential history, XMT.StateLin, and every thread's part of it is
  the executed prefix of its program with the results it got), what that gives once all calls have returned
  (`no_lost_update`, `single_winner`), and progress (`exists_completion`).
-/
import XMT.StateLin
namespace XMT.StateConc

theorem getElem?_of_lt_thr {s : Sys} {t : Nat} (h : t < s.thr.length) : ∃ th, s.thr[t]? = some th :=
  ⟨s.thr[t], List.getElem?_eq_getElem h⟩

/-- The invariant: the ghost history is a legal sequential execution that ends in the current
word, and every thread's finished calls + remaining calls are its program, with the results it
actually returned. -/
structure Inv (w : Nat) (progs : List (List Op)) (s : Sys) : Prop where
  lin : Lin w s.hist s.mem
  len : s.thr.length = progs.length
  tid : ∀ e ∈ s.hist, e.tid < progs.length
  thr : ∀ t th, s.thr[t]? = some th →
    ∃ p, progs[t]? = some p ∧ (proj t s.hist).map (·.op) ++ th.ops = p ∧ th.rets = (proj t s.hist).map (·.ret)

theorem inv_init (w : Nat) (progs : List (List Op)) : Inv w progs (Sys.init w progs) := by
  refine ⟨Lin.nil, by simp [Sys.init], by simp [Sys.init], ?_⟩
  intro t th h
  simp only [Sys.init, List.getElem?_map, Option.map_eq_some_iff] at h
  obtain ⟨p, hp, rfl⟩ := h
  exact ⟨p, hp, by simp [proj, Sys.init], by simp [proj, Sys.init]⟩

variable {w : Nat} {progs : List (List Op)} {s : Sys}

/-- a call takes effect -/
theorem inv_complete (hi : Inv w progs s) {t : Nat} {th : Thread}
    {op : Op} {rest : List Op} (ht : s.thr[t]? = some th) (hops : th.ops = op :: rest) (m' c : Nat)
    (hm : m' = op.apply s.mem) :
    Inv w progs { mem := m', thr := s.thr.set t { ops := rest, loaded := none, rets := th.rets ++ [op.ret s.mem] },
                  hist := s.hist ++ [⟨t, op, op.ret s.mem⟩], casFail := c } := by
  refine ⟨hm ▸ Lin.snoc (⟨t, op, op.ret s.mem⟩ : Ev) hi.lin rfl, by simp [hi.len], ?_, ?_⟩
  · intro e he
    rcases List.mem_append.mp he with he | he
    · exact hi.tid e he
    · rw [List.mem_singleton.mp he, ← hi.len]; exact lt_of_getElem? ht
  · intro t' th' h'
    rcases getElem?_set_cases h' with ⟨rfl, rfl⟩ | ⟨htt, h'⟩
    · obtain ⟨p, hp, h1, h2⟩ := hi.thr t th ht
      exact ⟨p, hp, by simp [proj_snoc, ← h1, hops], by simp [proj_snoc, h2]⟩
    · obtain ⟨p, hp, h1, h2⟩ := hi.thr t' th' h'
      exact ⟨p, hp, by rw [proj_snoc, if_neg htt]; exact h1, by rw [proj_snoc, if_neg htt]; exact h2⟩

/-- a step that only touches the thread's private `loaded` register -/
theorem inv_local (hi : Inv w progs s) {t : Nat} {th : Thread}
    (ht : s.thr[t]? = some th) (l : Option Nat) (c : Nat) :
    Inv w progs { s with thr := s.thr.set t { th with loaded := l }, casFail := c } := by
  refine ⟨hi.lin, by simp [hi.len], hi.tid, ?_⟩
  intro t' th' h'
  rcases getElem?_set_cases h' with ⟨rfl, rfl⟩ | ⟨_, h'⟩
  · exact hi.thr t th ht
  · exact hi.thr t' th' h'

theorem inv_step (hi : Inv w progs s) (t : Nat) :
    Inv w progs (step s t) := by
  unfold step
  split
  · exact hi
  · rename_i th ht
    split
    · exact hi
    · rename_i op rest hops
      split
      · split
        · rename_i he
          exact inv_complete hi ht hops s.mem s.casFail (early_apply op s.mem he).symm
        · exact inv_local hi ht (some s.mem) s.casFail
      · rename_i o hl
        split
        · rename_i hm
          exact hm ▸ inv_complete hi ht hops (op.apply o) s.casFail (by rw [hm])
        · exact inv_local hi ht none (s.casFail + 1)

theorem inv_run (hi : Inv w progs s) (sched : List Nat) :
    Inv w progs (run s sched) :=
  List.foldlRecOn (motive := Inv w progs) sched step hi fun _ h t _ => inv_step h t

theorem inv_reach (w : Nat) (progs : List (List Op)) (sched : List Nat) : Inv w progs (run (Sys.init w progs) sched) :=
  inv_run (inv_init w progs) sched

/-- for the access-level machine this is a field of the invariant, `GInv.ops` -/
theorem inv_ops (hi : Inv w progs s) {e : Ev} (he : e ∈ s.hist) :
    ∃ p, progs[e.tid]? = some p ∧ e.op ∈ p := by
  obtain ⟨th, hth⟩ := getElem?_of_lt_thr (hi.len ▸ hi.tid e he)
  obtain ⟨p, hp, h1, _⟩ := hi.thr e.tid th hth
  exact ⟨p, hp, h1 ▸ List.mem_append_left _ (List.mem_map.mpr ⟨e, mem_proj.mpr ⟨he, rfl⟩, rfl⟩)⟩

theorem inv_forall_hist (hi : Inv w progs s) {P : Op → Prop}
    (h : ∀ p ∈ progs, ∀ op ∈ p, P op) : ∀ e ∈ s.hist, P e.op := by
  intro e he
  obtain ⟨p, hp, hop⟩ := inv_ops hi he
  exact h p (List.mem_of_getElem? hp) _ hop

theorem ops_nil_of_completed {s : Sys} (hc : s.completed = true) {t : Nat} {th : Thread} (hth : s.thr[t]? = some th) :
    th.ops = [] := by
  simpa using List.all_eq_true.mp hc th (List.mem_of_getElem? hth)

theorem inv_thr_done (hi : Inv w progs s) (hc : s.completed = true)
    (t : Nat) (th : Thread) (hth : s.thr[t]? = some th) :
    ∃ p, progs[t]? = some p ∧ (proj t s.hist).map (·.op) = p ∧ th.rets = (proj t s.hist).map (·.ret) := by
  obtain ⟨p, hp, h1, h2⟩ := hi.thr t th hth
  rw [ops_nil_of_completed hc hth, List.append_nil] at h1
  exact ⟨p, hp, h1, h2⟩

theorem inv_proj_done (hi : Inv w progs s) (hc : s.completed = true)
    {t : Nat} {p : List Op} (hp : progs[t]? = some p) : (proj t s.hist).map (·.op) = p := by
  obtain ⟨th, hth⟩ := getElem?_of_lt_thr (hi.len ▸ (List.getElem?_eq_some_iff.mp hp).1)
  obtain ⟨p', hp', h1, _⟩ := inv_thr_done hi hc t th hth
  rw [h1, Option.some.inj (hp'.symm.trans hp)]

theorem inv_hist_of_op (hi : Inv w progs s) (hc : s.completed = true)
    {p : List Op} (hp : p ∈ progs) {op : Op} (hop : op ∈ p) : ∃ e ∈ s.hist, e.op = op := by
  obtain ⟨t, ht, hpt⟩ := List.getElem_of_mem hp
  rw [← inv_proj_done hi hc (List.getElem?_eq_some_iff.mpr ⟨ht, hpt⟩)] at hop
  obtain ⟨e, he, heq⟩ := List.mem_map.mp hop
  exact ⟨e, (mem_proj.mp he).1, heq⟩

/-- `lin_bit` on the ghost history: once all calls have returned, every call of the programs is in it
(`inv_hist_of_op`). -/
theorem no_lost_update (b : Bool) (hi : Inv w progs s) (hdone : s.completed = true) {k : Nat} (hk : k < 16)
    (hc : ∀ p ∈ progs, ∀ op ∈ p, op.drives k (!b) = false)
    (hs : w.testBit k = b ∨ ∃ p ∈ progs, ∃ op ∈ p, op.drives k b = true) : s.mem.testBit k = b := by
  refine lin_bit b hi.lin hk (inv_forall_hist hi hc) (hs.imp_right fun ⟨p, hp, op, hop, hs⟩ => ?_)
  obtain ⟨e, he, rfl⟩ := inv_hist_of_op hi hdone hp hop
  exact ⟨e, he, hs⟩

/-- The linearization is the ghost history.  Some `tryOp` call is in it, so the bit is `b` at the end (`lin_bit`),
and the token equation `lin_wins` from an initial `!b` leaves exactly one win. -/
theorem single_winner (b : Bool) (hi : Inv w progs s) (hdone : s.completed = true) {k : Nat} (hk : k < 16)
    (hops : ∀ p ∈ progs, ∀ op ∈ p, op = tryOp b (2 ^ k) ∨ (op.sets k = false ∧ op.clears k = false))
    (hw : w.testBit k = !b) (hcall : ∃ p ∈ progs, tryOp b (2 ^ k) ∈ p) :
    ∃ lin, Lin w lin s.mem ∧
      (∀ t th, s.thr[t]? = some th →
        ∃ p, progs[t]? = some p ∧ (proj t lin).map (·.op) = p ∧ th.rets = (proj t lin).map (·.ret)) ∧
      (lin.filter fun e => e.op == tryOp b (2 ^ k) && e.ret).length = 1 ∧ s.mem.testBit k = b := by
  have hops' := inv_forall_hist hi hops
  obtain ⟨p, hp, hop⟩ := hcall
  obtain ⟨e, he, heq⟩ := inv_hist_of_op hi hdone hp hop
  have hbit : s.mem.testBit k = b := by
    refine lin_bit b hi.lin hk (fun e he => ?_) (Or.inr ⟨e, he, heq ▸ (tryOp_drives b k).1⟩)
    rcases hops' e he with h | h
    · exact h ▸ (tryOp_drives b k).2
    · exact drives_of_neutral h _
  refine ⟨s.hist, hi.lin, inv_thr_done hi hdone, ?_, hbit⟩
  have := lin_wins b hi.lin hk hops'
  rw [hbit, hw] at this
  cases b <;> simpa [wins] using this

theorem step_thr (s : Sys) (t : Nat) : (step s t).thr = s.thr ∨ ∃ th', (step s t).thr = s.thr.set t th' := by
  unfold step
  split
  · exact Or.inl rfl
  · split
    · exact Or.inl rfl
    · split <;> split <;> exact Or.inr ⟨_, rfl⟩

theorem step_hist (s : Sys) (t : Nat) :
    (step s t).hist = s.hist ∨ ∃ op r, (step s t).hist = s.hist ++ [⟨t, op, r⟩] := by
  unfold step
  split
  · exact Or.inl rfl
  · split
    · exact Or.inl rfl
    · split
      · split
        · exact Or.inr ⟨_, _, rfl⟩
        · exact Or.inl rfl
      · split
        · exact Or.inr ⟨_, _, rfl⟩
        · exact Or.inl rfl

theorem step_length (s : Sys) (t : Nat) : (step s t).thr.length = s.thr.length := by
  rcases step_thr s t with h | ⟨_, h⟩ <;> simp [h]

theorem step_other {s : Sys} {t t' : Nat} (h : t ≠ t') : (step s t).thr[t']? = s.thr[t']? := by
  rcases step_thr s t with h' | ⟨_, h'⟩ <;> simp [h', List.getElem?_set_ne h]

theorem run_length (s : Sys) (sch : List Nat) : (run s sch).thr.length = s.thr.length :=
  List.foldlRecOn (motive := fun s' => s'.thr.length = s.thr.length) sch step rfl
    fun s' h t _ => (step_length s' t).trans h

theorem run_append (s : Sys) (a b : List Nat) : run s (a ++ b) = run (run s a) b :=
  List.foldl_append ..

theorem run_other {s : Sys} {t t' : Nat} (sch : List Nat) (hs : ∀ x ∈ sch, x = t) (h : t ≠ t') :
    (run s sch).thr[t']? = s.thr[t']? :=
  List.foldlRecOn (motive := fun s' => s'.thr[t']? = s.thr[t']?) sch step rfl
    fun _ hi x hx => (step_other (hs x hx ▸ h)).trans hi

/-- Accesses a thread that runs alone still needs, at most: load and compare-and-swap per call; a
loaded word that is still current saves the load, a stale one costs a failing compare-and-swap first. -/
def soloCost (mem : Nat) (th : Thread) : Nat :=
  3 * th.ops.length + match th.loaded with
    | none => 1
    | some o => if mem = o then 0 else 2

theorem step_soloCost {s : Sys} {t : Nat} {th : Thread} (ht : s.thr[t]? = some th) (hne : th.ops ≠ []) :
    ∃ th', (step s t).thr[t]? = some th' ∧ soloCost (step s t).mem th' < soloCost s.mem th := by
  have hlt := lt_of_getElem? ht
  obtain ⟨op, rest, hops⟩ := List.exists_cons_of_ne_nil hne
  unfold step
  simp only [ht, hops]
  -- in each case the thread is entry `t` of the new list, and the two costs are compared
  cases hl : th.loaded with
  | none =>
    by_cases he : op.early s.mem = true <;> simp only [he, ↓reduceIte, Bool.false_eq_true] <;>
      refine ⟨_, List.getElem?_set_self hlt, ?_⟩ <;>
      simp only [soloCost, hops, hl, List.length_cons, ↓reduceIte] <;> omega
  | some o =>
    by_cases hm : s.mem = o <;> simp only [hm, ↓reduceIte] <;>
      refine ⟨_, List.getElem?_set_self hlt, ?_⟩ <;>
      simp only [soloCost, hops, hl, hm, List.length_cons, ↓reduceIte] <;> omega

theorem solo_thread {s : Sys} {t : Nat} {th : Thread} (ht : s.thr[t]? = some th) :
    ∃ sch, (∀ x ∈ sch, x = t) ∧ ∃ th', (run s sch).thr[t]? = some th' ∧ th'.ops = [] := by
  generalize hn : soloCost s.mem th = n
  induction n using Nat.strongRecOn generalizing s th with
  | _ n ih =>
    by_cases hne : th.ops = []
    · exact ⟨[], by simp, th, ht, hne⟩
    · obtain ⟨th1, h1, hlt⟩ := step_soloCost ht hne
      obtain ⟨sch, hs, h2⟩ := ih _ (hn ▸ hlt) h1 rfl
      exact ⟨t :: sch, by simpa using hs, h2⟩

/-- threads 0, 1, …, n-1 run alone one after the other, each to the end of its program (`solo_thread`); the
later solo runs do not touch a thread that has finished (`run_other`) -/
theorem finish_first (s : Sys) (n : Nat) (hn : n ≤ s.thr.length) :
    ∃ sch, ∀ t, t < n → ∃ th, (run s sch).thr[t]? = some th ∧ th.ops = [] := by
  induction n with
  | zero => exact ⟨[], fun t ht => absurd ht (Nat.not_lt_zero t)⟩
  | succ n ih =>
    obtain ⟨sch, h⟩ := ih (Nat.le_of_succ_le hn)
    obtain ⟨th, hth⟩ := getElem?_of_lt_thr (s := run s sch) (t := n) (by rw [run_length]; exact hn)
    obtain ⟨sch2, hs2, h2⟩ := solo_thread hth
    refine ⟨sch ++ sch2, fun t ht => ?_⟩
    rw [run_append]
    by_cases htn : t = n
    · exact htn ▸ h2
    · rw [run_other sch2 hs2 (Ne.symm htn)]
      exact h t (by omega)

/-- from every state, reachable or not -/
theorem exists_completion (s : Sys) : ∃ sch, (run s sch).completed = true := by
  obtain ⟨sch, h⟩ := finish_first s s.thr.length (Nat.le_refl _)
  refine ⟨sch, List.all_eq_true.mpr fun th hth => ?_⟩
  obtain ⟨t, ht, heq⟩ := List.getElem_of_mem hth
  obtain ⟨th', h1, h2⟩ := h t (run_length s sch ▸ ht)
  rw [List.getElem?_eq_getElem ht, heq] at h1
  simp [Option.some.inj h1, h2]

end XMT.StateConc
