/-
  XMT.FragSweep — wake-ups of the receiver (`markSweepFrags`) interleaved with arrivals, over whole
  histories (`List Ev`; property C02).  Two steps.  With distinct keys (`FragHostile.keys` and the
  facts about it in `FragMap`) a wake-up acts on each entry on its own (`find_sweep`), so the
  history of the map projects onto the history of one group's state under its own arrivals and all
  the wake-ups (`runEv_project`, as `recvAll_project` without wake-ups; a group that gets no arrival
  sees the wake-ups alone, `runEv_no_arrival`).  For one group, a wake-up
  only lowers the miss counter, which `cluster.add` and `cluster.done` do not read and every stored
  fragment sets back to `fragMaxMisses`; so a history with fewer than `fragMaxMisses` wake-ups in a
  row between two arrivals of the group (`paced`) answers as the one without wake-ups does
  (`feedEv_paced`).
-/
import XMT.FragMap
namespace XMT.Frag
open XMT.Flag XMT.FragHostile

inductive Ev
  | arrive (n : Pkt)
  | wake
  deriving Repr

/-- `receive` (FlagFrag arm) and `markSweepFrags` over a history; a wake-up answers nothing -/
def runEv (fs : Frags) : List Ev → Frags × List Out
  | [] => (fs, [])
  | .wake :: es => runEv (sweep fs) es
  | .arrive n :: es =>
    let r := recvFrag fs n
    let rs := runEv r.1 es
    (rs.1, r.2 :: rs.2)

def arrivals : List Ev → List Pkt
  | [] => []
  | .wake :: es => arrivals es
  | .arrive n :: es => n :: arrivals es

def wakes : List Ev → Nat
  | [] => 0
  | .wake :: es => wakes es + 1
  | .arrive _ :: es => wakes es

/-- what one `markSweepFrags` does to one entry: `v.c--` on a uint8, removed when it reaches 0 -/
def sweepOne : Option Cluster → Option Cluster
  | none => none
  | some c => if (c.c + 255) % 256 = 0 then none else some { c with c := (c.c + 255) % 256 }

theorem sweepOne_some (c : Cluster) : sweepOne (some c) =
    if (c.c + 255) % 256 = 0 then none else some { c with c := (c.c + 255) % 256 } := rfl

def feedEv (c : Option Cluster) : List Ev → Option Cluster × List Out
  | [] => (c, [])
  | .wake :: es => feedEv (sweepOne c) es
  | .arrive n :: es =>
    let r := recvGroup c n
    let rs := feedEv r.1 es
    (rs.1, r.2 :: rs.2)

theorem runEv_append : ∀ (a b : List Ev) (fs : Frags),
    runEv fs (a ++ b) = ((runEv (runEv fs a).1 b).1, (runEv fs a).2 ++ (runEv (runEv fs a).1 b).2)
  | [], _, fs => rfl
  | .wake :: a, b, fs => runEv_append a b (sweep fs)
  | .arrive n :: a, b, fs => by
    simp only [List.cons_append, runEv, runEv_append a b (recvFrag fs n).1]

theorem arrivals_append : ∀ (a b : List Ev), arrivals (a ++ b) = arrivals a ++ arrivals b
  | [], _ => rfl
  | .wake :: a, b => arrivals_append a b
  | .arrive n :: a, b => congrArg (n :: ·) (arrivals_append a b)

/-- the events that concern group `g`: its own arrivals and every wake-up -/
def projEv (g : Nat) : List Ev → List Ev
  | [] => []
  | .wake :: es => .wake :: projEv g es
  | .arrive n :: es => if group n.flags = g then .arrive n :: projEv g es else projEv g es

theorem arrivals_projEv (g : Nat) : ∀ (es : List Ev),
    arrivals (projEv g es) = (arrivals es).filter (fun n => group n.flags = g)
  | [] => rfl
  | .wake :: es => arrivals_projEv g es
  | .arrive n :: es => by
    simp only [projEv, arrivals, List.filter_cons, decide_eq_true_eq]
    split
    · rw [arrivals, arrivals_projEv g es]
    · exact arrivals_projEv g es

/-- the history of one group that gets no arrival is a row of wake-ups -/
theorem projEv_no_arrival (g : Nat) : ∀ (es : List Ev), (∀ n ∈ arrivals es, group n.flags ≠ g) →
    projEv g es = List.replicate (wakes es) Ev.wake
  | [], _ => rfl
  | .wake :: es, h => congrArg (Ev.wake :: ·) (projEv_no_arrival g es h)
  | .arrive n :: es, h => by
    rw [projEv, if_neg (h n List.mem_cons_self)]
    exact projEv_no_arrival g es fun x hx => h x (List.mem_cons_of_mem _ hx)

theorem sweep_cons (kv : Nat × Cluster) (fs : Frags) :
    sweep (kv :: fs) = if (kv.2.c + 255) % 256 = 0 then sweep fs
      else (kv.1, { kv.2 with c := (kv.2.c + 255) % 256 }) :: sweep fs := by
  unfold sweep
  rw [List.map_cons]
  split
  · rename_i h; rw [List.filter_cons_of_neg (by simp [h])]
  · rename_i h; rw [List.filter_cons_of_pos (by simp [h])]

theorem mem_sweep {kv : Nat × Cluster} {fs : Frags} : kv ∈ sweep fs ↔
    kv.2.c ≠ 0 ∧ ∃ kv0 ∈ fs, (kv0.1, { kv0.2 with c := (kv0.2.c + 255) % 256 }) = kv := by
  unfold sweep
  rw [List.mem_filter, List.mem_map, decide_eq_true_eq, and_comm]

theorem keys_sweep_sublist (fs : Frags) : (keys (sweep fs)).Sublist (keys fs) := by
  have h := (List.filter_sublist (p := fun x : Nat × Cluster => decide (x.2.c ≠ 0))
    (l := fs.map (fun kv => (kv.1, { kv.2 with c := (kv.2.c + 255) % 256 })))).map (·.1)
  rwa [List.map_map] at h

/-- a wake-up acts on every group on its own -/
theorem find_sweep (g : Nat) : ∀ (fs : Frags), (keys fs).Nodup → (sweep fs).find g = sweepOne (fs.find g)
  | [], _ => rfl
  | kv :: fs, hn => by
    have hn' := List.nodup_cons.mp hn
    rw [sweep_cons, find_cons]
    by_cases hk : kv.1 = g
    · rw [if_pos hk, sweepOne_some]
      split
      · exact find_none_of_not_mem_keys _ g fun h => hn'.1 (show kv.1 ∈ keys fs from hk ▸ (keys_sweep_sublist fs).subset h)
      · rw [find_cons, if_pos hk]
    · rw [if_neg hk, ← find_sweep g fs hn'.2]
      split
      · rfl
      · rw [find_cons, if_neg hk]

theorem keys_runEv_nodup : ∀ (es : List Ev) (fs : Frags), (keys fs).Nodup → (keys (runEv fs es).1).Nodup
  | [], _, hn => hn
  | .wake :: es, fs, hn => keys_runEv_nodup es _ ((keys_sweep_sublist fs).nodup hn)
  | .arrive n :: es, fs, hn => keys_runEv_nodup es _ (keys_recvFrag_nodup fs n hn)

/-- `recvAll_project` with wake-ups: `find_sweep` lets a wake-up through the projection -/
theorem runEv_project (g : Nat) : ∀ (es : List Ev) (fs : Frags), (keys fs).Nodup →
    (∀ n ∈ arrivals es, group n.flags = g → Proper n) →
    ((runEv fs es).1.find g = (feedEv (fs.find g) (projEv g es)).1) ∧
    (outsOf g (arrivals es) (runEv fs es).2 = (feedEv (fs.find g) (projEv g es)).2)
  | [], fs, _, _ => ⟨rfl, rfl⟩
  | .wake :: es, fs, hn, h => by
    have ih := runEv_project g es (sweep fs) ((keys_sweep_sublist fs).nodup hn) h
    rwa [find_sweep g fs hn] at ih
  | .arrive n :: es, fs, hn, h => by
    have hnP := h n List.mem_cons_self
    have ih := runEv_project g es (recvFrag fs n).1 (keys_recvFrag_nodup fs n hn)
      fun x hx => h x (List.mem_cons_of_mem _ hx)
    rw [recvFrag_find fs n g hnP] at ih
    simp only [runEv, arrivals, outsOf, projEv]
    split
    · rename_i hg
      subst hg
      rw [if_pos rfl] at ih
      exact ⟨ih.1, by rw [feedEv, recvFrag_out fs n (hnP rfl), ih.2]⟩
    · rename_i hg
      rwa [if_neg hg] at ih

theorem add_withC (x : Cluster) (k : Nat) (n : Pkt) : ({ x with c := k } : Cluster).add n = x.add n := by
  rw [Cluster.add_eq, Cluster.add_eq]

theorem done_withC (x : Cluster) (k : Nat) : ({ x with c := k } : Cluster).done = x.done := rfl

/-- `receive` on a cluster whose miss counter was lowered by wake-ups: the same answer and the same
new state, unless `cluster.add` refuses the fragment (then the state — counter included — stays) -/
theorem recvGroup_withC (x : Cluster) (k : Nat) (n : Pkt) (h : (recvGroup (some x) n).2 ≠ .errMismatch) :
    recvGroup (some { x with c := k }) n = recvGroup (some x) n := by
  unfold recvGroup at h ⊢
  simp only [add_withC] at h ⊢
  cases ha : x.add n with
  | none => rw [ha] at h; exact absurd rfl h
  | some y => rfl

/-- `n` wake-ups in a row on one entry -/
def sweepN : Nat → Option Cluster → Option Cluster
  | 0, c => c
  | n + 1, c => sweepOne (sweepN n c)

theorem sweepN_none : ∀ n, sweepN n none = none
  | 0 => rfl
  | n + 1 => by rw [sweepN, sweepN_none n]; rfl

theorem sweepN_add (c : Option Cluster) (j : Nat) : ∀ k, sweepN (j + k) c = sweepN k (sweepN j c)
  | 0 => rfl
  | k + 1 => congrArg sweepOne (sweepN_add c j k)

theorem feedEv_wakes : ∀ (n : Nat) (c : Option Cluster),
    feedEv c (List.replicate n Ev.wake) = (sweepN n c, [])
  | 0, _ => rfl
  | n + 1, c => by
    rw [List.replicate_succ, feedEv, feedEv_wakes n, Nat.add_comm, sweepN_add c 1 n]
    rfl

/-- a group that gets no arrival sees the wake-ups and nothing else, whatever arrives for the others -/
theorem runEv_no_arrival (g : Nat) (es : List Ev) (fs : Frags) (hn : (keys fs).Nodup)
    (hnone : ∀ n ∈ arrivals es, group n.flags ≠ g) :
    (runEv fs es).1.find g = sweepN (wakes es) (fs.find g) := by
  rw [(runEv_project g es fs hn fun n h hg => absurd hg (hnone n h)).1, projEv_no_arrival g es hnone,
    feedEv_wakes]

/-- the entry is released by the wake-up on which the counter runs out. `h1`: the counter of a state
left by `receive` is `fragMaxMisses`, never 0 (a counter of 0 would wrap to 255). -/
theorem sweepN_some (x : Cluster) (h1 : 1 ≤ x.c) (h2 : x.c < 256) : ∀ n,
    sweepN n (some x) = if n < x.c then some { x with c := x.c - n } else none
  | 0 => by rw [if_pos (show 0 < x.c from h1)]; rfl
  | n + 1 => by
    rw [sweepN, sweepN_some x h1 h2 n]
    by_cases hn : n < x.c
    · rw [if_pos hn, sweepOne_some]
      dsimp only
      by_cases hn' : n + 1 < x.c
      · rw [if_neg (by omega), if_pos hn', show (x.c - n + 255) % 256 = x.c - (n + 1) by omega]
      · rw [if_pos (by omega), if_neg hn']
    · rw [if_neg hn, if_neg (by omega)]; rfl

/-- a group without state stays without state under wake-ups and late fragments (position > 0),
each of which is answered with `SvDrop` -/
theorem feedEv_none_late : ∀ (es : List Ev), (∀ n ∈ arrivals es, 0 < position n.flags) →
    feedEv none es = (none, List.replicate (arrivals es).length Out.dropReply)
  | [], _ => rfl
  | .wake :: es, h => feedEv_none_late es h
  | .arrive n :: es, h => by
    rw [feedEv, recvGroup_none_late n (h n List.mem_cons_self),
      feedEv_none_late es fun x hx => h x (List.mem_cons_of_mem _ hx)]
    rfl

/-- no `lim` wake-ups in a row between two arrivals (state: wake-ups since the last arrival, `none`
before the first one); wake-ups before the first and after the last arrival are unconstrained -/
def paced (lim : Nat) : Option Nat → List Ev → Bool
  | _, [] => true
  | none, .wake :: es => paced lim none es
  | some k, .wake :: es => paced lim (some (k + 1)) es
  | none, .arrive _ :: es => paced lim (some 0) es
  | some k, .arrive _ :: es => decide (k < lim) && paced lim (some 0) es

/-- a state as `receive` leaves it after storing a fragment: the miss counter is full -/
def Fresh (c : Option Cluster) : Prop := ∀ x, c = some x → x.c = Facts.fragMaxMisses

theorem fresh_recvGroup (c : Option Cluster) (n : Pkt) (h : (recvGroup c n).2 ≠ .errMismatch) :
    Fresh (recvGroup c n).1 := by
  intro y hy
  rcases recvGroup_cases c n with h0 | ⟨h1, _⟩ | ⟨c1, ha, h2⟩
  · rw [h0] at hy; cases hy
  · exact absurd h1 h
  · rw [h2] at hy; cases hy; exact (Cluster.add_some ha).1

/-- fewer than `fragMaxMisses` wake-ups since the last arrival: the next fragment is answered as
without them -/
theorem recvGroup_sweepN (c : Option Cluster) (hc : Fresh c) (k : Nat) (hk : k < Facts.fragMaxMisses)
    (n : Pkt) (h : (recvGroup c n).2 ≠ .errMismatch) : recvGroup (sweepN k c) n = recvGroup c n := by
  cases c with
  | none => rw [sweepN_none]
  | some x =>
    have hx := hc x rfl
    rw [sweepN_some x (by rw [hx]; decide) (by rw [hx]; decide), if_pos (by rw [hx]; exact hk)]
    exact recvGroup_withC x _ n h

/-- a paced history answers every arrival exactly as the history without wake-ups
does (provided that one never meets a `cluster.add` refusal), and at the end its state is that
one's after some wake-ups. `st` = wake-ups since the last arrival; before the first one (`none`) the
group has no state. -/
theorem feedEv_paced : ∀ (es : List Ev) (c : Option Cluster) (st : Option Nat), Fresh c →
    (st = none → c = none) → paced Facts.fragMaxMisses st es = true →
    Out.errMismatch ∉ (feedGroup c (arrivals es)).2 →
    (feedEv (sweepN (st.getD 0) c) es).2 = (feedGroup c (arrivals es)).2 ∧
    ∃ k, (feedEv (sweepN (st.getD 0) c) es).1 = sweepN k (feedGroup c (arrivals es)).1
  | [], _, st, _, _, _, _ => ⟨rfl, st.getD 0, rfl⟩
  | .wake :: es, c, none, hc, h0, hp, hno => by
    cases h0 rfl
    exact feedEv_paced es none none hc (fun _ => rfl) hp hno
  | .wake :: es, c, some k, hc, _, hp, hno => feedEv_paced es c (some (k + 1)) hc nofun hp hno
  | .arrive n :: es, c, st, hc, h0, hp, hno => by
    have ho : (recvGroup c n).2 ≠ .errMismatch := (List.ne_of_not_mem_cons hno).symm
    obtain ⟨hk, hp'⟩ : st.getD 0 < Facts.fragMaxMisses ∧ paced Facts.fragMaxMisses (some 0) es = true := by
      cases st with
      | none => exact ⟨by decide, hp⟩
      | some k => simpa [paced] using hp
    obtain ⟨ih1, ih2⟩ := feedEv_paced es (recvGroup c n).1 (some 0) (fresh_recvGroup c n ho) nofun hp'
      (List.not_mem_of_not_mem_cons hno)
    simp only [feedEv, arrivals, feedGroup, recvGroup_sweepN c hc _ hk n ho]
    exact ⟨congrArg _ ih1, ih2⟩

/-- `runEv_project` and `feedEv_paced` together: `A` are the arrivals of group `g` in a history of
arrivals for any groups and wake-ups that is paced for `g` and starts without state for it; alone and
without wake-ups they leave `s` and are answered `outs`. Then the history answers them `outs` too,
and the state of `g` at its end is `s` after some wake-ups. -/
theorem runEv_paced (g : Nat) (es : List Ev) (fs : Frags) (hn : (keys fs).Nodup)
    (hprop : ∀ n ∈ arrivals es, group n.flags = g → Proper n) (hfresh : fs.find g = none)
    (hp : paced Facts.fragMaxMisses none (projEv g es) = true)
    {A : List Pkt} (hmine : (arrivals es).filter (fun n => group n.flags = g) = A)
    {s : Option Cluster} {outs : List Out} (href : feedGroup none A = (s, outs))
    (hno : Out.errMismatch ∉ outs) :
    outsOf g (arrivals es) (runEv fs es).2 = outs ∧ ∃ k, (runEv fs es).1.find g = sweepN k s := by
  obtain ⟨h1, h2⟩ := runEv_project g es fs hn hprop
  rw [← hmine, ← arrivals_projEv] at href
  obtain ⟨s1, k, s2⟩ := feedEv_paced (projEv g es) none none nofun (fun _ => rfl) hp
    (by rw [href]; exact hno)
  rw [hfresh] at h1 h2
  rw [href] at s1 s2
  exact ⟨h2.trans s1, k, h1.trans s2⟩

end XMT.Frag
