/-
  XMT.DecodeLemmas — the "safe" predicate for decoders of XMT.Decode and its closure rules.

  `Safe K M B E d`: on every state whose unread part is at most `MaxSlice` bytes (a Chunk cannot be
  larger) `d` neither panics nor hangs, never un-reads, and the potential `alloc + K·|rest|`
  grows by at most `M·|rest| + B` (plus `E` when `d` ends with an error).  Hence (`Safe.total`), for a
  run from the empty state, `alloc ≤ (K+M)·|input| + B + E`.

  `Safe` is a statement of the form `(d s).Ends P Q` ("`ok` with `P` or `err` with `Q`"); sequencing
  is `Ends.bind`, and the arithmetic of composing bounds is `Bound.trans` / `Bound.mono`.

  The primitive reads (`u8r` … `u64r`, `bodyC`, `readFullC`) are built from index / reslice steps that
  panic out of range; their `Safe` lemmas go through the equations of XMT/DecodeSlice.lean
  (`u8r_eq`, `bodyC_eq`, `readFullC_eq`, …), each of which is proved by splitting on the Go guard and
  discharging the bound of the index / reslice from it.  There is no `Safe` lemma for `idxP`,
  `sliceP`, `sliceFromP`, `advanceP` on their own — they are not safe on their own.  What `Bytes()` /
  `StringVal()` consume and request is stated once (`bytesRaw_ends`); that they are `Safe` and that
  they consume at least a byte both follow from it.
-/
import XMT.DecodeSlice

namespace XMT.Decode

variable {α β : Type} {K M B E : Nat}

def Out.Ends (r : Out α) (P : α → St → Prop) (Q : St → Prop) : Prop :=
  match r with
  | .ok a s => P a s
  | .err _ s => Q s
  | .panic _ => False
  | .hang => False

theorem Out.Ends.mono {r : Out α} {P P' : α → St → Prop} {Q Q' : St → Prop} (h : r.Ends P Q)
    (hP : ∀ a s, P a s → P' a s) (hQ : ∀ s, Q s → Q' s) : r.Ends P' Q' := by
  cases r with
  | ok a s => exact hP a s h
  | err e s => exact hQ s h
  | panic m => exact h
  | hang => exact h

/-- what a `match` on an outcome that `Ends` has to look at: `ok` with `P`, or `err` with `Q` -/
theorem Out.Ends.cases {r : Out α} {P : α → St → Prop} {Q : St → Prop} (h : r.Ends P Q) :
    (∃ a s, r = .ok a s ∧ P a s) ∨ ∃ e s, r = .err e s ∧ Q s := by
  cases r with
  | ok a s => exact .inl ⟨a, s, rfl, h⟩
  | err e s => exact .inr ⟨e, s, rfl, h⟩
  | panic m => exact h.elim
  | hang => exact h.elim

theorem Out.Ends.ok {r : Out α} {P : α → St → Prop} {Q : St → Prop} (h : r.Ends P Q) {a : α} {s : St}
    (e : r = .ok a s) : P a s := by
  subst e; exact h

theorem Out.Ends.bind {d : D α} {f : α → D β} {s : St} {P : α → St → Prop} {Q : St → Prop}
    {P' : β → St → Prop} {Q' : St → Prop} (h : (d s).Ends P Q)
    (hf : ∀ a s1, d s = .ok a s1 → P a s1 → (f a s1).Ends P' Q') (hQ : ∀ s1, Q s1 → Q' s1) :
    ((d >>= f) s).Ends P' Q' := by
  rcases h.cases with ⟨a, s1, hd, hp⟩ | ⟨e, s1, hd, hq⟩
  · rw [bind_of_ok hd]; exact hf a s1 hd hp
  · rw [bind_of_err hd]; exact hQ s1 hq

def Bound (K M B : Nat) (s s' : St) : Prop :=
  s'.rest.length ≤ s.rest.length ∧
  s'.alloc + K * s'.rest.length ≤ s.alloc + K * s.rest.length + M * s.rest.length + B

theorem Bound.of_le {s s' : St} (ha : s'.alloc ≤ s.alloc + B) (hr : s'.rest.length ≤ s.rest.length) :
    Bound K M B s s' := by
  have := Nat.mul_le_mul_left K hr
  exact ⟨hr, by omega⟩

theorem Bound.refl (s : St) : Bound K 0 0 s s :=
  .of_le (Nat.le_refl _) (Nat.le_refl _)

theorem Bound.mono {M' B' : Nat} {s s' : St} (h : Bound K M B s s') (hM : M ≤ M') (hB : B ≤ B') :
    Bound K M' B' s s' := by
  have := Nat.mul_le_mul_right s.rest.length hM
  exact ⟨h.1, by have := h.2; omega⟩

/-- a larger rate only makes the bytes consumed worth more -/
theorem Bound.monoK {K' : Nat} {s s' : St} (h : Bound K M B s s') (hK : K ≤ K') : Bound K' M B s s' := by
  obtain ⟨d, rfl⟩ := Nat.exists_eq_add_of_le hK
  obtain ⟨hr, hp⟩ := h
  have := Nat.mul_le_mul_left d hr
  refine ⟨hr, ?_⟩
  rw [Nat.add_mul, Nat.add_mul]
  omega

theorem Bound.trans {M1 B1 M2 B2 : Nat} {s s1 s2 : St} (h1 : Bound K M1 B1 s s1)
    (h2 : Bound K M2 B2 s1 s2) : Bound K (M1 + M2) (B1 + B2) s s2 := by
  have := Nat.mul_le_mul_left M2 h1.1
  refine ⟨Nat.le_trans h2.1 h1.1, ?_⟩
  rw [Nat.add_mul]
  have := h1.2
  have := h2.2
  omega

def Safe {α : Type} (K M B E : Nat) (d : D α) : Prop :=
  ∀ s : St, s.rest.length ≤ Facts.maxSlice →
    match d s with
    | .ok _ s' => Bound K M B s s'
    | .err _ s' => Bound K M (B + E) s s'
    | .panic _ => False
    | .hang => False

theorem Safe.ends {d : D α} (h : Safe K M B E d) {s : St} (hs : s.rest.length ≤ Facts.maxSlice) :
    (d s).Ends (fun _ => Bound K M B s) (Bound K M (B + E) s) :=
  h s hs

theorem Safe.of_ends {d : D α} (h : ∀ s : St, s.rest.length ≤ Facts.maxSlice →
    (d s).Ends (fun _ => Bound K M B s) (Bound K M (B + E) s)) : Safe K M B E d :=
  h

/-- what `Safe` says of a run from ANY state in terms of the outcome alone.  `s.alloc` stands last so that at a fresh
state (`alloc = 0`) the bound is `(K + M)·|rest| + (B + E)` by computation. -/
theorem Safe.total {d : D α} (h : Safe K M B E d) {s : St} (hs : s.rest.length ≤ Facts.maxSlice) :
    (d s).isPanic = false ∧ (d s).isHang = false ∧
      (d s).alloc ≤ (K + M) * s.rest.length + (B + E) + s.alloc := by
  have e : (K + M) * s.rest.length = K * s.rest.length + M * s.rest.length := Nat.add_mul ..
  rcases (h.ends hs).cases with ⟨a, s', hr, b⟩ | ⟨a, s', hr, b⟩ <;> rw [hr] <;>
    exact ⟨rfl, rfl, by have := b.2; simp only [Out.alloc]; omega⟩

theorem safe_pure (a : α) : Safe K M B E (pure a : D α) :=
  fun _ _ => Bound.of_le (Nat.le_add_right _ _) (Nat.le_refl _)

theorem safe_fail (e : Err) : Safe K M B E (fail e : D α) :=
  fun _ _ => Bound.of_le (Nat.le_add_right _ _) (Nat.le_refl _)

theorem safe_mono {d : D α} {M' B' E' : Nat} (h : Safe K M B E d) (hM : M ≤ M') (hB : B ≤ B')
    (hE : E ≤ E') : Safe K M' B' E' d :=
  .of_ends fun _ hs => (h.ends hs).mono (fun _ _ b => b.mono hM hB)
    (fun _ b => b.mono hM (Nat.add_le_add hB hE))

theorem safe_monoK {d : D α} {K' : Nat} (h : Safe K M B E d) (hK : K ≤ K') : Safe K' M B E d :=
  .of_ends fun _ hs => (h.ends hs).mono (fun _ _ b => b.monoK hK) (fun _ b => b.monoK hK)

theorem safe_bind_post {d : D α} {f : α → D β} {M1 B1 E1 M2 B2 E2 : Nat} (P : α → Prop)
    (h1 : Safe K M1 B1 E1 d) (hp : ∀ s a s', d s = .ok a s' → P a)
    (h2 : ∀ a, P a → Safe K M2 B2 E2 (f a)) :
    Safe K (M1 + M2) (B1 + B2) (max E1 E2) (d >>= f) := by
  refine .of_ends fun s hs => (h1.ends hs).bind (fun a s1 hd b1 => ?_) (fun s1 b1 => ?_)
  · exact ((h2 a (hp s a s1 hd)).ends (Nat.le_trans b1.1 hs)).mono (fun _ _ b2 => b1.trans b2)
      (fun _ b2 => (b1.trans b2).mono (Nat.le_refl _) (by omega))
  · exact b1.mono (Nat.le_add_right _ _) (by omega)

theorem safe_bind {d : D α} {f : α → D β} {M1 B1 E1 M2 B2 E2 : Nat}
    (h1 : Safe K M1 B1 E1 d) (h2 : ∀ a, Safe K M2 B2 E2 (f a)) :
    Safe K (M1 + M2) (B1 + B2) (max E1 E2) (d >>= f) :=
  safe_bind_post (fun _ => True) h1 (fun _ _ _ _ => trivial) (fun a _ => h2 a)

theorem safe_bind0_post {d : D α} {f : α → D β} (P : α → Prop) (h1 : Safe K 0 0 0 d)
    (hp : ∀ s a s', d s = .ok a s' → P a) (h2 : ∀ a, P a → Safe K M B E (f a)) :
    Safe K M B E (d >>= f) := by
  simpa using safe_bind_post P h1 hp h2

theorem safe_bind0 {d : D α} {f : α → D β} (h1 : Safe K 0 0 0 d) (h2 : ∀ a, Safe K M B E (f a)) :
    Safe K M B E (d >>= f) :=
  safe_bind0_post (fun _ => True) h1 (fun _ _ _ _ => trivial) (fun a _ => h2 a)

theorem safe_bind_tail0 {d : D α} {f : α → D β} (h1 : Safe K M B E d) (h2 : ∀ a, Safe K 0 0 0 (f a)) :
    Safe K M B E (d >>= f) := by
  simpa using safe_bind h1 h2

theorem safe_map_unit {d : D α} (h : Safe K M B E d) : Safe K M B E (do let _ ← d; pure ()) :=
  safe_bind_tail0 h (fun _ => safe_pure ())

variable {d : D α} {f : α → D β} {s : St}

theorem safe_ite {c : Prop} [Decidable c] {d' : D α} (h : Safe K M B E d) (h' : Safe K M B E d') :
    Safe K M B E (if c then d else d') := by
  split <;> assumption

theorem safe_emit (t : Tok) : Safe K 0 0 0 (emit t) :=
  fun _ _ => Bound.of_le (Nat.le_refl _) (Nat.le_refl _)

theorem safe_charge (n : Nat) : Safe K 0 n 0 (charge n) :=
  fun _ _ => Bound.of_le (Nat.le_refl _) (Nat.le_refl _)

theorem safe_remaining : Safe K 0 0 0 remaining :=
  fun _ _ => Bound.of_le (Nat.le_refl _) (Nat.le_refl _)

theorem safe_guardResult (fl : Nat) : Safe K 0 0 0 (guardResult fl) := by
  refine .of_ends fun s _ => ?_
  unfold guardResult
  split <;> exact Bound.refl s

theorem fixed_ends (n : Nat) (val : Bytes → α) (s : St) : (Spec.fixed n val s).Ends
    (fun _ s' => s'.alloc = s.alloc ∧ s'.rest.length + n = s.rest.length) (· = s) := by
  by_cases hn : s.rest.length < n
  · rw [Spec.fixed_of_lt hn]; rfl
  · rw [Spec.fixed_of_le (Nat.le_of_not_lt hn)]
    exact ⟨rfl, by show (s.rest.drop n).length + n = _; rw [List.length_drop]; omega⟩

/-- the typed reads of chunk_reader.go, whatever their width -/
theorem safe_fixed (n : Nat) (val : Bytes → α) : Safe K 0 0 0 (Spec.fixed n val) :=
  .of_ends fun s _ => (fixed_ends n val s).mono (fun _ _ h => .of_le (Nat.le_of_eq h.1) (by omega))
    (fun _ h => by subst h; exact Bound.refl _)

theorem safe_u8r : Safe K 0 0 0 u8r := by rw [u8r_eq]; exact safe_fixed _ _
theorem safe_u16r : Safe K 0 0 0 u16r := by rw [u16r_eq]; exact safe_fixed _ _
theorem safe_u32r : Safe K 0 0 0 u32r := by rw [u32r_eq]; exact safe_fixed _ _
theorem safe_u64r : Safe K 0 0 0 u64r := by rw [u64r_eq]; exact safe_fixed _ _

theorem u16r_lt (s : St) (a : Nat) (s' : St) (h : u16r s = .ok a s') : a < 2 ^ 16 := by
  rw [u16r_eq] at h
  rw [(fixed_ok h).1]
  unfold Spec.be16
  split
  · exact ofBe16_lt _ _
  · decide

theorem u32r_lt (s : St) (a : Nat) (s' : St) (h : u32r s = .ok a s') : a < 2 ^ 32 := by
  rw [u32r_eq] at h
  rw [(fixed_ok h).1]
  unfold Spec.be32
  split
  · exact ofBe32_lt _ _ _ _
  · decide

theorem safe_lenHdrK (t : UInt8) : Safe K 0 0 0 (lenHdrK t) :=
  safe_ite (safe_pure _) <| safe_ite (safe_bind0 safe_u8r fun _ => safe_pure _) <|
  safe_ite (safe_bind0 safe_u16r fun _ => safe_pure _) <| safe_ite (safe_bind0 safe_u32r fun _ => safe_pure _) <|
  safe_ite (safe_bind0 safe_u64r fun _ => safe_pure _) (safe_fail _)

/-- an interface-level read: the raw read, its trace entry, the value handed on -/
theorem safe_traced (tk : α → Tok) (g : α → β) (h : Safe K 0 0 0 d) :
    Safe K 0 0 0 (do let v ← d; emit (tk v); pure (g v)) :=
  safe_bind0 h fun _ => safe_bind0 (safe_emit _) fun _ => safe_pure _

theorem traced_fixed_ends (n : Nat) (val : Bytes → α) (tk : α → Tok) (g : α → β) (s : St) :
    ((do let v ← Spec.fixed n val; emit (tk v); pure (g v)) s).Ends
      (fun _ s' => s'.alloc = s.alloc ∧ s'.rest.length + n = s.rest.length) (· = s) :=
  (fixed_ends n val s).bind (fun _ _ _ h => h) (fun _ h => h)

theorem u8_ends (s : St) : (u8 s).Ends
    (fun _ s' => s'.alloc = s.alloc ∧ s'.rest.length + 1 = s.rest.length) (· = s) := by
  rw [u8, u8r_eq]; exact traced_fixed_ends ..

theorem bool_ends (s : St) : (bool s).Ends
    (fun _ s' => s'.alloc = s.alloc ∧ s'.rest.length + 1 = s.rest.length) (· = s) := by
  rw [bool, u8r_eq]; exact traced_fixed_ends ..

theorem u32_ends (s : St) : (u32 s).Ends
    (fun _ s' => s'.alloc = s.alloc ∧ s'.rest.length + 4 = s.rest.length) (· = s) := by
  rw [u32, u32r_eq]; exact traced_fixed_ends ..

/-- what `Bytes()` (`c = false`) / `StringVal()` (`c = true`) does to the Chunk: a success consumed the
tag byte and the body and requested at most the copy; an error requested nothing -/
theorem bytesRaw_ends (c : Bool) (hs : s.rest.length ≤ Facts.maxSlice) : (bytesRaw c s).Ends
    (fun b s' => s'.rest.length + b.length + 1 ≤ s.rest.length ∧ s'.alloc ≤ s.alloc + b.length)
    (fun s' => s'.rest.length ≤ s.rest.length ∧ s'.alloc ≤ s.alloc) := by
  unfold bytesRaw lenHdr
  rw [u8r_eq]
  refine Out.Ends.bind (P := fun _ s2 => s2.rest.length + 1 ≤ s.rest.length ∧ s2.alloc ≤ s.alloc)
    ((fixed_ends 1 _ s).bind (fun t s1 _ h1 => ?_) (fun _ h => h ▸ ⟨Nat.le_refl _, Nat.le_refl _⟩))
    (fun o s2 _ h2 => ?_) (fun _ h => h)
  · -- at rate 0 `Safe` says: nothing requested, nothing un-read
    refine ((safe_lenHdrK t).ends (K := 0) (Nat.le_trans (by omega) hs)).mono
      (fun _ _ b => ?_) (fun _ b => ?_) <;> have := b.1 <;> have := b.2 <;> exact ⟨by omega, by omega⟩
  · match o with
    | none => exact h2
    | some l =>
      simp only [bytesRawK]
      split
      · exact ⟨by omega, h2.2⟩
      split
      · exact ⟨by omega, h2.2⟩
      rw [bodyC_eq]
      unfold Spec.bodyC
      split
      · exact ⟨Nat.zero_le _, h2.2⟩
      · show _ + _ + 1 ≤ _ ∧ s2.alloc + _ ≤ _
        simp only [List.length_drop, List.length_take]
        split <;> exact ⟨by omega, by omega⟩

/-- the same with the trace entry of `Bytes()` (`tk = .by`) / `StringVal()` (`tk = .str`) -/
theorem tagged_ends (c : Bool) (tk : Bytes → Tok) (hs : s.rest.length ≤ Facts.maxSlice) :
    ((do let b ← bytesRaw c; emit (tk b); pure b : D Bytes) s).Ends
      (fun b s' => s'.rest.length + b.length + 1 ≤ s.rest.length ∧ s'.alloc ≤ s.alloc + b.length)
      (fun s' => s'.rest.length ≤ s.rest.length ∧ s'.alloc ≤ s.alloc) :=
  (bytesRaw_ends c hs).bind (fun _ _ _ h => h) (fun _ h => h)

theorem bytes_ends (hs : s.rest.length ≤ Facts.maxSlice) : (bytes s).Ends
    (fun b s' => s'.rest.length + b.length + 1 ≤ s.rest.length ∧ s'.alloc ≤ s.alloc + b.length)
    (fun s' => s'.rest.length ≤ s.rest.length ∧ s'.alloc ≤ s.alloc) :=
  tagged_ends false .by hs

theorem str_ends (hs : s.rest.length ≤ Facts.maxSlice) : (str s).Ends
    (fun b s' => s'.rest.length + b.length + 1 ≤ s.rest.length ∧ s'.alloc ≤ s.alloc + b.length)
    (fun s' => s'.rest.length ≤ s.rest.length ∧ s'.alloc ≤ s.alloc) :=
  tagged_ends true .str hs

/-- at any rate `K ≥ 1` the bytes consumed pay for the copy -/
theorem safe_tagged (hK : 1 ≤ K) (c : Bool) (tk : Bytes → Tok) :
    Safe K 0 0 0 (do let b ← bytesRaw c; emit (tk b); pure b : D Bytes) := by
  refine .of_ends fun s hs => (tagged_ends c tk hs).mono (fun b s' h => ?_) (fun _ h => .of_le h.2 h.1)
  have h1 := Nat.mul_le_mul_left K h.1
  rw [Nat.mul_add, Nat.mul_add] at h1
  have := Nat.le_mul_of_pos_left b.length hK
  exact ⟨by omega, by omega⟩

theorem safe_u8 : Safe K 0 0 0 u8 := safe_traced _ _ safe_u8r
theorem safe_u16 : Safe K 0 0 0 u16 := safe_traced _ _ safe_u16r
theorem safe_u32 : Safe K 0 0 0 u32 := safe_traced _ _ safe_u32r
theorem safe_u64 : Safe K 0 0 0 u64 := safe_traced _ _ safe_u64r
theorem safe_bool : Safe K 0 0 0 bool := safe_traced _ _ safe_u8r
theorem safe_bytes (hK : 1 ≤ K) : Safe K 0 0 0 bytes := safe_tagged hK false .by
theorem safe_str (hK : 1 ≤ K) : Safe K 0 0 0 str := safe_tagged hK true .str

theorem u16_lt (s : St) (a : Nat) (s' : St) (h : u16 s = .ok a s') : a < 2 ^ 16 := by
  obtain ⟨v, s1, h1, h2⟩ := bind_eq_ok h
  cases h2
  exact u16r_lt s _ s1 h1

theorem safe_readFullC (k : Nat) : Safe K 0 0 0 (readFullC k) := by
  rw [readFullC_eq]
  refine .of_ends fun s _ => ?_
  unfold Spec.readFullC
  simp only []
  split <;> exact Bound.of_le (Nat.le_refl _) (List.length_drop ▸ Nat.sub_le _ _)

theorem safe_idRead : Safe K 0 0 0 idRead :=
  safe_bind0 (safe_readFullC _) fun _ => safe_ite (safe_fail _) (safe_pure _)

theorem maxAlloc_val : maxAlloc = 281474976710656 := by decide

theorem mk_nat_ok (n size : Nat) (site : String) (s : St) (h : n * size ≤ maxAlloc) :
    mk (n : Int) size site s = .ok () { s with alloc := s.alloc + n * size } := by
  have hn : ¬ ((n : Int) < 0) := by omega
  have h2 : ¬ (n * size > maxAlloc) := by omega
  simp only [mk, hn, if_false, Int.toNat_natCast, h2]

theorem safe_mk_le {n N size : Nat} (site : String) (h : n ≤ N) (hN : N * size ≤ maxAlloc) :
    Safe K 0 (N * size) 0 (mk (n : Int) size site) := by
  intro s _
  have h1 : n * size ≤ N * size := Nat.mul_le_mul_right size h
  rw [mk_nat_ok n size site s (by omega)]
  exact Bound.of_le (by simp only []; omega) (Nat.le_refl _)

/-- the checked `make`: the count was compared with the bytes left, so the request is at most
`size` bytes per remaining byte -/
theorem safe_mkChecked {c size : Nat} (site : String) (hsz : Facts.maxSlice * size ≤ maxAlloc) :
    Safe K size 0 0 (mkChecked c size site) := by
  intro s hs
  unfold mkChecked
  by_cases hc : c > s.rest.length
  · rw [bind_of_err (show checkCount c s = .err .ueof s from if_pos hc)]
    exact Bound.of_le (Nat.le_refl _) (Nat.le_refl _)
  · have h1 : c * size ≤ s.rest.length * size := Nat.mul_le_mul_right size (by omega)
    have h3 : s.rest.length * size ≤ Facts.maxSlice * size := Nat.mul_le_mul_right size hs
    rw [bind_of_ok (show checkCount c s = .ok () s from if_neg hc), mk_nat_ok c size site s (by omega)]
    refine ⟨Nat.le_refl _, ?_⟩
    rw [Nat.mul_comm size]
    simp only []
    omega

theorem safe_rep {b : Nat} (h : Safe K 0 b E d) : (n : Nat) → Safe K 0 (n * b) E (rep n d)
  | 0 => safe_pure _
  | n + 1 => by
    have := safe_bind h fun a => safe_bind_tail0 (safe_rep h n) fun r => safe_pure (a :: r)
    exact safe_mono this (Nat.le_refl _) (by rw [Nat.add_mul]; omega) (by omega)

theorem safe_rep0 (h : Safe K 0 0 E d) (n : Nat) : Safe K 0 0 E (rep n d) := by
  simpa using safe_rep h n

def Consumes (d : D α) : Prop :=
  ∀ s a s', s.rest.length ≤ Facts.maxSlice → d s = .ok a s' → s'.rest.length < s.rest.length

theorem consumes_str : Consumes str :=
  fun _ _ _ hs h => by have := ((str_ends hs).ok h).1; omega

theorem consumes_bind (h1 : Consumes d)
    (h2 : ∀ a, Safe K M B E (f a)) : Consumes (d >>= f) := by
  intro s b s2 hs h
  obtain ⟨a, s1, e1, e2⟩ := bind_eq_ok h
  have l1 := h1 s a s1 hs e1
  have l2 := (((h2 a).ends (by omega)).ok e2).1
  omega

/-- a fixed charge after a decoder that consumed at least one byte is paid by raising `K` -/
theorem safe_consume_charge {K0 : Nat} (c : Nat) (hd : Safe K0 0 0 0 d)
    (hc : Consumes d) : Safe (K0 + c) 0 0 0 (do let a ← d; charge c; pure a) := by
  refine .of_ends fun s hs => (hd.ends hs).bind (fun a s1 e b => ?_) (fun s1 b => b.monoK (Nat.le_add_right _ _))
  have hlt := Nat.mul_le_mul_left c (hc s a s1 hs e)
  rw [Nat.mul_succ] at hlt
  refine ⟨b.1, ?_⟩
  have := b.2
  show s1.alloc + c + (K0 + c) * s1.rest.length ≤ _
  rw [Nat.add_mul, Nat.add_mul]
  omega

theorem safe_lenHdrT : Safe K 0 0 0 lenHdrT :=
  safe_bind0 safe_u8 fun _ =>
  safe_ite (safe_pure _) <| safe_ite (safe_bind0 safe_u8 fun _ => safe_pure _) <|
  safe_ite (safe_bind0 safe_u16 fun _ => safe_pure _) <| safe_ite (safe_bind0 safe_u32 fun _ => safe_pure _) <|
  safe_ite (safe_bind0 safe_u64 fun _ => safe_pure _) (safe_fail _)

/-- one entry: the string body plus the amortised append, paid by the ≥ 1 byte consumed -/
theorem safe_strList (hK : 129 ≤ K) : Safe K 0 0 0 strList := by
  unfold strList
  refine safe_bind0 safe_lenHdrT fun o => ?_
  match o with
  | none => exact safe_pure _
  | some n =>
    exact safe_ite (safe_pure _) <| safe_rep0
      (safe_monoK (safe_consume_charge appendCost (safe_str (Nat.le_refl 1)) consumes_str) hK) _

end XMT.Decode
