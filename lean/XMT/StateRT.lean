/-
  XMT.StateRT — real-time order for the interleaving machine of XMT.StateConc.

  `stepT` is `StateConc.step` plus ghost clocks (the machine itself is untouched: `stepT_sys`):
  `now` counts the schedule entries consumed, `started[t]` is the schedule position of the FIRST
  shared-memory access of the call thread `t` is in (the latest moment that can count as the
  call's invocation), and every call that takes effect is logged with that position (`inv`) and
  the position of its LAST access (`fin`, the earliest moment that can count as its return).
  "A returned before B was invoked" is therefore at most `A.fin < B.inv`; `TInv` shows that the
  log (which is the linearization `Sys.hist` of `Props.C13.linearizable`) is strictly sorted by `fin` and
  that `inv ≤ fin`, hence it respects that order.
-/
import XMT.StateConcLemmas
namespace XMT.StateRT
open XMT.StateConc

structure TEv where
  ev : Ev
  inv : Nat
  fin : Nat

structure TSys where
  sys : Sys
  now : Nat := 0
  started : List (Option Nat)
  thist : List TEv := []

def TSys.init (w : Nat) (progs : List (List Op)) : TSys :=
  { sys := Sys.init w progs, started := progs.map fun _ => none }

/-- entry `t` of the schedule performs an access (the thread exists and has a call left) -/
def active (s : Sys) (t : Nat) : Bool :=
  match s.thr[t]? with
  | some th => !th.ops.isEmpty
  | none => false

/-- position of the first access of the call thread `t` is in, if this entry is not the first -/
def startOf (s : TSys) (t : Nat) : Nat :=
  match s.started[t]? with
  | some (some i) => i
  | _ => s.now

def stepT (s : TSys) (t : Nat) : TSys :=
  match (step s.sys t).hist.drop s.sys.hist.length with
  | e :: _ =>
    { sys := step s.sys t, now := s.now + 1, started := s.started.set t none,
      thist := s.thist ++ [⟨e, startOf s t, s.now⟩] }
  | [] =>
    { sys := step s.sys t, now := s.now + 1,
      started := if active s.sys t then s.started.set t (some (startOf s t)) else s.started,
      thist := s.thist }

def runT (s : TSys) (sched : List Nat) : TSys := sched.foldl stepT s

/-- the ghost clocks do not influence the machine -/
theorem stepT_sys (s : TSys) (t : Nat) : (stepT s t).sys = step s.sys t := by
  unfold stepT; split <;> rfl

theorem runT_sys (s : TSys) (sched : List Nat) : (runT s sched).sys = run s.sys sched :=
  (List.foldl_hom TSys.sys fun s t => (stepT_sys s t).symm).symm

theorem stepT_now (s : TSys) (t : Nat) : (stepT s t).now = s.now + 1 := by
  unfold stepT; split <;> rfl

theorem runT_now (s : TSys) (sched : List Nat) : (runT s sched).now = s.now + sched.length := by
  induction sched generalizing s with
  | nil => rfl
  | cons t ts ih =>
    show (runT (stepT s t) ts).now = _
    rw [ih, stepT_now, List.length_cons]; omega

structure TInv (s : TSys) : Prop where
  erase : s.thist.map (·.ev) = s.sys.hist
  bound : ∀ te ∈ s.thist, te.inv ≤ te.fin ∧ te.fin < s.now
  sorted : s.thist.Pairwise (fun a b => a.fin < b.fin)
  start : ∀ t i, s.started[t]? = some (some i) → i < s.now ∧ ∀ te ∈ s.thist, te.ev.tid = t → te.fin < i
  prog : s.thist.Pairwise (fun a b => a.ev.tid = b.ev.tid → a.fin < b.inv)

theorem tinv_init (w : Nat) (progs : List (List Op)) : TInv (TSys.init w progs) := by
  refine ⟨rfl, by simp [TSys.init], by simp [TSys.init], ?_, by simp [TSys.init]⟩
  intro t i h
  simp only [TSys.init, List.getElem?_map, Option.map_eq_some_iff] at h
  obtain ⟨_, _, h⟩ := h
  cases h

theorem startOf_spec {s : TSys} (hi : TInv s) (t : Nat) :
    startOf s t ≤ s.now ∧ ∀ te ∈ s.thist, te.ev.tid = t → te.fin < startOf s t := by
  unfold startOf
  split
  · rename_i i h
    have := hi.start t i h
    exact ⟨by omega, this.2⟩
  · exact ⟨Nat.le_refl _, fun te hte _ => (hi.bound te hte).2⟩

theorem tinv_step {s : TSys} (hi : TInv s) (t : Nat) : TInv (stepT s t) := by
  have hso := startOf_spec hi t
  -- what an entry of `started` promises survives the tick of the clock
  have hold : ∀ t' i, s.started[t']? = some (some i) →
      i < s.now + 1 ∧ ∀ te ∈ s.thist, te.ev.tid = t' → te.fin < i :=
    fun t' i h => ⟨Nat.lt_succ_of_lt (hi.start t' i h).1, (hi.start t' i h).2⟩
  have hbound : ∀ te ∈ s.thist, te.inv ≤ te.fin ∧ te.fin < s.now + 1 :=
    fun te hte => ⟨(hi.bound te hte).1, Nat.lt_succ_of_lt (hi.bound te hte).2⟩
  unfold stepT
  rcases step_hist s.sys t with h | ⟨op, r, h⟩
  · -- nothing took effect
    rw [h, List.drop_length]
    refine ⟨h ▸ hi.erase, hbound, hi.sorted, fun t' i hst => ?_, hi.prog⟩
    dsimp only at hst
    split at hst
    · rcases getElem?_set_cases hst with ⟨rfl, h'⟩ | ⟨_, h'⟩
      · cases h'; exact ⟨Nat.lt_succ_of_le hso.1, hso.2⟩
      · exact hold t' i h'
    · exact hold t' i hst
  · -- a call of thread t took effect at this access: it is logged from `startOf s t` to now
    rw [h, List.drop_left]
    refine ⟨?_, fun te hte => ?_, ?_, fun t' i hst => ?_, ?_⟩
    · show (s.thist ++ [TEv.mk ⟨t, op, r⟩ (startOf s t) s.now]).map (·.ev) = (step s.sys t).hist
      rw [h, List.map_append, hi.erase]; rfl
    · rcases List.mem_append.mp hte with hte | hte
      · exact hbound te hte
      · exact List.mem_singleton.mp hte ▸ ⟨hso.1, Nat.lt_succ_self _⟩
    · exact List.pairwise_append.mpr ⟨hi.sorted, List.pairwise_singleton _ _,
        fun a ha b hb => List.mem_singleton.mp hb ▸ (hi.bound a ha).2⟩
    · rcases getElem?_set_cases hst with ⟨_, h'⟩ | ⟨htt, h'⟩
      · cases h'
      · refine ⟨(hold t' i h').1, fun te hte htid => ?_⟩
        rcases List.mem_append.mp hte with hte | hte
        · exact (hold t' i h').2 te hte htid
        · cases List.mem_singleton.mp hte; exact absurd htid htt
    · exact List.pairwise_append.mpr ⟨hi.prog, List.pairwise_singleton _ _,
        fun a ha b hb htid => by cases List.mem_singleton.mp hb; exact hso.2 a ha htid⟩

theorem tinv_run {s : TSys} (hi : TInv s) (sched : List Nat) : TInv (runT s sched) :=
  List.foldlRecOn (motive := TInv) sched stepT hi fun _ h t _ => tinv_step h t

theorem tinv_reach (w : Nat) (progs : List (List Op)) (sched : List Nat) :
    (runT (TSys.init w progs) sched).sys = run (Sys.init w progs) sched ∧
    TInv (runT (TSys.init w progs) sched) ∧ (runT (TSys.init w progs) sched).now = sched.length :=
  ⟨runT_sys _ sched, tinv_run (tinv_init w progs) sched, (runT_now _ sched).trans (Nat.zero_add _)⟩

theorem realtime_of_sorted {l : List TEv} (hs : l.Pairwise (fun a b => a.fin < b.fin))
    (hb : ∀ te ∈ l, te.inv ≤ te.fin) (i j : Nat) (hi : i < l.length) (hj : j < l.length)
    (h : l[i].fin < l[j].inv) : i < j := by
  rcases Nat.lt_or_ge i j with hlt | hge
  · exact hlt
  · exfalso
    have hbj := hb l[j] (List.getElem_mem hj)
    rcases Nat.eq_or_lt_of_le hge with heq | hlt
    · subst heq; omega
    · have := List.pairwise_iff_getElem.mp hs j i hj hi hlt
      omega

end XMT.StateRT
