/-
  XMT.TieXlateCfg — `Config.next` (c2/cfg/convert.go), the stride function of the profile parser:
  the hand-written model `XMT.Cfg.next` against the definition `Facts.x_cfg_Config_next` that
  `xmth facts` (go/cmd/xmth/xlate.go + xlate2_s3.go) REGENERATES from the current source on every run
  — the whole body: the offset guard, `switch cBit(c[i])` with its case labels in source order
  (fallthrough clauses merged), the per-arm guards, the 16-bit length expressions with Go's
  precedence taken from the parsed tree, both bounded loops (as folds over `x` steps). `int` is `Int`
  with an explicit int64 wrap after every operator; `c[k]` is a checked read: a read outside the
  slice makes the result `none` (Go: index out of range panic); the value is Go's result, `-1` included.

  Proved here for ALL byte strings (shorter than 2^62) and ALL offsets: negative offsets, the offset
  guard, the failing tag read at `i = len(c)`, every fixed-stride tag (30 labels) and the `valXOR`/
  `valHost` arm (the arm of fix 262ef21). The arms valAES, valMuTLS, valTLSxCA, valTLSCert, valWC2,
  valDNS and the no-label case are tied by the differential group `xnext` (the regenerated definition,
  run by the Lean driver, against the real function) and by the existing C09 run of the hand model;
  their equality proof is OPEN (see the comment at `x_next_eq_partial`).
-/
import XMT.Cfg
import XMT.Generated.Facts
namespace XMT.TieXlateCfg
open XMT.Cfg

def conv : M (Option Nat) → Option Int
  | .ok (some n) => some (n : Int)
  | .ok none => some (-1)
  | .error _ => none

theorem wrap_id (x : Int) (h1 : 0 ≤ x) (h2 : x < 9223372036854775808) :
    (x + 9223372036854775808) % 18446744073709551616 - 9223372036854775808 = x := by omega

theorem rdI (c : Bytes) (k : Nat) :
    (if (k : Int) < 0 then none else c[Int.toNat (k : Int)]?) = c[k]? := by
  have : ¬ (k : Int) < 0 := by omega
  simp [this]

theorem byteI (b : UInt8) : (Int.ofNat b.toNat + 9223372036854775808) % 18446744073709551616 - 9223372036854775808 = (b.toNat : Int) := by
  have := b.toNat_lt
  show ((b.toNat : Int) + 9223372036854775808) % 18446744073709551616 - 9223372036854775808 = (b.toNat : Int)
  omega

theorem byteSh (b : UInt8) : ((b.toNat : Int) * 256 + 9223372036854775808) % 18446744073709551616 - 9223372036854775808 = ((b.toNat <<< 8 : Nat) : Int) := by
  have := b.toNat_lt
  rw [Nat.shiftLeft_eq]
  omega

theorem add16 (n : Nat) (a b : UInt8) (hn : n < 2^62 + 70000 * 4) :
    ((n : Int) + Int.ofNat (a.toNat ||| b.toNat <<< 8) + 9223372036854775808) % 18446744073709551616 - 9223372036854775808 =
      ((n + (a.toNat ||| b.toNat <<< 8) : Nat) : Int) := by
  have : a.toNat ||| b.toNat <<< 8 < 65536 := ofBe16_lt b a
  show ((n : Int) + ((a.toNat ||| b.toNat <<< 8 : Nat) : Int) + 9223372036854775808) % 18446744073709551616 - 9223372036854775808 = _
  omega

theorem next_neg (c : Bytes) (i : Int) (h : i < 0) : Facts.x_cfg_Config_next c i = some (-1) := by
  unfold Facts.x_cfg_Config_next
  exact if_pos (by simp [h])

/-- the tags whose arm of `next` is proved equal below: the fixed strides and valXOR / valHost -/
def provedTags : List Nat :=
  [208, 209, 210, 211, 170, 171, 172, 174, 173, 167, 250, 192, 193, 194, 195, 196, 197, 224,
   176, 226, 162, 163, 178, 168, 169, 213, 165, 161, 164, 166, 212, 160]

theorem off_guard (c : Bytes) (i : Nat) :
    (decide ((i : Int) > Int.ofNat c.length) || decide ((i : Int) < 0)) = true ↔ i > c.length := by
  simp only [Bool.or_eq_true, decide_eq_true_eq, Int.ofNat_eq_natCast]
  constructor <;> intro h <;> omega

theorem len_guard (c : Bytes) (n : Nat) :
    (decide ((n : Int) ≥ Int.ofNat c.length) = true) = (n ≥ c.length) := by simp

theorem wrap_add (i : Nat) (k : Int) (n : Nat) (hk : k = n) (h : i + n < 2^63) :
    ((i : Int) + k + 9223372036854775808) % 18446744073709551616 - 9223372036854775808 = ((i + n : Nat) : Int) := by
  omega

theorem ite_eq_of {α} {p : Prop} [Decidable p] {a b r : α} (ha : p → a = r) (hb : ¬p → b = r) :
    (if p then a else b) = r :=
  iteInduction (motive := (· = r)) ha hb

/-- an arm `return i + k` of the regenerated function against an arm of the model with that value -/
theorem ret_add (c : Bytes) (i k t : Nat) (h : i + k < 2^63) (ht : nextArm c i t = pure (some (i + k))) :
    some (((i : Int) + (k : Int) + 9223372036854775808) % 18446744073709551616 - 9223372036854775808) =
      conv (nextArm c i t) := by
  rw [ht]; exact congrArg some (wrap_add i k k rfl h)

-- OPEN: x_next_eq — the same statement without the hypothesis `hT` (all tags: the arms valAES, valMuTLS,
-- valTLSxCA, valTLSCert, the loops of valWC2 / valDNS and the no-label case):
--
--   theorem x_next_eq (c : Bytes) (i : Nat) (hlen : c.length < 2^62) :
--       Facts.x_cfg_Config_next c (i : Int) = conv (next c i)

/-- For every byte string and every non-negative offset whose tag byte (if there is one) is one of
`provedTags`: the regenerated `next` and the hand model agree — same value, same `-1`, same panic. -/
theorem x_next_eq_partial (c : Bytes) (i : Nat) (hlen : c.length < 2^62)
    (hT : ∀ b, c[i]? = some b → b.toNat ∈ provedTags) :
    Facts.x_cfg_Config_next c (i : Int) = conv (next c i) := by
  unfold Facts.x_cfg_Config_next next
  by_cases hi : i > c.length
  · rw [if_pos ((off_guard c i).2 hi), if_pos hi]; rfl
  rw [if_neg (mt (off_guard c i).1 hi), if_neg hi, rdI]
  cases hb : c[i]? with
  | none => simp only [Option.bind_none, rd, hb]; rfl
  | some b =>
    have ht : b.toNat % 2^8 = b.toNat := Nat.mod_eq_of_lt b.toNat_lt
    simp only [Option.bind_some, rd, hb, ht]
    show _ = conv (nextArm c i b.toNat)
    have hT' := hT b hb
    generalize b.toNat = t at hT' ⊢
    -- The regenerated body is large: walk its `if` chain from the outside (`ite_eq_of` only looks at
    -- the head), so that no step rewrites inside the arms that are not reached. In each arm the
    -- condition lists the case labels; on each label the model's arm is found by evaluation.
    refine ite_eq_of (fun c1 => ?_) (fun c1 => ?_)
    · simp only [Bool.or_eq_true, decide_eq_true_eq] at c1
      repeat' rcases c1 with c1 | c1
      all_goals exact ret_add c i 1 _ (by omega) rfl
    refine ite_eq_of (fun c2 => ?_) (fun c2 => ?_)
    · simp only [Bool.or_eq_true, decide_eq_true_eq] at c2
      repeat' rcases c2 with c2 | c2
      all_goals exact ret_add c i 2 _ (by omega) rfl
    refine ite_eq_of (fun c3 => ?_) (fun c3 => ?_)
    · simp only [Bool.or_eq_true, decide_eq_true_eq] at c3
      repeat' rcases c3 with c3 | c3
      all_goals exact ret_add c i 6 _ (by omega) rfl
    refine ite_eq_of (fun c4 => ?_) (fun c4 => ?_)
    · simp only [Bool.or_eq_true, decide_eq_true_eq] at c4
      repeat' rcases c4 with c4 | c4
      all_goals exact ret_add c i 9 _ (by omega) rfl
    refine ite_eq_of (fun c5 => ?_) (fun c5 => ?_)
    · cases of_decide_eq_true c5
      exact ret_add c i 5 _ (by omega) rfl
    refine ite_eq_of (fun c6 => ?_) (fun c6 => ?_)
    · cases of_decide_eq_true c6  -- valWC2 is not one of `provedTags`
      exact absurd hT' (by decide)
    refine ite_eq_of (fun c7 => ?_) (fun c7 => ?_)
    · have e : nextArm c i t = nextXorHost c i := by
        simp only [Bool.or_eq_true, decide_eq_true_eq] at c7
        rcases c7 with rfl | rfl <;> rfl
      rw [e]; unfold nextXorHost
      simp only [wrap_add i 1 1 rfl (by omega), wrap_add i 2 2 rfl (by omega), wrap_add i 3 3 rfl (by omega),
        rdI, len_guard]
      by_cases g : i + 3 ≥ c.length
      · rw [if_pos g, if_pos g]; rfl
      · rw [if_neg g, if_neg g]
        have r1 : c[i + 1]? = some c[i + 1] := List.getElem?_eq_getElem (by omega)
        have r2 : c[i + 2]? = some c[i + 2] := List.getElem?_eq_getElem (by omega)
        have e1 := byteSh c[i + 1]
        have e2 := add16 (i + 3) c[i + 2] c[i + 1] (by omega)
        simp only [Int.cast_ofNat_Int] at e1 e2
        simp only [r1, r2, Option.bind_some, rd, rd16, byteI, e1, Int.toNat_natCast, e2]
        rfl
    -- every other label of `provedTags` was the condition of one of the arms above
    exfalso
    simp only [provedTags, List.mem_cons, List.not_mem_nil, or_false] at hT'
    repeat' rcases hT' with hT' | hT'
    all_goals first | exact c1 rfl | exact c2 rfl | exact c3 rfl | exact c4 rfl | exact c5 rfl | exact c7 rfl

end XMT.TieXlateCfg
