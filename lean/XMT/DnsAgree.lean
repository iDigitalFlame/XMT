/-
  XMT.DnsAgree — the two Lean models of the DNS reader (`DNSTransform.Read`, c2/transform/dns.go)
  agree on every successful run:
    (A) `XMT.Dns.read`         (C07 model; keeps the outcomes of the reader before its repair, panics as values)
    (B) `XMT.Decode.Dns.read`  (C04 model of the REPAIRED reader, tied to the Go code by a differential run)
  `read_agrees_iff`: B succeeds with payload `w` exactly when A returns no error and chunks whose
  concatenation is `w`; one such statement per loop of the reader leads up to it.  Corollary
  `dns_roundtrip_c04`: the C07 round trip holds against model B, so that B is the one reader model the
  round trip rests on.
-/
import XMT.DecodeDns
import XMT.DnsRoundtrip

namespace XMT.DnsAgree

theorem idxA_ok {b : Bytes} {i : Nat} {v : UInt8} (h : Dns.idx b i = .ok v) : i < b.length := by
  by_cases hl : i < b.length
  · exact hl
  · rw [Dns.idx_ge (by omega)] at h; cases h

theorem toNat_eq_zero (v : UInt8) : v.toNat = 0 ↔ v = 0 := by
  rw [← UInt8.toNat_inj]; simp

/-- With fuel that cannot run out in either model the two label walks succeed together, at the
same offset. -/
theorem labels_iff (f f' : Nat) (b : Bytes) (s i s' : Nat) (h1 : 1 ≤ f) (h1' : 1 ≤ f')
    (hf : b.length + 2 ≤ f + s) (hf' : b.length + 2 ≤ f' + s) :
    Decode.Dns.labels f b s i = .ok s' ↔ Dns.nameLoop b f' i s = .ok s' := by
  induction f generalizing f' s i with
  | zero => omega
  | succ n ih =>
    obtain ⟨m, rfl⟩ : ∃ m, f' = m + 1 := ⟨f' - 1, by omega⟩
    unfold Decode.Dns.labels Dns.nameLoop
    by_cases hi : i < 64
    · simp only [hi, not_true_eq_false, if_false, if_true]
      by_cases h2 : i ≥ b.length ∨ s ≥ b.length
      · -- B stops here; A stops here or at the index `b[s]` one past the end
        simp only [h2, if_true]
        refine ⟨fun h => (by cases h), fun h => ?_⟩
        split at h
        · cases h
        · rw [Dns.idx_ge (by omega)] at h; cases h
      · have hs : s < b.length := by omega
        simp only [h2, show ¬ (i ≥ b.length ∨ s > b.length) by omega, if_false, Decode.Dns.idx_lt hs,
          Dns.idx_lt hs, Except.ok_bind, toNat_eq_zero]
        by_cases hv : b[s] = 0
        · simp [hv]
        · simp only [hv, if_false]
          exact ih _ _ _ (by omega) (by omega) (by omega) (by omega)
    · simp [hi]

theorem questions_iff (q : Nat) (b : Bytes) (s s' : Nat) (hs : 1 ≤ s) :
    Decode.Dns.questions q b s = .ok s' ↔ Dns.questions b q s = .ok s' := by
  induction q generalizing s with
  | zero => simp [Decode.Dns.questions, Dns.questions]
  | succ n ih =>
    have hl := fun s1 => labels_iff (b.length + 1) (b.length + 2) b s 0 s1 (by omega) (by omega) (by omega) (by omega)
    unfold Decode.Dns.questions Dns.questions
    cases hA : Dns.nameLoop b (b.length + 2) 0 s with
    | ok s1 =>
      simp only [(hl s1).mpr hA, Except.ok_bind]
      split
      · simp
      · exact ih _ (by omega)
    | error e =>
      cases hB : Decode.Dns.labels (b.length + 1) b s 0 with
      | ok s1 => rw [(hl s1).mp hB] at hA; cases hA
      | _ => simp [bind, Except.bind]

/-- model A goes on after an index expression only if the index was in range -/
theorem bind_idxA_ok {α : Type} {b : Bytes} {i : Nat} {f : UInt8 → Except Dns.DErr α} {r : α}
    (h : (Dns.idx b i >>= f) = .ok r) : ∃ hi : i < b.length, f b[i] = .ok r := by
  by_cases hi : i < b.length
  · rw [Dns.idx_lt hi] at h; exact ⟨hi, h⟩
  · rw [Dns.idx_ge (by omega)] at h; cases h

theorem answers_iff (c : Nat) (b : Bytes) (s s' : Nat) :
    Decode.Dns.answers c b s = .ok s' ↔ Dns.answers b c s = .ok s' := by
  induction c generalizing s with
  | zero => simp [Decode.Dns.answers, Dns.answers]
  | succ n ih =>
    unfold Decode.Dns.answers Dns.answers
    by_cases hy : s + 10 + 1 < b.length
    · have hx : s + 10 < b.length := by omega
      simp only [show ¬ (s + 10 + 2 > b.length) by omega, show ¬ (s + 10 > b.length) by omega, if_false,
        Decode.Dns.idx_lt hx, Decode.Dns.idx_lt hy, Dns.idx_lt hx, Dns.idx_lt hy, Except.ok_bind]
      exact ih _
    · -- B stops at its guard, A at its own or at one of the two index expressions
      simp only [show s + 10 + 2 > b.length by omega, if_true]
      refine ⟨fun h => (by cases h), fun h => ?_⟩
      split at h
      · cases h
      · obtain ⟨_, h⟩ := bind_idxA_ok h
        obtain ⟨hy', _⟩ := bind_idxA_ok h
        exact absurd hy' hy

/-- the record-header test on `int(b[i])` (B) is the one on the bytes (A) -/
theorem hdr_iff (a0 a1 a2 a3 a4 a5 : UInt8) :
    (a0.toNat ≠ 0xC0 ∨ a1.toNat ≠ 0x0C ∨ a2.toNat ≠ 0 ∨ a3.toNat ≠ 0xA ∨ a4.toNat ≠ 0 ∨ a5.toNat ≠ 1) ↔
    (a0 ≠ 0xC0 ∨ a1 ≠ 0x0C ∨ a2 ≠ 0 ∨ a3 ≠ 0xA ∨ a4 ≠ 0 ∨ a5 ≠ 1) := by
  simp [← UInt8.toNat_inj]

/-- What B appends to its accumulator `w` is the concatenation of A's chunks. -/
theorem records_iff (t : Nat) (b : Bytes) (s : Nat) (w : Bytes) (n : Nat) (w' : Bytes) :
    Decode.Dns.additional t b s w = .ok (n, w') ↔
      ∃ ws, Dns.records b t s = .ok (ws, n) ∧ w' = w ++ ws.flatten := by
  induction t generalizing s w with
  | zero =>
    simp only [Decode.Dns.additional, Dns.records, Decode.Dns.R.ok.injEq, Except.ok.injEq, Prod.mk.injEq]
    constructor
    · rintro ⟨rfl, rfl⟩; exact ⟨[], ⟨rfl, rfl⟩, by simp⟩
    · rintro ⟨ws, ⟨rfl, rfl⟩, rfl⟩; simp
  | succ k ih =>
    unfold Decode.Dns.additional Dns.records
    by_cases h12 : s + 12 ≤ b.length
    · have g0 : s < b.length := by omega
      have g1 : s + 1 < b.length := by omega
      have g2 : s + 2 < b.length := by omega
      have g3 : s + 3 < b.length := by omega
      have g4 : s + 4 < b.length := by omega
      have g5 : s + 5 < b.length := by omega
      have gx : s + 10 < b.length := by omega
      have gy : s + 10 + 1 < b.length := by omega
      simp only [show ¬ (s + 12 > b.length) by omega, show ¬ (s + 6 ≥ b.length) by omega, if_false,
        Decode.Dns.idx_lt g0, Decode.Dns.idx_lt g1, Decode.Dns.idx_lt g2, Decode.Dns.idx_lt g3,
        Decode.Dns.idx_lt g4, Decode.Dns.idx_lt g5, Decode.Dns.idx_lt gx, Decode.Dns.idx_lt gy,
        Dns.idx_lt g0, Dns.idx_lt g1, Dns.idx_lt g2, Dns.idx_lt g3, Dns.idx_lt g4, Dns.idx_lt g5, Dns.idx_lt gx,
        Dns.idx_lt gy, bind, Except.bind, hdr_iff, Dns.be, show s + 10 + 2 = s + 12 from rfl]
      split
      · simp
      · split
        · simp
        · rw [Decode.Dns.sliceP_some (by omega) (by omega), Nat.add_sub_cancel_left]
          simp only [ih]
          cases Dns.records b k (s + 12 + (b[s + 10].toNat <<< 8 ||| b[s + 10 + 1].toNat)) with
          | error e => simp
          | ok r => obtain ⟨ws0, n0⟩ := r; simp [and_assoc]
    · -- B stops at its guard; A at its weaker guard, the header test, an index or the slice
      simp only [show s + 12 > b.length by omega, if_true]
      refine ⟨fun h => (by cases h), fun ⟨ws, h, _⟩ => ?_⟩
      split at h
      · cases h
      · obtain ⟨_, h⟩ := bind_idxA_ok h; obtain ⟨_, h⟩ := bind_idxA_ok h; obtain ⟨_, h⟩ := bind_idxA_ok h
        obtain ⟨_, h⟩ := bind_idxA_ok h; obtain ⟨_, h⟩ := bind_idxA_ok h; obtain ⟨_, h⟩ := bind_idxA_ok h
        split at h
        · cases h
        · obtain ⟨_, h⟩ := bind_idxA_ok h; obtain ⟨_, h⟩ := bind_idxA_ok h
          split at h
          · cases h
          · omega

theorem decodePacket_iff (b : Bytes) (n : Nat) (w : Bytes) :
    Decode.Dns.decodePacket b = .ok (n, w) ↔ ∃ ws, Dns.decodePacket b = .ok (ws, n) ∧ ws.flatten = w := by
  unfold Decode.Dns.decodePacket Dns.decodePacket
  by_cases g12 : 12 < b.length
  · have g4 : 4 < b.length := by omega
    have g5 : 5 < b.length := by omega
    have g6 : 6 < b.length := by omega
    have g7 : 7 < b.length := by omega
    have g10 : 10 < b.length := by omega
    have g11 : 11 < b.length := by omega
    simp only [show ¬ (b.length < 13) by omega, if_false, Decode.Dns.idx_lt g4, Decode.Dns.idx_lt g5,
      Decode.Dns.idx_lt g6, Decode.Dns.idx_lt g7, Decode.Dns.idx_lt g10, Decode.Dns.idx_lt g11,
      Decode.Dns.idx_lt g12, Dns.idx_lt g4, Dns.idx_lt g5, Dns.idx_lt g6, Dns.idx_lt g7, Dns.idx_lt g10,
      Dns.idx_lt g11, Dns.idx_lt g12, bind, Except.bind, Dns.be]
    cases hq : Dns.questions b (b[4].toNat <<< 8 ||| b[5].toNat) 12 with
    | ok s =>
      simp only [(questions_iff _ b 12 s (by omega)).mpr hq]
      cases ha : Dns.answers b (b[6].toNat <<< 8 ||| b[7].toNat) s with
      | ok s2 =>
        simp only [(answers_iff _ b s s2).mpr ha, records_iff, List.nil_append]
        exact exists_congr fun ws => and_congr_right fun _ => eq_comm
      | error e =>
        cases hB : Decode.Dns.answers (b[6].toNat <<< 8 ||| b[7].toNat) b s with
        | ok s2 => rw [(answers_iff _ b s s2).mp hB] at ha; cases ha
        | _ => simp
    | error e =>
      cases hB : Decode.Dns.questions (b[4].toNat <<< 8 ||| b[5].toNat) b 12 with
      | ok s => rw [(questions_iff _ b 12 s (by omega)).mp hB] at hq; cases hq
      | _ => simp
  · simp [show b.length < 13 by omega, Dns.idx_ge (show b.length ≤ 12 by omega), bind, Except.bind]

/-- The loop over messages, with fuel that cannot run out in either model (each message consumes at
least 12 bytes): B ends, necessarily at or past the end of the input, exactly when A does. -/
theorem packets_iff (f f' : Nat) (b : Bytes) (i : Nat) (w : Bytes) (n : Nat) (w' : Bytes) (h1 : 1 ≤ f)
    (hf : b.length + 1 ≤ f + i) (hf' : b.length ≤ f' + i) :
    Decode.Dns.packets f b i w = .ok (n, w') ↔
      ∃ ws, Dns.decodePackets b f' i = (ws, n, none) ∧ b.length ≤ n ∧ w' = w ++ ws.flatten := by
  induction f generalizing f' i w with
  | zero => omega
  | succ m ih =>
    unfold Decode.Dns.packets
    by_cases hi : i < b.length
    · obtain ⟨g, rfl⟩ : ∃ g, f' = g + 1 := ⟨f' - 1, by omega⟩
      unfold Dns.decodePackets
      simp only [hi, not_true_eq_false, if_false, if_true, Decode.Dns.sliceFromP_some (Nat.le_of_lt hi)]
      cases hA : Dns.decodePacket (b.drop i) with
      | ok r =>
        obtain ⟨ws1, k⟩ := r
        have hB := (decodePacket_iff _ k ws1.flatten).mpr ⟨ws1, hA, rfl⟩
        have hk := (Decode.Dns.decodePacket_fine (b.drop i)).2 _ hB
        simp only [hB, ih g (i + k) (w ++ ws1.flatten) (by omega) (by omega) (by omega)]
        obtain ⟨ws2, n2, e2⟩ := Dns.decodePackets b g (i + k)
        simp [and_assoc]
      | error e =>
        cases hB : Decode.Dns.decodePacket (b.drop i) with
        | ok r =>
          obtain ⟨ws, hA', _⟩ := (decodePacket_iff _ r.1 r.2).mp hB
          rw [hA] at hA'; cases hA'
        | _ => simp
    · simp only [hi, not_false_eq_true, if_true, Dns.decodePackets_of_le (Nat.le_of_not_lt hi)]
      constructor
      · rintro ⟨⟩; exact ⟨[], rfl, by omega, by simp⟩
      · rintro ⟨ws, ⟨⟩, _, rfl⟩; simp

/-- Each `Read` succeeds exactly when its loop stops at the end of the message (`read_eq_ok_iff`, twice),
and the loops agree (`packets_iff`).  The direction from A to B is the one the round trip needs. -/
theorem read_agrees_iff (b w : Bytes) :
    Decode.Dns.read b = .ok w ↔ ∃ ws, Dns.read b = (ws, none) ∧ ws.flatten = w := by
  rw [Decode.Dns.read_eq_ok_iff,
    packets_iff (b.length + 1) b.length b 0 [] _ w (by omega) (by omega) (by omega)]
  simp only [Dns.read_eq_ok_iff, Nat.le_refl, true_and, List.nil_append]
  exact exists_congr fun ws => and_congr_right fun _ => eq_comm

/-- B never panics or hangs (`read_fine`), so it fails wherever it does not succeed; A's result carries an
error value (`ueof`, `noProgress` or one of its pre-repair `panic`s) wherever it is not a success;
`read_agrees_iff` does the rest. -/
theorem read_err_iff (b : Bytes) :
    (∃ e, Decode.Dns.read b = .err e) ↔ ∃ ws e, Dns.read b = (ws, some e) := by
  have hf := Decode.Dns.read_fine b
  have hi := fun w => read_agrees_iff b w
  generalize Dns.read b = rA at hi ⊢
  obtain ⟨ws, oe⟩ := rA
  cases hB : Decode.Dns.read b with
  | ok w =>
    obtain ⟨ws', h, _⟩ := (hi w).mp hB
    cases h
    simp
  | err e' =>
    cases oe with
    | some e => exact ⟨fun _ => ⟨ws, e, rfl⟩, fun _ => ⟨e', rfl⟩⟩
    | none => rw [(hi _).mpr ⟨ws, rfl, rfl⟩] at hB; cases hB
  | _ => rw [hB] at hf; exact absurd hf (by simp [Decode.Dns.Fine])

/-- `Dns.dns_roundtrip_name` read by model B -/
theorem dns_roundtrip_name_c04 (server : Bool) (dom : Bytes) (rs : List (Nat → UInt8)) (b : Bytes)
    (hname : (Dns.encName (Dns.splitDots dom)).length ≤ 1919) :
    ∃ pkts, Dns.write server dom rs b = some pkts ∧ Decode.Dns.read pkts.flatten = .ok b := by
  obtain ⟨pkts, ws, h1, h2, h3⟩ := Dns.dns_roundtrip_name server dom rs b hname
  exact ⟨pkts, h1, (read_agrees_iff _ _).mpr ⟨ws, h2, h3⟩⟩

theorem dns_roundtrip_c04 (server : Bool) (dom : Bytes) (rs : List (Nat → UInt8)) (b : Bytes)
    (hdom : dom.length ≤ 255) :
    ∃ pkts, Dns.write server dom rs b = some pkts ∧ Decode.Dns.read pkts.flatten = .ok b :=
  dns_roundtrip_name_c04 server dom rs b
    (Nat.le_trans (Dns.encName_splitDots_length dom) (by omega))

/-! ### where the two models differ: only in the VALUE of the error on malformed input

By `read_agrees_iff` / `read_err_iff` the models succeed on the same inputs with the same payload and fail
on the same inputs; the error value may differ (A keeps the pre-repair outcomes). Two witnesses: -/

/-- A message shorter than 13 bytes: the C07 model shows the pre-repair index panic (`_ = b[12]`), the
C04 model the repaired reader's `io.ErrUnexpectedEOF`. -/
theorem differ_short :
    Dns.read [0] = ([], some .panic) ∧ Decode.Dns.read [0] = .err .ueof := ⟨rfl, rfl⟩

/-- One announced record (`t = 1`) of which only 7 bytes are present, with a wrong record header: the
pre-repair guard `s+6 >= len(b)` lets the C07 model reach the header test (`ErrNoProgress`), the repaired
guard `s+12 > len(b)` makes the C04 model return `ErrUnexpectedEOF`. -/
theorem differ_errvalue :
    Dns.read [0,0,0,0,0,0,0,0,0,0,0,1, 0,0,0,0,0,0,0] = ([], some .noProgress) ∧
    Decode.Dns.read [0,0,0,0,0,0,0,0,0,0,0,1, 0,0,0,0,0,0,0] = .err .ueof := ⟨rfl, rfl⟩

end XMT.DnsAgree
