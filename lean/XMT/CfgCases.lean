/-
  XMT.CfgCases — what validate's / build's `switch` does on each concrete tag, one equation per
  case label (one per list for the labels the model keeps in a list: `selTags`, `connTags`,
  `wrapTags`).  The regenerated tag constants are numerals, so every `if tag = …` of `vcase` / `bcase`
  evaluates and each equation holds by `rfl`; that the tags are pairwise distinct is all these
  proofs need from the facts.  The `default:` clause has no equation here (`case_agree` in CfgEquiv
  reaches it by unfolding).
-/
import XMT.Cfg
namespace XMT.Cfg

theorem vcase_Invalid (c : Bytes) (i n : Nat) (p t : Bool) :
    vcase c i n tInvalid p t = (inv "") := rfl

theorem vcase_Host (c : Bytes) (i n : Nat) (p t : Bool) :
    vcase c i n tHost p t = ((do vHost c i n; pure (p, t))) := rfl

theorem vcase_Sleep (c : Bytes) (i n : Nat) (p t : Bool) :
    vcase c i n tSleep p t = (if i + 8 ≥ n then inv "sleep" else pure (p, t)) := rfl

theorem vcase_KeyPin (c : Bytes) (i n : Nat) (p t : Bool) :
    vcase c i n tKeyPin p t = (if i + 4 ≥ n then inv "keypin" else pure (p, t)) := rfl

theorem vcase_Jitter (c : Bytes) (i n : Nat) (p t : Bool) :
    vcase c i n tJitter p t = (if i + 1 ≥ n then inv "jitter" else pure (p, t)) := rfl

theorem vcase_Weight (c : Bytes) (i n : Nat) (p t : Bool) :
    vcase c i n tWeight p t = (if i + 1 ≥ n then inv "weight" else pure (p, t)) := rfl

theorem vcase_SelPercent (c : Bytes) (i n : Nat) (p t : Bool) :
    vcase c i n tSelPercent p t = (if i + 1 ≥ n then inv "select-precent" else pure (p, t)) := rfl

theorem vcase_SelPercentRR (c : Bytes) (i n : Nat) (p t : Bool) :
    vcase c i n tSelPercentRR p t = (if i + 1 ≥ n then inv "select-precent" else pure (p, t)) := rfl

theorem vcase_KillDate (c : Bytes) (i n : Nat) (p t : Bool) :
    vcase c i n tKillDate p t = (if i + 8 ≥ n then inv "killdate" else pure (p, t)) := rfl

theorem vcase_WorkHours (c : Bytes) (i n : Nat) (p t : Bool) :
    vcase c i n tWorkHours p t = ((do vWorkHours c i n; pure (p, t))) := rfl

theorem vcase_IP (c : Bytes) (i n : Nat) (p t : Bool) :
    vcase c i n tIP p t = (if p then multiConn "ip" else do vIP c i n; pure (true, t)) := rfl

theorem vcase_WC2 (c : Bytes) (i n : Nat) (p t : Bool) :
    vcase c i n tWC2 p t = (if p then multiConn "wc2" else do vWC2 c i n; pure (true, t)) := rfl

theorem vcase_TLSx (c : Bytes) (i n : Nat) (p t : Bool) :
    vcase c i n tTLSx p t = (if p then multiConn "tls-ex" else if i + 1 ≥ n then inv "tls-ex" else pure (true, t)) := rfl

theorem vcase_MuTLS (c : Bytes) (i n : Nat) (p t : Bool) :
    vcase c i n tMuTLS p t = (if p then multiConn "mtls" else do vMuTLS c i n; pure (true, t)) := rfl

theorem vcase_TLSxCA (c : Bytes) (i n : Nat) (p t : Bool) :
    vcase c i n tTLSxCA p t = (if p then multiConn "tls-ca" else do vTLSxCA c i n; pure (true, t)) := rfl

theorem vcase_TLSCert (c : Bytes) (i n : Nat) (p t : Bool) :
    vcase c i n tTLSCert p t = (if p then multiConn "tls-cert" else do vTLSCert c i n; pure (true, t)) := rfl

theorem vcase_XOR (c : Bytes) (i n : Nat) (p t : Bool) :
    vcase c i n tXOR p t = ((do vXOR c i n; pure (p, t))) := rfl

theorem vcase_CBK (c : Bytes) (i n : Nat) (p t : Bool) :
    vcase c i n tCBK p t = (if i + 5 ≥ n then inv "cbk" else pure (p, t)) := rfl

theorem vcase_AES (c : Bytes) (i n : Nat) (p t : Bool) :
    vcase c i n tAES p t = ((do vAES c i n; pure (p, t))) := rfl

theorem vcase_B64T (c : Bytes) (i n : Nat) (p t : Bool) :
    vcase c i n tB64T p t = (if t then multiTrans "base64T" else pure (p, true)) := rfl

theorem vcase_DNS (c : Bytes) (i n : Nat) (p t : Bool) :
    vcase c i n tDNS p t = (if t then multiTrans "dns" else do vDNSArm c i n; pure (p, true)) := rfl

theorem vcase_B64Shift (c : Bytes) (i n : Nat) (p t : Bool) :
    vcase c i n tB64Shift p t = (if t then multiTrans "b64S" else if i + 1 ≥ n then inv "b64S" else pure (p, true)) := rfl

theorem bcase_Invalid (tls : Bytes → Bytes → Bytes → Bool) (c : Bytes) (i n : Nat) (p : Profile) (z : Nat) :
    bcase tls c i n tInvalid p z = (inv "") := rfl

theorem bcase_Host (tls : Bytes → Bytes → Bytes → Bool) (c : Bytes) (i n : Nat) (p : Profile) (z : Nat) :
    bcase tls c i n tHost p z = ((do let h ← bHost c i n; pure ({ p with hosts := p.hosts ++ [h] }, z))) := rfl

theorem bcase_Sleep (tls : Bytes → Bytes → Bytes → Bool) (c : Bytes) (i n : Nat) (p : Profile) (z : Nat) :
    bcase tls c i n tSleep p z = ((do let s ← bSleep c i n; pure ({ p with sleep := s }, z))) := rfl

theorem bcase_Jitter (tls : Bytes → Bytes → Bytes → Bool) (c : Bytes) (i n : Nat) (p : Profile) (z : Nat) :
    bcase tls c i n tJitter p z = (if i + 1 ≥ n then inv "jitter" else do let b ← rd c (i + 1); pure ({ p with jitter := jitterOf b }, z)) := rfl

theorem bcase_KeyPin (tls : Bytes → Bytes → Bytes → Bool) (c : Bytes) (i n : Nat) (p : Profile) (z : Nat) :
    bcase tls c i n tKeyPin p z = (if i + 4 ≥ n then inv "keypin" else do let k ← rd32 c i; pure ({ p with keys := p.keys ++ [k] }, z)) := rfl

theorem bcase_Weight (tls : Bytes → Bytes → Bytes → Bool) (c : Bytes) (i n : Nat) (p : Profile) (z : Nat) :
    bcase tls c i n tWeight p z = (if i + 1 ≥ n then inv "weight" else do let b ← rd c (i + 1); pure ({ p with weight := if b > 100 then 100 else b }, z)) := rfl

theorem bcase_KillDate (tls : Bytes → Bytes → Bytes → Bool) (c : Bytes) (i n : Nat) (p : Profile) (z : Nat) :
    bcase tls c i n tKillDate p z = (if i + 8 ≥ n then inv "killdate" else do let u ← rd64 c i; pure ({ p with kill := some u }, z)) := rfl

theorem bcase_WorkHours (tls : Bytes → Bytes → Bytes → Bool) (c : Bytes) (i n : Nat) (p : Profile) (z : Nat) :
    bcase tls c i n tWorkHours p z = ((do let w ← bWorkHours c i n; pure ({ p with work := some w }, z))) := rfl

theorem bcase_SelPercent (tls : Bytes → Bytes → Bytes → Bool) (c : Bytes) (i n : Nat) (p : Profile) (z : Nat) :
    bcase tls c i n tSelPercent p z = (if i + 1 ≥ n then inv "select-precent" else pure (p, z)) := rfl

theorem bcase_SelPercentRR (tls : Bytes → Bytes → Bytes → Bool) (c : Bytes) (i n : Nat) (p : Profile) (z : Nat) :
    bcase tls c i n tSelPercentRR p z = (if i + 1 ≥ n then inv "select-precent" else pure (p, z)) := rfl

theorem bcase_IP (tls : Bytes → Bytes → Bytes → Bool) (c : Bytes) (i n : Nat) (p : Profile) (z : Nat) :
    bcase tls c i n tIP p z = (if p.conn.isSome then multiConn "ip" else do let x ← bIP c i n; pure ({ p with conn := some x }, z)) := rfl

theorem bcase_WC2 (tls : Bytes → Bytes → Bytes → Bool) (c : Bytes) (i n : Nat) (p : Profile) (z : Nat) :
    bcase tls c i n tWC2 p z = (if p.conn.isSome then multiConn "wc2" else do let x ← bWC2 c i n; pure ({ p with conn := some x }, z)) := rfl

theorem bcase_TLSx (tls : Bytes → Bytes → Bytes → Bool) (c : Bytes) (i n : Nat) (p : Profile) (z : Nat) :
    bcase tls c i n tTLSx p z = (if p.conn.isSome then multiConn "tls-ex" else do let x ← bTLSx tls c i n; pure ({ p with conn := some x }, z)) := rfl

theorem bcase_MuTLS (tls : Bytes → Bytes → Bytes → Bool) (c : Bytes) (i n : Nat) (p : Profile) (z : Nat) :
    bcase tls c i n tMuTLS p z = (if p.conn.isSome then multiConn "mtls" else do let x ← bMuTLS tls c i n; pure ({ p with conn := some x }, z)) := rfl

theorem bcase_TLSxCA (tls : Bytes → Bytes → Bytes → Bool) (c : Bytes) (i n : Nat) (p : Profile) (z : Nat) :
    bcase tls c i n tTLSxCA p z = (if p.conn.isSome then multiConn "tls-ca" else do let x ← bTLSxCA tls c i n; pure ({ p with conn := some x }, z)) := rfl

theorem bcase_TLSCert (tls : Bytes → Bytes → Bytes → Bool) (c : Bytes) (i n : Nat) (p : Profile) (z : Nat) :
    bcase tls c i n tTLSCert p z = (if p.conn.isSome then multiConn "tls-cert" else do let x ← bTLSCert tls c i n; pure ({ p with conn := some x }, z)) := rfl

theorem bcase_XOR (tls : Bytes → Bytes → Bytes → Bool) (c : Bytes) (i n : Nat) (p : Profile) (z : Nat) :
    bcase tls c i n tXOR p z = ((do let k ← bXOR c i n; pure ({ p with wraps := p.wraps ++ [.xor k] }, z))) := rfl

theorem bcase_CBK (tls : Bytes → Bytes → Bytes → Bool) (c : Bytes) (i n : Nat) (p : Profile) (z : Nat) :
    bcase tls c i n tCBK p z = ((do let w ← bCBK c i n; pure ({ p with wraps := p.wraps ++ [w] }, z))) := rfl

theorem bcase_AES (tls : Bytes → Bytes → Bytes → Bool) (c : Bytes) (i n : Nat) (p : Profile) (z : Nat) :
    bcase tls c i n tAES p z = ((do let w ← bAES c i n; pure ({ p with wraps := p.wraps ++ [w] }, z))) := rfl

theorem bcase_B64T (tls : Bytes → Bytes → Bytes → Bool) (c : Bytes) (i n : Nat) (p : Profile) (z : Nat) :
    bcase tls c i n tB64T p z = (if p.trans.isSome then multiTrans "base64T" else pure ({ p with trans := some (.b64 0) }, z)) := rfl

theorem bcase_DNS (tls : Bytes → Bytes → Bytes → Bool) (c : Bytes) (i n : Nat) (p : Profile) (z : Nat) :
    bcase tls c i n tDNS p z = (if p.trans.isSome then multiTrans "dns" else do let d ← bDNSArm c i n; pure ({ p with trans := some d }, z)) := rfl

theorem bcase_B64Shift (tls : Bytes → Bytes → Bytes → Bool) (c : Bytes) (i n : Nat) (p : Profile) (z : Nat) :
    bcase tls c i n tB64Shift p z = (if p.trans.isSome then multiTrans "b64S" else if i + 1 ≥ n then inv "b64S" else do let s ← rd c (i + 1); pure ({ p with trans := some (.b64 s) }, z)) := rfl

/-- a membership `selTags.contains tag = true` (likewise `connTags`, `wrapTags`, `stride1`, `stride2`) as the
disjunction of the tags' numerals -/
macro "tag_simp_at" h:ident : tactic =>
  `(tactic| simp [selTags, connTags, wrapTags, stride1, stride2, Facts.cfg_invalid, Facts.cfg_valHost, Facts.cfg_valSleep, Facts.cfg_valJitter,
    Facts.cfg_valWeight, Facts.cfg_valKeyPin, Facts.cfg_valKillDate, Facts.cfg_valWorkHours,
    Facts.cfg_SelectorLastValid, Facts.cfg_SelectorRoundRobin, Facts.cfg_SelectorRandom,
    Facts.cfg_SelectorSemiRoundRobin, Facts.cfg_SelectorSemiRandom, Facts.cfg_SelectorSemiLastValid,
    Facts.cfg_valSelectorPercent, Facts.cfg_valSelectorPercentRoundRobin, Facts.cfg_ConnectTCP,
    Facts.cfg_ConnectTLS, Facts.cfg_ConnectUDP, Facts.cfg_ConnectICMP, Facts.cfg_ConnectPipe,
    Facts.cfg_ConnectTLSNoVerify, Facts.cfg_valIP, Facts.cfg_valWC2, Facts.cfg_valTLSx, Facts.cfg_valMuTLS,
    Facts.cfg_valTLSxCA, Facts.cfg_valTLSCert, Facts.cfg_WrapHex, Facts.cfg_WrapZlib, Facts.cfg_WrapGzip,
    Facts.cfg_WrapBase64, Facts.cfg_valXOR, Facts.cfg_valCBK, Facts.cfg_valAES, Facts.cfg_TransformB64,
    Facts.cfg_valDNS, Facts.cfg_valB64Shift, Facts.cfg_Separator] at $h:ident)

theorem vcase_sel (c : Bytes) (i n tag : Nat) (p t : Bool) (h : selTags.contains tag = true) :
    vcase c i n tag p t = pure (p, t) := by
  tag_simp_at h
  rcases h with rfl | rfl | rfl | rfl | rfl | rfl <;> rfl

theorem bcase_sel (tls : Bytes → Bytes → Bytes → Bool) (c : Bytes) (i n tag : Nat) (p : Profile) (z : Nat)
    (h : selTags.contains tag = true) : bcase tls c i n tag p z = pure (p, tag) := by
  tag_simp_at h
  rcases h with rfl | rfl | rfl | rfl | rfl | rfl <;> rfl

theorem vcase_conn (c : Bytes) (i n tag : Nat) (p t : Bool) (h : connTags.contains tag = true) :
    vcase c i n tag p t = (if p then multiConn "" else pure (true, t)) := by
  tag_simp_at h
  rcases h with rfl | rfl | rfl | rfl | rfl | rfl <;> rfl

theorem bcase_conn (tls : Bytes → Bytes → Bytes → Bool) (c : Bytes) (i n tag : Nat) (p : Profile) (z : Nat)
    (h : connTags.contains tag = true) :
    bcase tls c i n tag p z =
      (if p.conn.isSome then multiConn (connLabel tag) else pure ({ p with conn := some (connOfTag tag) }, z)) := by
  tag_simp_at h
  rcases h with rfl | rfl | rfl | rfl | rfl | rfl <;> rfl

theorem vcase_wrap (c : Bytes) (i n tag : Nat) (p t : Bool) (h : wrapTags.contains tag = true) :
    vcase c i n tag p t = pure (p, t) := by
  tag_simp_at h
  rcases h with rfl | rfl | rfl | rfl <;> rfl

theorem bcase_wrap (tls : Bytes → Bytes → Bytes → Bool) (c : Bytes) (i n tag : Nat) (p : Profile) (z : Nat)
    (h : wrapTags.contains tag = true) :
    bcase tls c i n tag p z = pure ({ p with wraps := p.wraps ++ [wrapOfTag tag] }, z) := by
  tag_simp_at h
  rcases h with rfl | rfl | rfl | rfl <;> rfl

end XMT.Cfg
