/-
  XMT.BatchTagsWitness — the queue whose batch `Marshal` refuses (see XMT/BatchTags.lean):
  three well-formed packets of the session's own device, the first without tags, the other two with
  16385 tags each. One `Session.next` call packs all three; the batch carries 32770 > PacketMaxTags
  tags. Payloads are empty and the ID is a data ID (so none is a keep-alive).
-/
import XMT.BatchDrain
namespace XMT.Batch
open XMT.Packet

def witnessDev : Bytes := 3 :: List.replicate 31 0
def wTags : List Nat := List.replicate 16385 7
def wPkt (j : Nat) (ts : List Nat) : Pkt :=
  { id := 0x20, job := j, flags := 0, tags := ts, dev := witnessDev, payload := [] }
def witnessSt : St := { q := [wPkt 5 [], wPkt 6 wTags, wPkt 7 wTags], peek := none, last := 0 }

theorem wPkt_qwf (j : Nat) (hj : j < 2^16) (ts : List Nat) (hl : ts.length ≤ Facts.packetMaxTags)
    (ht : ∀ t ∈ ts, 0 < t ∧ t < 2^32) : QWF (wPkt j ts) :=
  ⟨⟨hj, (by decide : (0 : Nat) < 2^64), hl, ht, (by decide : witnessDev.length = Facts.idSize),
    (by decide : witnessDev.head? ≠ some 0), (by decide : ([] : Bytes).length ≤ Facts.maxSlice)⟩,
   (by decide : hasFlag 0 Facts.flagMulti = false), (by decide : hasFlag 0 Facts.flagMultiDevice = false)⟩

theorem wTags_length : wTags.length = 16385 := List.length_replicate

theorem wTags_ok : wTags.length ≤ Facts.packetMaxTags ∧ ∀ t ∈ wTags, 0 < t ∧ t < 2^32 := by
  refine ⟨by rw [wTags_length]; decide, fun t ht => ?_⟩
  obtain rfl : t = 7 := List.eq_of_mem_replicate ht
  decide

theorem witness_qwf : ∀ a ∈ content witnessSt, QWF a := by
  intro a ha
  have : a = wPkt 5 [] ∨ a = wPkt 6 wTags ∨ a = wPkt 7 wTags := by
    simpa [content, witnessSt] using ha
  rcases this with rfl | rfl | rfl
  · exact wPkt_qwf 5 (by decide) [] (by decide) (by intro t ht; cases ht)
  · exact wPkt_qwf 6 (by decide) wTags wTags_ok.1 wTags_ok.2
  · exact wPkt_qwf 7 (by decide) wTags wTags_ok.1 wTags_ok.2

theorem witness_tags :
    (next 256 33554432 witnessSt witnessDev).1.map (·.tags) = some (wTags ++ wTags) := by rfl

theorem witness_rest : content (next 256 33554432 witnessSt witnessDev).2 = [] := by rfl

theorem witness_overflow :
    ∃ o, (next 256 33554432 witnessSt witnessDev).1 = some o ∧
      o.tags.length = 32770 ∧ marshalWrites o = .error .tooManyTags ∧
      content (next 256 33554432 witnessSt witnessDev).2 = [] := by
  have ht := witness_tags
  cases h : (next 256 33554432 witnessSt witnessDev).1 with
  | none => rw [h] at ht; cases ht
  | some o =>
    rw [h] at ht
    have hl : o.tags.length = 32770 := by
      rw [show o.tags = wTags ++ wTags from Option.some.inj ht, List.length_append, wTags_length]
    refine ⟨o, rfl, hl, ?_, witness_rest⟩
    unfold marshalWrites
    rw [if_pos (by rw [hl]; decide)]

end XMT.Batch
