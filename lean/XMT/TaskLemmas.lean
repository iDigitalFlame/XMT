/-
  Lemmas for C18: what the normalisations of XMT.Task do and what the encoders write where they apply
  (empty filters, argument lists of path kinds that have none, the path count); every decoder reads
  back what the matching encoder wrote, through any lawful reader (`Reads`, XMT.CodecReads); the
  keystream XOR of the launcher file frame, and `Sentinel.Read` on a file that starts with an IV.
-/
import XMT.Task
import XMT.CodecRoundtrip
namespace XMT.Task
open XMT.Codec

instance (v : Val) : Decidable v.WF := by cases v <;> unfold Val.WF <;> infer_instance
instance (f : Filter) : Decidable f.WF := by unfold Filter.WF; infer_instance
instance (v : FVal) : Decidable v.WF := by
  cases v with
  | prim v => exact inferInstanceAs (Decidable v.WF)
  | filter f => cases f <;> unfold FVal.WF <;> infer_instance
instance (W : Schema) (ρ : Rec) : Decidable (WT W ρ) := by unfold WT; infer_instance
instance (p : SPath) : Decidable p.WF := by unfold SPath.WF; infer_instance

theorem normPtr_of_isEmpty {f : Filter} (h : f.isEmpty = true) : normPtr (some f) = none := if_pos h

theorem normPtr_of_not {f : Filter} (h : f.isEmpty = false) : normPtr (some f) = some f := by
  rw [normPtr, h]
  rfl

theorem normVal_of_isEmpty {f : Filter} (h : f.isEmpty = true) : normVal f = Filter.zero := if_pos h

theorem normVal_of_not {f : Filter} (h : f.isEmpty = false) : normVal f = f := by
  rw [normVal, h]
  rfl

theorem encFilter_of_isEmpty {f : Filter} (h : f.isEmpty = true) :
    encFilter (some f) = encChunk (.bool false) := if_pos h

theorem encFilter_of_not {f : Filter} (h : f.isEmpty = false) :
    encFilter (some f) = encChunk (.bool true) ++ encAllChunk (filterBody f) := by
  rw [encFilter, h]
  rfl

theorem Filter.eq_zero_of_isEmpty {f : Filter} (h : f.isEmpty = true) :
    f = { Filter.zero with fallback := f.fallback } := by
  have hE : Facts.c18_filterEmpty = 0 := rfl
  obtain ⟨ex, inc, pid, fb, se, el⟩ := f
  simp only [Filter.isEmpty, hE, Bool.and_eq_true, beq_iff_eq, List.length_eq_zero_iff] at h
  obtain ⟨⟨⟨⟨rfl, h2⟩, h3⟩, rfl⟩, rfl⟩ := h
  obtain rfl : se = 0 := UInt8.toNat_inj.mp h2
  obtain rfl : el = 0 := UInt8.toNat_inj.mp h3
  rfl

theorem normPath_eq_self (p : SPath)
    (h : p.t.toNat < Facts.c18_sentPathDownload → p.extra = []) : normPath p = p := by
  unfold normPath
  split
  · rw [← h ‹_›]
  · rfl

theorem normSentinel_eq (x : Sentinel)
    (hc : ∀ p ∈ x.paths, p.t.toNat < Facts.c18_sentPathDownload → p.extra = [])
    (hn : x.paths.length ≤ maxPaths) : normSentinel x = { x with filter := normVal x.filter } := by
  rw [normSentinel, List.take_of_length_le hn,
    List.map_congr_left fun p hp => normPath_eq_self p (hc p hp), List.map_id']

theorem encSentinel_eq (x : Sentinel) : encSentinel x =
    encFilter (some x.filter) ++ be16 (x.paths.take maxPaths).length ++
      (x.paths.take maxPaths).flatMap encPath := by
  have hn : (if x.paths.length > maxPaths then maxPaths else x.paths.length) =
      min maxPaths x.paths.length := by
    split <;> omega
  rw [encSentinel, hn, ← List.take_eq_take_min, ← List.length_take]

section
variable {S : Type} {P : Prim S} {abs : S → Bytes} {inv : S → Prop} (L : Lawful P abs inv)
include L

theorem reads_bool (b : Bool) : Reads abs inv (decBool P) (encChunk (.bool b)) b := by
  cases b <;> exact (L.reads_u8 _).mapE

theorem reads_filterBody (f : Filter) (hf : f.WF) :
    Reads abs inv (decFilterBody P) (encAllChunk (filterBody f)) f := by
  simp only [encAllChunk, filterBody, List.flatMap_cons, List.flatMap_nil]
  exact (L.reads_u32 _ hf.1).bindE <| (reads_bool L _).bindE <| (L.reads_u8 _).bindE <|
    (L.reads_u8 _).bindE <| (decStrs_ok L _ hf.2.1).bindE <| (decStrs_ok L _ hf.2.2).bindE <|
    Reads.ret _

theorem reads_filterPtr (f : Option Filter) (hf : (FVal.filter f).WF) :
    Reads abs inv (decFilterPtr P) (encFilter f) (normPtr f) := by
  have absent : Reads abs inv (decFilterPtr P) (encChunk (.bool false)) none :=
    (reads_bool L false).bindE <| .ite_pos rfl <| Reads.ret _
  cases f with
  | none => exact absent
  | some f =>
    cases h : f.isEmpty
    · rw [encFilter_of_not h, normPtr_of_not h]
      exact (reads_bool L true).bindE <| .ite_neg (by decide) (reads_filterBody L f hf).mapE
    · rw [encFilter_of_isEmpty h, normPtr_of_isEmpty h]
      exact absent

theorem reads_filterVal (f : Filter) (hf : f.WF) :
    Reads abs inv (decFilterVal P) (encFilter (some f)) (normVal f) := by
  cases h : f.isEmpty
  · rw [encFilter_of_not h, normVal_of_not h]
    exact (reads_bool L true).bindE <| .ite_neg (by decide) (reads_filterBody L f hf)
  · rw [encFilter_of_isEmpty h, normVal_of_isEmpty h]
    exact (reads_bool L false).bindE <| .ite_pos rfl <| Reads.ret _

theorem reads_decF (v : FVal) (hv : v.WF) : Reads abs inv (decF P v.ty) (encF v) (normF v) := by
  cases v with
  | prim v => exact (dec_ok L v hv).mapE
  | filter f => exact (reads_filterPtr L f hv).mapE

theorem reads_decS (W : Schema) (ρ : Rec) (hw : WT W ρ) :
    Reads abs inv (decS P W) (encS W ρ) (normRec W ρ) := by
  induction W with
  | nil => exact Reads.ret _
  | cons e W ih =>
    have ⟨ht, hwf⟩ := hw e List.mem_cons_self
    exact Reads.bindE (ht ▸ reads_decF L (ρ e.1) hwf) <|
      (ih fun x hx => hw x (List.mem_cons_of_mem _ hx)).mapE

omit L in
/-- The generic theorem (`reads_decS` spelt out): decoding with schema `W` what was encoded with
schema `W` returns every field (normalised), consumes exactly the encoding and leaves the reader on
the trailing data. -/
theorem decS_ok (L : Lawful P abs inv) (W : Schema) (ρ : Rec) (hw : WT W ρ) (s : S) (r : Bytes)
    (hi : inv s) (h : abs s = encS W ρ ++ r) :
    ∃ s', decS P W s = .ok (normRec W ρ, s') ∧ abs s' = r ∧ inv s' :=
  reads_decS L W ρ hw s r hi h

end

theorem schemaOf_names : ∀ {l : List (String × String)} {W : Schema}, schemaOf l = some W →
    W.map Prod.fst = l.map Prod.fst
  | [], _, h => by cases h; rfl
  | (n, k) :: l, W, h => by
    simp only [schemaOf] at h
    split at h
    · cases h
      rw [List.map_cons, List.map_cons, schemaOf_names ‹_›]
    · cases h

/-- The three tie obligations (closed by evaluation on the regenerated facts) give the round trip. -/
theorem taskRoundTrips_of_tie {m u : List (String × String)} {fields : List String}
    (h1 : (schemaOf m).isSome = true) (h2 : m = u) (h3 : ∀ f ∈ fields, f ∈ m.map Prod.fst) :
    TaskRoundTrips m u fields := by
  obtain ⟨W, hW⟩ := Option.isSome_iff_exists.mp h1
  refine ⟨W, W, hW, h2 ▸ hW, schemaOf_names hW ▸ h3, fun ρ rest hw => ⟨?_, ?_⟩⟩
  · exact (reads_decS chunk_lawful W ρ hw).chunk rest
  · exact (reads_decS stream_lawful W ρ hw).stream rest

section
variable {S : Type} {P : Prim S} {abs : S → Bytes} {inv : S → Prop} (L : Lawful P abs inv)
include L

theorem reads_path (p : SPath) (hp : p.WF) :
    Reads abs inv (decPath P) (encPath p) (normPath p) := by
  simp only [encPath, normPath, List.append_assoc]
  refine (L.reads_u8 p.t).bindE ((decBytes_ok L _ hp.1).bindE ?_)
  by_cases ht : p.t.toNat < Facts.c18_sentPathDownload
  · rw [if_pos ht, if_pos ht]
    exact .ite_pos ht (Reads.ret _)
  · rw [if_neg ht, if_neg ht]
    exact .ite_neg ht ((decStrs_ok L _ hp.2).mapE)

theorem reads_paths (ps : List SPath) (hp : ∀ p ∈ ps, p.WF) :
    Reads abs inv (decPaths P ps.length) (ps.flatMap encPath) (ps.map normPath) := by
  induction ps with
  | nil => exact Reads.ret _
  | cons p ps ih =>
    exact (reads_path L p (hp p List.mem_cons_self)).bindE <|
      (ih fun x hx => hp x (List.mem_cons_of_mem _ hx)).mapE

theorem reads_sentinel (x : Sentinel) (hf : x.filter.WF) (hp : ∀ p ∈ x.paths, p.WF) :
    Reads abs inv (decSentinel P) (encSentinel x) (normSentinel x) := by
  have hlt : (x.paths.take maxPaths).length < 2 ^ 16 := by
    rw [List.length_take, maxPaths]; omega
  rw [encSentinel_eq, List.append_assoc]
  exact (reads_filterVal L _ hf).bindE <| (L.reads_u16 _ hlt).bindE <|
    (reads_paths L _ fun p h => hp p (List.mem_of_mem_take h)).mapE

end

theorem xorAt_length (ks : Nat → UInt8) (off : Nat) (b : Bytes) :
    (xorAt ks off b).length = b.length := by
  induction b generalizing off with
  | nil => rfl
  | cons x b ih => simp [xorAt, ih]

theorem xorAt_append (ks : Nat → UInt8) (off : Nat) (a b : Bytes) :
    xorAt ks off (a ++ b) = xorAt ks off a ++ xorAt ks (off + a.length) b := by
  induction a generalizing off with
  | nil => simp [xorAt]
  | cons x a ih =>
    simp only [List.cons_append, xorAt, ih, List.length_cons]
    congr 3; omega

/-- XOR with the same keystream at the same position is an involution (this is all the frame
needs from CTR mode). -/
theorem xorAt_xorAt (ks : Nat → UInt8) (off : Nat) (b : Bytes) :
    xorAt ks off (xorAt ks off b) = b := by
  induction b generalizing off with
  | nil => rfl
  | cons x b ih => simp only [xorAt, ih, UInt8.xor_assoc, UInt8.xor_self, UInt8.xor_zero]

theorem xorStream_flatten (ks : Nat → UInt8) (off : Nat) (cs : Stream) :
    (xorStream ks off cs).flatten = xorAt ks off cs.flatten := by
  induction cs generalizing off with
  | nil => rfl
  | cons c cs ih => simp [xorStream, xorAt_append, ih]

theorem xorStream_noEmpty {ks : Nat → UInt8} {off : Nat} {cs : Stream} (h : NoEmpty cs) :
    NoEmpty (xorStream ks off cs) := by
  induction cs generalizing off with
  | nil => exact fun c hc => nomatch hc
  | cons c cs ih =>
    intro d hd
    rcases List.mem_cons.mp hd with rfl | hd
    · exact fun h0 => h c List.mem_cons_self
        (List.length_eq_zero_iff.mp (xorAt_length ks off c ▸ congrArg List.length h0))
    · exact ih (fun x hx => h x (List.mem_cons_of_mem _ hx)) d hd

theorem sentinelWrite_cipher (c : Cipher) (hb : c.blockSize ≠ 0) (iv : Bytes) (x : Sentinel) :
    sentinelWrite (some c) iv x = iv ++ xorAt (c.ks iv) 0 (encSentinel x) :=
  if_neg hb

/-- `Sentinel.Read` on a file that starts with a full IV, whatever follows it: `io.ReadFull` takes the
IV off the front, and the codec runs on the rest decrypted from position 0. -/
theorem sentinelRead_frame (c : Cipher) (hb : c.blockSize ≠ 0) {iv body : Bytes}
    (hiv : iv.length = c.blockSize) {cs : Stream} (hne : NoEmpty cs) (hcs : cs.flatten = iv ++ body) :
    ∃ ds, sentinelRead (some c) cs = decSentinel streamPrim ds ∧ NoEmpty ds ∧
      ds.flatten = xorAt (c.ks iv) 0 body := by
  have h1 : (readFull c.blockSize cs).1 = iv := by
    rw [readFull_fst, hcs, ← hiv, List.take_left]
  refine ⟨xorStream (c.ks iv) 0 (readFull c.blockSize cs).2, ?_,
    xorStream_noEmpty (readFull_noEmpty _ cs hne), ?_⟩
  · simp only [sentinelRead, hb, if_false, h1, hiv, ne_eq, not_true_eq_false]
  · rw [xorStream_flatten, readFull_snd, hcs, ← hiv, List.drop_left]

end XMT.Task
