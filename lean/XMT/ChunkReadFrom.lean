/-
  XMT.ChunkReadFrom — `ReadFrom` into a chunk with a limit reads exactly up to the limit
  (`readFromLoop_spec`, `readFrom_spec`; the body read of `Packet.Unmarshal` rests on it). For any limit
  (none, positive, beyond MaxSlice): what the loop counts is what it appended and took off the stream
  (`Took`, `readFromLoop_bound`), and the fuel `readFrom` gives the loop is never what ends it
  (`readFromLoop_fuel`).
-/
import XMT.ChunkRoom
import XMT.CodecLemmas
namespace XMT.Chunk
namespace Chunk
variable (cf : Nat → Nat)

theorem maxSlice_small : Facts.maxSlice ≤ 2^60 := by decide
theorem bufSize_pos : 0 < Facts.bufSize := by decide

theorem quickSlice_fits {c : Chunk} {n : Nat} (h : c.Inv)
    (hfit : (c.len : Int) + n ≤ c.limit) (hn : 0 < n) (hm : c.limit ≤ Facts.maxSlice) :
    ∃ c' i, quickSlice cf c n = (c', .ok i) := by
  rcases hres : reslice c n with _ | ⟨c', i⟩
  · have hq : quickSlice cf c n = grow cf c n := by simp only [quickSlice, hres]
    rcases hg : grow cf c n with ⟨c1, e | i⟩
    · exfalso
      rcases (quickSlice_exact cf c n h).2 c1 e (hq.trans hg) with ⟨_, r⟩ | ⟨_, hh⟩
      · exact (fits_room c n hfit hn).1 r
      · -- reslice failed below the limit: the capacity is smaller than the limit, nothing is huge
        have hms := maxSlice_small; have hmi := maxInt_val; have hrl := h.rl
        rw [reslice_eq c n h.lc] at hres
        split at hres
        · cases hres
        · exact hh ⟨by omega, by omega⟩
    · exact ⟨c1, i, hq.trans hg⟩
  · exact ⟨c', i, by simp only [quickSlice, hres]⟩

theorem write_fits (c : Chunk) (b : Bytes) (h : c.Inv) (hr : c.rpos = 0)
    (hfit : (c.len : Int) + b.length ≤ c.limit) (hb : 0 < b.length) (hm : c.limit ≤ Facts.maxSlice) :
    ∃ c', write cf c b = (c', b.length, none) ∧ c'.Inv ∧ c'.limit = c.limit ∧ c'.rpos = 0 ∧
      c'.len = c.len + b.length ∧ c'.unread = c.unread ++ b := by
  obtain ⟨c1, m, hq⟩ := quickSlice_fits cf h hfit hb hm
  have r := quickSlice_ok h hq
  have hm0 := r.index h
  have hr1 : c1.rpos = 0 := by rcases r.rp with h1 | h1 <;> omega
  -- the reserved room starts right after the existing bytes and is not clamped
  have hlen1 : c1.len - m = b.length := by
    have := r.room
    by_cases hlt : c1.len < m + b.length
    · have := r.clamped hlt; omega
    · omega
  obtain ⟨p1, p2⟩ := poke_append r.inv r.unread r.ir b (by have := r.idx; omega)
  refine ⟨poke c1 m b, ?_, p1, r.limit, hr1, by show c1.len = _; have := r.idx; omega, p2⟩
  rw [write_ok hq r, hlen1, List.take_length, if_neg (Nat.lt_irrefl _)]

/-- one `Read` of at most `x` bytes takes `p.take x` off the front of the stream -/
theorem read_piece (p : Bytes) (ps : Codec.Stream) (x : Nat) :
    p.take x ++ ((if p.length ≤ x then ps else p.drop x :: ps) : Codec.Stream).flatten = (p :: ps).flatten ∧
    (Codec.NoEmpty (p :: ps) → Codec.NoEmpty (if p.length ≤ x then ps else p.drop x :: ps)) := by
  split
  · rename_i hle
    exact ⟨by rw [List.take_of_length_le hle, List.flatten_cons], Codec.NoEmpty.tail⟩
  · refine ⟨by rw [List.flatten_cons, List.flatten_cons, ← List.append_assoc, List.take_append_drop], fun hne y hy => ?_⟩
    cases hy with
    | head => exact fun h0 => by have := congrArg List.length h0; rw [List.length_drop] at this; simp at this; omega
    | tail _ hy => exact hne.tail y hy

/-- `g` of the `fl` bytes of a stream go into a room of `R`: what is left goes into what is left -/
theorem min_advance {R fl g sl : Nat} (hF : g + sl = fl) (hg : g ≤ R) :
    min R fl = g + min (R - g) sl := by omega

theorem readFromLoop_spec (L : Int) (hL : 0 < L) (hLm : L ≤ Facts.maxSlice) :
    ∀ (fuel : Nat) (c : Chunk) (s : Codec.Stream) (t : Nat), c.Inv → c.limit = L → c.rpos = 0 →
      Codec.NoEmpty s → s.flatten.length < fuel →
      ∃ c' s', readFromLoop cf fuel c s t = (c', t + min (L.toNat - c.len) s.flatten.length, s') ∧
        c'.Inv ∧ c'.limit = L ∧ c'.rpos = 0 ∧
        c'.unread = c.unread ++ s.flatten.take (min (L.toNat - c.len) s.flatten.length) ∧
        c'.len = c.len + min (L.toNat - c.len) s.flatten.length ∧
        s'.flatten = s.flatten.drop (min (L.toNat - c.len) s.flatten.length) ∧ Codec.NoEmpty s' := by
  intro fuel
  induction fuel with
  | zero => intro c s t _ _ _ _ hf; omega
  | succ fuel ih =>
    intro c s t h hlim hr hne hf
    have hspace : c.space = if L - c.len > 0 then L - c.len else 0 := by
      unfold space; rw [hlim, if_neg (by omega)]
    unfold readFromLoop
    by_cases hroom : (c.len : Int) < L
    · rw [if_neg (by rw [hspace, if_pos (by omega)]; omega)]
      cases s with
      | nil =>
        rw [show min (L.toNat - c.len) ([] : Codec.Stream).flatten.length = 0 from Nat.min_zero _]
        exact ⟨c, [], rfl, h, hlim, hr, (List.append_nil _).symm, rfl, rfl, hne⟩
      | cons p ps =>
        simp only [hspace, hlim, if_pos hL, if_pos (show L - (c.len : Int) > 0 by omega)]
        generalize hx : min (L - (c.len : Int)).toNat Facts.bufSize = x
        have hx0 : 0 < x := by have := bufSize_pos; omega
        have hF := (read_piece p ps x).1
        have hne' := (read_piece p ps x).2 hne
        have hp : 0 < p.length := List.length_pos_iff.mpr (hne p List.mem_cons_self)
        have hg : (p.take x).length = min x p.length := List.length_take
        generalize ((if p.length ≤ x then ps else p.drop x :: ps) : Codec.Stream) = s' at hF hne' ⊢
        generalize p.take x = got at hF hg ⊢
        have hgR : 0 < got.length ∧ got.length ≤ L.toNat - c.len := by omega
        clear hx hx0 hg hp
        have hFl := congrArg List.length hF
        rw [List.length_append] at hFl
        generalize (p :: ps).flatten = F at hF hFl hf ⊢
        obtain ⟨c1, hw, i1, l1, r1, n1, u1⟩ := write_fits cf c got h hr (by omega) hgR.1 (hlim ▸ hLm)
        have hk := min_advance hFl hgR.2
        simp only [hw, if_neg (Nat.lt_irrefl _)]
        by_cases hstop : got.length = 0 ∨ (c1.limit > 0 ∧ (got.length : Int) ≥ c1.limit)
        · -- a single read filled the whole limit
          rw [if_pos hstop, hk]
          have h0 : L.toNat - c.len - got.length = 0 := by rw [l1, hlim] at hstop; omega
          rw [h0, Nat.zero_min, Nat.add_zero]
          exact ⟨c1, s', rfl, i1, l1.trans hlim, r1, by rw [u1, ← hF, List.take_left' rfl], n1,
            by rw [← hF, List.drop_left' rfl], hne'⟩
        · rw [if_neg hstop, hk, Nat.sub_sub, ← n1]
          obtain ⟨c2, s2, e2, i2, l2, r2, u2, n2, f2, ne2⟩ :=
            ih c1 s' (t + got.length) i1 (l1.trans hlim) r1 hne' (by omega)
          refine ⟨c2, s2, by rw [e2, Nat.add_assoc], i2, l2, r2, ?_, by rw [n2, n1, Nat.add_assoc], ?_, ne2⟩
          · rw [u2, u1, List.append_assoc, ← hF, List.take_append,
              List.take_of_length_le (Nat.le_add_right _ _), Nat.add_sub_cancel_left]
          · rw [f2, ← hF, ← List.drop_drop, List.drop_left' rfl]
    · rw [if_pos ⟨by omega, by rw [hspace, if_neg (by omega)]; exact Int.le_refl 0⟩]
      rw [show min (L.toNat - c.len) s.flatten.length = 0 by omega]
      exact ⟨c, s, rfl, h, hlim, hr, (List.append_nil _).symm, rfl, rfl, hne⟩

/-- the fuel `readFrom` gives its loop is enough for `readFromLoop_spec` -/
theorem readFrom_spec {L : Int} (hL : 0 < L) (hLm : L ≤ Facts.maxSlice) {c : Chunk} {s : Codec.Stream}
    (h : c.Inv) (hl : c.limit = L) (hr : c.rpos = 0) (hne : Codec.NoEmpty s) :
    ∃ c' s', c.readFrom cf s = (c', min (L.toNat - c.len) s.flatten.length, s') ∧
      c'.Inv ∧ c'.limit = L ∧ c'.rpos = 0 ∧
      c'.unread = c.unread ++ s.flatten.take (min (L.toNat - c.len) s.flatten.length) ∧
      c'.len = c.len + min (L.toNat - c.len) s.flatten.length ∧
      s'.flatten = s.flatten.drop (min (L.toNat - c.len) s.flatten.length) ∧ Codec.NoEmpty s' := by
  have := readFromLoop_spec cf L hL hLm (s.flatten.length + s.length + 1) c s 0 h hl hr hne (by omega)
  rwa [Nat.zero_add] at this

/-- `r = (c', t', s')` is a state a read loop started in `(c, t, s)` may end in: the invariant and the limit
are kept, `t` grew by exactly the number of bytes appended, and those were all taken off the stream -/
def Took (c : Chunk) (s : Codec.Stream) (t : Nat) (r : Chunk × Nat × Codec.Stream) : Prop :=
  r.1.Inv ∧ r.1.limit = c.limit ∧ t ≤ r.2.1 ∧ r.1.unread.length = c.unread.length + (r.2.1 - t) ∧
  (r.2.1 - t) + r.2.2.flatten.length ≤ s.flatten.length

theorem Took.refl {c : Chunk} (h : c.Inv) (s : Codec.Stream) (t : Nat) : Took c s t (c, t, s) :=
  ⟨h, rfl, Nat.le_refl _, by simp, by simp⟩

theorem Took.trans {c : Chunk} {s : Codec.Stream} {t : Nat} {r1 r2 : Chunk × Nat × Codec.Stream}
    (h1 : Took c s t r1) (h2 : Took r1.1 r1.2.2 r1.2.1 r2) : Took c s t r2 := by
  obtain ⟨_, l1, _, _, _⟩ := h1
  obtain ⟨i2, l2, _, _, _⟩ := h2
  exact ⟨i2, l2.trans l1, by omega, by omega, by omega⟩

/-- `ReadFrom`'s loop, any limit (none, positive, beyond MaxSlice) -/
theorem readFromLoop_bound : ∀ (fuel : Nat) (c : Chunk) (s : Codec.Stream) (t : Nat), c.Inv →
    Took c s t (readFromLoop cf fuel c s t) := by
  intro fuel
  induction fuel with
  | zero => intro c s t h; exact .refl h s t
  | succ fuel ih =>
    intro c s t h
    unfold readFromLoop
    split
    · exact .refl h s t
    simp only
    cases s with
    | nil => exact .refl h [] t
    | cons p ps =>
      simp only
      generalize (if c.limit > 0 then min c.space.toNat Facts.bufSize else Facts.bufSize) = x
      have hs' := congrArg List.length (read_piece p ps x).1
      rw [List.length_append] at hs'
      generalize ((if p.length ≤ x then ps else p.drop x :: ps) : Codec.Stream) = s' at hs' ⊢
      cases hw : write cf c (p.take x) with
      | mk c' we =>
        obtain ⟨w, e⟩ := we
        obtain ⟨i1, l1, n1, u1, _, _⟩ := write_spec h hw
        have hul : c'.unread.length = c.unread.length + w := by
          rw [u1, List.length_append, List.length_take]; omega
        have ht' : (if w < (p.take x).length then w else (p.take x).length) = w := by
          split <;> omega
        simp only [ht']
        have step : Took c (p :: ps) t (c', t + w, s') := ⟨i1, l1, Nat.le_add_right t w, by dsimp only; omega, by dsimp only; omega⟩
        cases e with
        | some err => exact step
        | none =>
          dsimp only
          split
          · exact step
          · exact step.trans (ih c' s' (t + w) i1)

theorem readFrom_bound (c : Chunk) (s : Codec.Stream) (h : c.Inv) : Took c s 0 (c.readFrom cf s) :=
  readFromLoop_bound cf _ c s 0 h

/-- the fuel `readFrom` gives its loop is never what ends it: one more unit changes nothing -/
theorem readFromLoop_fuel : ∀ (fuel : Nat) (c : Chunk) (s : Codec.Stream) (t : Nat),
    s.flatten.length + s.length + 1 ≤ fuel →
    readFromLoop cf (fuel + 1) c s t = readFromLoop cf fuel c s t := by
  intro fuel
  induction fuel with
  | zero => intro c s t hf; omega
  | succ fuel ih =>
    intro c s t hf
    conv => lhs; unfold readFromLoop
    conv => rhs; unfold readFromLoop
    by_cases hsp : c.limit > 0 ∧ c.space ≤ 0
    · rw [if_pos hsp, if_pos hsp]
    · rw [if_neg hsp, if_neg hsp]
      simp only
      cases s with
      | nil => rfl
      | cons p ps =>
        simp only
        have hx : 0 < (if c.limit > 0 then min c.space.toNat Facts.bufSize else Facts.bufSize) := by
          have := bufSize_pos
          split
          · rename_i hl
            have : c.space > 0 := by
              by_cases hh : c.space ≤ 0
              · exact absurd ⟨hl, hh⟩ hsp
              · omega
            omega
          · omega
        generalize (if c.limit > 0 then min c.space.toNat Facts.bufSize else Facts.bufSize) = x at hx ⊢
        have hs' : ((if p.length ≤ x then ps else p.drop x :: ps) : Codec.Stream).flatten.length +
            ((if p.length ≤ x then ps else p.drop x :: ps) : Codec.Stream).length + 1 ≤ fuel := by
          simp only [List.flatten_cons, List.length_append, List.length_cons] at hf
          split
          · omega
          · simp only [List.flatten_cons, List.length_append, List.length_drop, List.length_cons]; omega
        generalize ((if p.length ≤ x then ps else p.drop x :: ps) : Codec.Stream) = s' at hs' ⊢
        cases hw : write cf c (p.take x) with
        | mk c' we =>
          obtain ⟨w, e⟩ := we
          simp only
          cases e with
          | some err => rfl
          | none =>
            simp only
            split
            · rfl
            · exact ih c' s' _ hs'

end Chunk
end XMT.Chunk
