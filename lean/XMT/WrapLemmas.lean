/- Lemmas about the wrapper-stack model (XMT.Wrap): what a lossless layer is (`LGood`, the hypothesis
and conclusion of the C07 layer theorems), the stack-order theorem, the CFB layers (`BlockFn`: all that
is asked of the block function), the Base64-shift transform (the shift is undone; its reader `b64Read`
on arbitrary input), the optional transform of the send/receive path. -/
import XMT.Wrap
namespace XMT.Wrap

/-- A layer is lossless: whatever chunks are written and then closed, its reader gives back the
concatenation; after `Close`, further `Close` calls write nothing (the stack closes inner writers
more than once). -/
def LGood (L : Layer) : Prop :=
  ∃ Done : L.σ → Prop,
    (∀ s, Done s → (L.close s).2 = [] ∧ Done (L.close s).1) ∧
    (∀ ws, Done (L.close (L.writes L.init ws).1).1 ∧ L.dec (L.run ws).flatten = some ws.flatten)

theorem LGood.of_close_nil {L : Layer} (hc : ∀ s, (L.close s).2 = [])
    (h : ∀ ws, L.dec (L.writes L.init ws).2.flatten = some ws.flatten) : LGood L :=
  ⟨fun _ => True, fun s _ => ⟨hc s, trivial⟩, fun ws => ⟨trivial, by
    show L.dec ((L.writes L.init ws).2 ++ (L.close (L.writes L.init ws).1).2).flatten = _
    rw [hc, List.append_nil]; exact h ws⟩⟩

/-- The same for a whole writer relative to a decoder of what reaches the sink. -/
def WGood (W : Writer) (d : Bytes → Option Bytes) : Prop :=
  ∃ Done : W.σ → Prop,
    (∀ s, Done s → (W.close s).2 = [] ∧ Done (W.close s).1) ∧
    (∀ ws, Done (W.close (W.writes W.st ws).1).1 ∧ d (W.run ws) = some ws.flatten)

theorem Writer.writes_append (W : Writer) (s : W.σ) (a b : List Bytes) :
    W.writes s (a ++ b) =
      ((W.writes (W.writes s a).1 b).1, (W.writes s a).2 ++ (W.writes (W.writes s a).1 b).2) := by
  induction a generalizing s with
  | nil => simp [Writer.writes]
  | cons c cs ih => simp [Writer.writes, ih, List.append_assoc]

theorem Layer.writes_append (L : Layer) (s : L.σ) (a b : List Bytes) :
    L.writes s (a ++ b) =
      ((L.writes (L.writes s a).1 b).1, (L.writes s a).2 ++ (L.writes (L.writes s a).1 b).2) := by
  induction a generalizing s with
  | nil => simp [Layer.writes]
  | cons c cs ih => simp [Layer.writes, ih, List.append_assoc]

theorem sink_writes (ws : List Bytes) : sink.writes () ws = ((), ws.flatten) := by
  induction ws with
  | nil => rfl
  | cons c cs ih =>
    have h : (sink.write () c) = ((), c) := rfl
    simp only [Writer.writes, h, ih, List.flatten_cons]
    rfl

theorem sink_good : WGood sink some := by
  refine ⟨fun _ => True, fun _ _ => ⟨rfl, trivial⟩, fun ws => ⟨trivial, ?_⟩⟩
  show some ((sink.writes () ws).2 ++ (sink.close (sink.writes () ws).1).2) = _
  rw [sink_writes]; simp [sink]

theorem stackCloser_writes (L : Layer) (o : Writer) (a : L.σ) (b : o.σ) (ws : List Bytes) :
    (stackCloser L o).writes (a, b) ws =
      (((L.writes a ws).1, (o.writes b (L.writes a ws).2).1), (o.writes b (L.writes a ws).2).2) := by
  induction ws generalizing a b with
  | nil => rfl
  | cons c cs ih =>
    simp only [Writer.writes, Layer.writes]
    have : (stackCloser L o).write (a, b) c =
        (((L.write a c).1, (o.writes b (L.write a c).2).1), (o.writes b (L.write a c).2).2) := rfl
    rw [this, ih, Writer.writes_append]
    rfl

/-- The closes a `stackCloser` performs on the writer below: once by the layer's own `Close` (for
layers that close their underlying writer) and once by `s.Close()`. -/
def closeBelow (o : Writer) (under : Bool) (s : o.σ) : o.σ × Bytes :=
  let r2 := if under then o.close s else (s, [])
  let r3 := o.close r2.1
  (r3.1, r2.2 ++ r3.2)

theorem stackCloser_close (L : Layer) (o : Writer) (a : L.σ) (b : o.σ) :
    (stackCloser L o).close (a, b) =
      (((L.close a).1, (closeBelow o L.closesUnder (o.writes b (L.close a).2).1).1),
        (o.writes b (L.close a).2).2 ++ (closeBelow o L.closesUnder (o.writes b (L.close a).2).1).2) := rfl

theorem closeBelow_first {o : Writer} {DO : o.σ → Prop}
    (hDO : ∀ s, DO s → (o.close s).2 = [] ∧ DO (o.close s).1) (under : Bool) (s : o.σ)
    (h : DO (o.close s).1) :
    (closeBelow o under s).2 = (o.close s).2 ∧ DO (closeBelow o under s).1 := by
  obtain ⟨e, d⟩ := hDO _ h
  cases under
  · simp [closeBelow, h]
  · simp [closeBelow, e, d]

theorem closeBelow_done {o : Writer} {DO : o.σ → Prop}
    (hDO : ∀ s, DO s → (o.close s).2 = [] ∧ DO (o.close s).1) (under : Bool) (s : o.σ) (h : DO s) :
    (closeBelow o under s).2 = [] ∧ DO (closeBelow o under s).1 := by
  obtain ⟨e, d⟩ := hDO _ h
  obtain ⟨e1, d1⟩ := closeBelow_first hDO under s d
  exact ⟨e1.trans e, d1⟩

/-- Once `ws` have been written to a `stackCloser` and it has been closed, the writer below has
received all the layer wrote (`L.run ws`, the flush included) and then the closes. -/
theorem stackCloser_closed (L : Layer) (o : Writer) (ws : List Bytes) :
    ((stackCloser L o).close ((stackCloser L o).writes (stackCloser L o).st ws).1).1 =
      ((L.close (L.writes L.init ws).1).1, (closeBelow o L.closesUnder (o.writes o.st (L.run ws)).1).1) ∧
    (stackCloser L o).run ws =
      (o.writes o.st (L.run ws)).2 ++ (closeBelow o L.closesUnder (o.writes o.st (L.run ws)).1).2 := by
  have hwa := Writer.writes_append o o.st (L.writes L.init ws).2 (L.close (L.writes L.init ws).1).2
  change o.writes o.st (L.run ws) = _ at hwa
  unfold Writer.run
  rw [show (stackCloser L o).st = (L.init, o.st) from rfl, stackCloser_writes, stackCloser_close, hwa]
  exact ⟨rfl, (List.append_assoc _ _ _).symm⟩

theorem stackCloser_good (L : Layer) (o : Writer) (d : Bytes → Option Bytes)
    (hL : LGood L) (ho : WGood o d) : WGood (stackCloser L o) (fun wire => (d wire).bind L.dec) := by
  obtain ⟨DL, hDL, hLr⟩ := hL
  obtain ⟨DO, hDO, hOr⟩ := ho
  refine ⟨fun s => DL s.1 ∧ DO s.2, ?_, fun ws => ?_⟩
  · rintro ⟨a, b⟩ ⟨ha, hb⟩
    obtain ⟨e1, d1⟩ := hDL a ha
    obtain ⟨e2, d2⟩ := closeBelow_done hDO L.closesUnder b hb
    rw [stackCloser_close, e1]
    exact ⟨by simp [Writer.writes, e2], d1, d2⟩
  · obtain ⟨dl, hdec⟩ := hLr ws
    obtain ⟨dO, hdO⟩ := hOr (L.run ws)
    obtain ⟨e3, d3⟩ := closeBelow_first hDO L.closesUnder _ dO
    obtain ⟨hc, hr⟩ := stackCloser_closed L o ws
    rw [hc, hr, e3]
    exact ⟨⟨dl, d3⟩, by show (d (o.run (L.run ws))).bind L.dec = _; rw [hdO]; exact hdec⟩

theorem multiWrap_cons (L : Layer) (m : List Layer) (w : Writer) :
    multiWrap (L :: m) w = stackCloser L (multiWrap m w) := by
  simp [multiWrap, List.foldl_append]

theorem multiUnwrap_nil (wire : Bytes) : multiUnwrap [] wire = some wire := by
  simp [multiUnwrap]

theorem multiUnwrap_cons (L : Layer) (m : List Layer) (wire : Bytes) :
    multiUnwrap (L :: m) wire = (multiUnwrap m wire).bind L.dec := by
  simp [multiUnwrap, List.foldlM_append]

/-- Over the sink (`sink_good`, decoder `some`) the decoder is `multiUnwrap m` itself. -/
theorem multiWrap_good (m : List Layer) (h : ∀ L ∈ m, LGood L) {w : Writer} {d : Bytes → Option Bytes}
    (hw : WGood w d) : WGood (multiWrap m w) (fun wire => (d wire).bind (multiUnwrap m)) := by
  induction m with
  | nil =>
    have : (fun wire => (d wire).bind (multiUnwrap [])) = d :=
      funext fun wire => by cases d wire <;> simp [multiUnwrap_nil]
    rw [this]; exact hw
  | cons L m ih =>
    have : (fun wire => (d wire).bind (multiUnwrap (L :: m))) =
        fun wire => ((d wire).bind (multiUnwrap m)).bind L.dec :=
      funext fun wire => by rw [Option.bind_assoc]; exact Option.bind_congr fun x _ => multiUnwrap_cons L m x
    rw [multiWrap_cons, this]
    exact stackCloser_good L _ _ (h L (by simp)) (ih fun L' hL' => h L' (by simp [hL']))

/-- State invariant of `cipher.cfb` for block size `n`. -/
def Cfb.Inv (n : Nat) (s : Cfb) : Prop := s.next.length = n ∧ s.out.length = n ∧ s.used ≤ n

/-- `Block.Encrypt` writes a full block. -/
def BlockFn (n : Nat) (E : Bytes → Bytes) : Prop := ∀ x, x.length = n → (E x).length = n

theorem Cfb.init_inv (iv : Bytes) : Cfb.Inv iv.length (Cfb.init iv) := by
  simp [Cfb.Inv, Cfb.init]

theorem Cfb.step_enc {n : Nat} {E : Bytes → Bytes} (hn : 0 < n) (hE : BlockFn n E) (s : Cfb)
    (hs : Cfb.Inv n s) (x : UInt8) :
    ∃ s' y, Cfb.step E false s x = some (s', y) ∧ Cfb.step E true s y = some (s', x) ∧ Cfb.Inv n s' := by
  obtain ⟨h1, h2, h3⟩ := hs
  unfold Cfb.step
  by_cases hu : s.used = s.out.length
  · have hl : (E s.next).length = n := hE _ h1
    have h0 : 0 < (E s.next).length := by omega
    simp only [hu, if_true, List.getElem?_eq_getElem h0]
    refine ⟨_, _, rfl, ?_, ?_⟩
    · simp [UInt8.xor_assoc]
    · simp [Cfb.Inv, h1, hl]; omega
  · have hlt : s.used < s.out.length := by omega
    simp only [hu, if_false, List.getElem?_eq_getElem hlt]
    refine ⟨_, _, rfl, ?_, ?_⟩
    · simp [UInt8.xor_assoc]
    · simp [Cfb.Inv, h1, h2]; omega

theorem Cfb.stream_enc {n : Nat} {E : Bytes → Bytes} (hn : 0 < n) (hE : BlockFn n E) (s : Cfb)
    (hs : Cfb.Inv n s) (p : Bytes) :
    ∃ s' c, Cfb.stream E false s p = some (s', c) ∧ Cfb.stream E true s c = some (s', p) ∧
      Cfb.Inv n s' := by
  induction p generalizing s with
  | nil => exact ⟨s, [], rfl, rfl, hs⟩
  | cons x xs ih =>
    obtain ⟨s1, y, e1, e2, i1⟩ := Cfb.step_enc hn hE s hs x
    obtain ⟨s2, c, e3, e4, i2⟩ := ih s1 i1
    refine ⟨s2, y :: c, ?_, ?_, i2⟩
    · simp [Cfb.stream, e1, e3]
    · simp [Cfb.stream, e2, e4]

theorem Cfb.stream_append (E : Bytes → Bytes) (d : Bool) (s : Cfb) (a b : Bytes) :
    Cfb.stream E d s (a ++ b) =
      (Cfb.stream E d s a).bind fun r => (Cfb.stream E d r.1 b).map fun r' => (r'.1, r.2 ++ r'.2) := by
  induction a generalizing s with
  | nil => simp [Cfb.stream]
  | cons x xs ih =>
    simp only [List.cons_append, Cfb.stream]
    cases Cfb.step E d s x with
    | none => rfl
    | some r =>
      simp only [Option.bind_eq_bind, Option.bind_some, ih]
      cases Cfb.stream E d r.1 xs with
      | none => rfl
      | some r1 =>
        simp only [Option.bind_some]
        cases Cfb.stream E d r1.1 b with
        | none => rfl
        | some r2 => simp

/-- Writing chunks through the CFB writer = encrypting the concatenation, one output `Write` per input
`Write`: where the key stream exists for the whole, it exists for every chunk. -/
theorem cfbLayer_writes (E : Bytes → Bytes) (iv : Bytes) (ws : List Bytes) {s s' : Cfb} {c : Bytes}
    (h : Cfb.stream E false s ws.flatten = some (s', c)) :
    ((cfbLayer E iv).writes (some s) ws).1 = some s' ∧ ((cfbLayer E iv).writes (some s) ws).2.flatten = c := by
  induction ws generalizing s s' c with
  | nil => cases h; exact ⟨rfl, rfl⟩
  | cons w ws ih =>
    rw [List.flatten_cons, Cfb.stream_append] at h
    obtain ⟨r1, e1, h⟩ := Option.bind_eq_some_iff.mp h
    obtain ⟨r2, e2, h⟩ := Option.map_eq_some_iff.mp h
    cases h
    have hw : (cfbLayer E iv).write (some s) w = (some r1.1, [r1.2]) := by
      show (match (some s).bind (Cfb.stream E false · w) with
        | none => (none, []) | some r => (some r.1, [r.2])) = _
      simp [e1]
    obtain ⟨f1, f2⟩ := ih e2
    simp only [Layer.writes, hw, List.flatten_append, f2]
    exact ⟨f1, by simp⟩

theorem cfbLayer_good {E : Bytes → Bytes} {iv : Bytes} (hn : 0 < iv.length) (hE : BlockFn iv.length E) :
    LGood (cfbLayer E iv) := by
  refine .of_close_nil (fun _ => rfl) fun ws => ?_
  obtain ⟨s', c, e1, e2, _⟩ := Cfb.stream_enc hn hE (Cfb.init iv) (Cfb.init_inv iv) ws.flatten
  show (Cfb.stream E true (Cfb.init iv) ((cfbLayer E iv).writes (some (Cfb.init iv)) ws).2.flatten).map (·.2) = _
  rw [(cfbLayer_writes E iv ws e1).2, e2]; rfl

theorem xorBlock_blockFn (key : Bytes) : BlockFn key.length (xorBlock key) := by
  intro x hx; simp [xorBlock, hx]

theorem xorIv_length (key : Bytes) : (xorIv key).length = key.length := by simp [xorIv]

theorem unshift_shift (shift : UInt8) (p : Bytes) :
    (if shift ≠ 0 then (if shift ≠ 0 then p.map (· + shift) else p).map (· - shift)
      else if shift ≠ 0 then p.map (· + shift) else p) = p := by
  by_cases h : shift = 0
  · simp [h]
  · simp [h, Function.comp_def, UInt8.add_sub_cancel]

theorem b64Read_eq_none (dec64 : Bytes → Option Bytes) (shift : UInt8) (p : Bytes) :
    b64Read dec64 shift p = none ↔ dec64 p = none := by
  simp [b64Read]

theorem b64Read_eq (dec64 : Bytes → Option Bytes) (shift : UInt8) (p : Bytes) :
    b64Read dec64 shift p = (dec64 p).map (fun o => o.map (· - shift)) := by
  unfold b64Read
  by_cases h : shift = 0
  · subst h
    cases dec64 p with
    | none => rfl
    | some o =>
      simp only [Option.map_some, ne_eq, not_true_eq_false, if_false]
      congr 1
      symm
      apply List.map_id''
      intro x; exact UInt8.sub_zero x
  · simp [h]

theorem b64Read_some (dec64 : Bytes → Option Bytes) (shift : UInt8) (p out : Bytes)
    (h : b64Read dec64 shift p = some out) :
    ∃ raw, dec64 p = some raw ∧ out.length = raw.length ∧ out = raw.map (· - shift) := by
  rw [b64Read_eq] at h
  simp only [Option.map_eq_some_iff] at h
  obtain ⟨raw, e, rfl⟩ := h
  exact ⟨raw, e, by simp, rfl⟩

theorem lossless_of_map {α : Type} (t : Option α) (f : α → Transform)
    (h : ∀ x, t = some x → ∀ p, ∃ y, (f x).write p = some y ∧ (f x).read y = some p) :
    ∀ tr, t.map f = some tr → ∀ p, ∃ y, tr.write p = some y ∧ tr.read y = some p := by
  intro tr htr
  cases t with
  | none => cases htr
  | some x => cases htr; exact h x rfl

end XMT.Wrap
