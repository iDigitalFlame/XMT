/-
  XMT.ChunkExact — exact byte-level clauses for `Seek` and the positional writers (`QStep` says `True`
  for both).

  The queue of unread bytes alone cannot express these two families (they address RETAINED bytes,
  read or unread), so the abstract state here is the retained bytes `v = c.buf` plus the cursor `r`;
  the queue is `v.drop r`.  `VStep` is exact for `seek` / `pos` and is `QStep` on `v.drop r` for all
  other operations.

  The positional writers of data/chunk_writer.go are exactly: WriteBoolPos, WriteUint8Pos,
  WriteUint16Pos, WriteUint32Pos, WriteUint64Pos (there are no signed / float variants).
-/
import XMT.ChunkOps
import XMT.ChunkSeq
namespace XMT.Chunk

namespace Chunk
/-- `WriteBoolPos(p, b)` -/
def writeBoolPos (c : Chunk) (p : Int) (b : Bool) := c.writePos p [if b then 1 else 0]
/-- `WriteUint8Pos(p, n)` -/
def writeUint8Pos (c : Chunk) (p : Int) (n : UInt8) := c.writePos p [n]
/-- `WriteUint16Pos(p, n)` (`n < 2^16`) -/
def writeUint16Pos (c : Chunk) (p : Int) (n : Nat) := c.writePos p (be16 n)
/-- `WriteUint32Pos(p, n)` (`n < 2^32`) -/
def writeUint32Pos (c : Chunk) (p : Int) (n : Nat) := c.writePos p (be32 n)
/-- `WriteUint64Pos(p, n)` (`n < 2^64`) -/
def writeUint64Pos (c : Chunk) (p : Int) (n : Nat) := c.writePos p (be64 n)
end Chunk

/-- the absolute offset a `Seek(o, whence)` aims at, on the abstract state -/
def seekAim (v : Bytes) (r : Nat) (o : Int) (w : Nat) : Int :=
  if w = 1 then o + r else if w = 2 then o + v.length else o

/-- `v` with `b` written over `[p, p + |b|)` -/
def splice (v : Bytes) (p : Nat) (b : Bytes) : Bytes := v.take p ++ b ++ v.drop (p + b.length)

/-- `Seek(o, w)` returned `(t, e)`, exactly. -/
def SeekX (v : Bytes) (r : Nat) (o : Int) (w : Nat) (t : Int) (e : Option Err) (v' : Bytes) (r' : Nat) : Prop :=
  v' = v ∧
  ((w ≤ 2 ∧ 0 ≤ seekAim v r o w ∧ seekAim v r o w ≤ v.length ∧
      e = none ∧ t = seekAim v r o w ∧ (r' : Int) = seekAim v r o w) ∨
   (w > 2 ∧ e = some .whence ∧ t = 0 ∧ r' = r) ∨
   (w ≤ 2 ∧ (seekAim v r o w < 0 ∨ seekAim v r o w > v.length) ∧
      e = some .invalidIndex ∧ t = 0 ∧ r' = r))

/-- a positional write of the image `b` at `p` returned `e`, exactly. -/
def PosX (v : Bytes) (r : Nat) (p : Int) (b : Bytes) (e : Option Err) (v' : Bytes) (r' : Nat) : Prop :=
  r' = r ∧ v'.length = v.length ∧
  ((0 ≤ p ∧ p.toNat + b.length ≤ v.length ∧ e = none ∧ v' = splice v p.toNat b) ∨
   (p < 0 ∧ e = some .invalidIndex ∧ v' = v) ∨
   (0 ≤ p ∧ p.toNat + b.length > v.length ∧ e = some .eof ∧ v' = v))

/-- Exact step relation on (retained bytes, cursor): exact clauses for `seek` / `pos`, the queue
relation `QStep` on `v.drop r` for everything else. -/
def VStep (v : Bytes) (r : Nat) (op : Op) (out : Out) (v' : Bytes) (r' : Nat) : Prop :=
  match op, out with
  | .seek o w, .off t e => SeekX v r o w t e v' r'
  | .pos p b, .err e => PosX v r p b e v' r'
  | .seek _ _, _ => False
  | .pos _ _, _ => False
  | op, out => QStep (v.drop r) op out (v'.drop r')

theorem splice_length (v b : Bytes) (p : Nat) (hp : p + b.length ≤ v.length) :
    (splice v p b).length = v.length := by
  simp [splice, List.length_take, List.length_drop]; omega

theorem splice_get (v b : Bytes) (p : Nat) (hp : p + b.length ≤ v.length) (i : Nat) :
    (splice v p b)[i]? =
      if i < p then v[i]? else if i < p + b.length then b[i - p]? else v[i]? := by
  have h1 : (v.take p).length = p := by simp [List.length_take]; omega
  unfold splice
  by_cases hi : i < p
  · rw [if_pos hi, List.append_assoc, List.getElem?_append_left (by omega), List.getElem?_take, if_pos hi]
  · rw [if_neg hi, List.append_assoc, List.getElem?_append_right (by omega), h1]
    by_cases hj : i < p + b.length
    · rw [if_pos hj, List.getElem?_append_left (by omega)]
    · rw [if_neg hj, List.getElem?_append_right (by omega), List.getElem?_drop]
      congr 1; omega

namespace Chunk

theorem seek_exact (c : Chunk) (o : Int) (w : Nat) (h : c.Inv) :
    SeekX c.view c.rpos o w (c.seek o w).2.1 (c.seek o w).2.2 (c.seek o w).1.view (c.seek o w).1.rpos := by
  have ht : seekAim c.view c.rpos o w = seekTarget c o w := by
    unfold seekAim seekTarget; rw [view_length h]
  unfold SeekX
  rw [ht, view_length h]
  unfold seek
  split
  · rename_i hw
    exact ⟨rfl, Or.inr (Or.inl ⟨hw, rfl, rfl, rfl⟩)⟩
  · split
    · rename_i h0
      refine ⟨rfl, Or.inr (Or.inr ⟨by omega, Or.inl ?_, rfl, rfl, rfl⟩)⟩
      unfold seekTarget; rw [if_neg (by omega), if_neg (by omega)]; exact h0.2
    · split
      · rename_i hb
        exact ⟨rfl, Or.inr (Or.inr ⟨by omega, hb, rfl, rfl, rfl⟩)⟩
      · exact ⟨rfl, Or.inl ⟨by omega, by omega, by omega, rfl, rfl, by simp only; omega⟩⟩

theorem pos_exact (c : Chunk) (p : Int) (b : Bytes) (hb : 0 < b.length) (h : c.Inv) :
    PosX c.view c.rpos p b (c.writePos p b).2 (c.writePos p b).1.view (c.writePos p b).1.rpos := by
  have hv := view_length h
  unfold PosX
  rw [writePos_eq c p b hb h, hv]
  split
  · rename_i hp
    exact ⟨rfl, hv, Or.inr (Or.inl ⟨hp, rfl, rfl⟩)⟩
  · split
    · exact ⟨rfl, hv, Or.inr (Or.inr ⟨by omega, by omega, rfl, rfl⟩)⟩
    · have hpl : p.toNat + b.length ≤ c.len := by omega
      exact ⟨rfl, view_length (poke_inv h hpl),
        Or.inl ⟨by omega, hpl, rfl, poke_view h.lc hpl⟩⟩

end Chunk
end XMT.Chunk
