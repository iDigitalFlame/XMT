/-
  XMT.B64Lemmas — round trip of the encoding/base64 model (XMT/B64Codec.lean): `Decode ∘ Encode = id`
  for every byte string, the streaming encoder (Write/Close) produces the encoding of the
  concatenation for every write chunking, the streaming decoder returns the payload and then EOF for
  every chunking of the wire and every sequence of Read sizes; what the `Base64` layer has written
  after `Close`, that a closed encoder writes nothing more and that the layer's reader undoes it
  (`b64Layer_run`, `close_done`/`close_idle`, `b64Layer_dec_encode`, from which Props.C07.base64_lossless
  has `LGood b64Layer`); the Base64(-shift) transform with the concrete codec round-trips.
-/
import XMT.B64Codec
import XMT.WrapLemmas
import XMT.HexLemmas
namespace XMT.B64Codec
open XMT.Wrap
open XMT.HexCodec (Src)

theorem alpha_all : ∀ k : Fin 64, decodeMap (alphabet k.val) = some k.val ∧ isNL (alphabet k.val) = false := by
  decide

/-- every digit `encode` writes is `alphabet (_ % 64)` -/
theorem decodeMap_digit (m : Nat) : decodeMap (alphabet (m % 64)) = some (m % 64) :=
  (alpha_all ⟨m % 64, Nat.mod_lt m (by decide)⟩).1

theorem isNL_digit (m : Nat) : isNL (alphabet (m % 64)) = false :=
  (alpha_all ⟨m % 64, Nat.mod_lt m (by decide)⟩).2

theorem pad_facts : decodeMap padChar = none ∧ isNL padChar = false := by decide

theorem decodeAux_digit (acc : Bytes) (m : Nat) (src : Bytes) (dbuf : List Nat) :
    decodeAux acc (alphabet (m % 64) :: src) dbuf =
      if dbuf.length = 3 then decodeAux (acc ++ assemble (dbuf ++ [m % 64])) src []
      else decodeAux acc src (dbuf ++ [m % 64]) := by
  simp only [decodeAux, decodeMap_digit]

theorem pad2 (acc : Bytes) (v0 v1 : Nat) :
    decodeAux acc [padChar, padChar] [v0, v1] = (acc ++ assemble [v0, v1], none) := rfl

theorem pad1 (acc : Bytes) (v0 v1 v2 : Nat) :
    decodeAux acc [padChar] [v0, v1, v2] = (acc ++ assemble [v0, v1, v2], none) := rfl

theorem sextets (v : Nat) (hv : v < 2 ^ 24) :
    v / 262144 % 64 * 262144 + v / 4096 % 64 * 4096 + v / 64 % 64 * 64 + v % 64 = v := by omega

theorem asm3 (a b c : UInt8) :
    assemble [(a.toNat * 65536 + b.toNat * 256 + c.toNat) / 262144 % 64,
      (a.toNat * 65536 + b.toNat * 256 + c.toNat) / 4096 % 64,
      (a.toNat * 65536 + b.toNat * 256 + c.toNat) / 64 % 64,
      (a.toNat * 65536 + b.toNat * 256 + c.toNat) % 64] = [a, b, c] := by
  have ha := UInt8.toNat_lt a; have hb := UInt8.toNat_lt b; have hc := UInt8.toNat_lt c
  have e := sextets (a.toNat * 65536 + b.toNat * 256 + c.toNat) (by omega)
  have e1 : (a.toNat * 65536 + b.toNat * 256 + c.toNat) / 65536 % 256 = a.toNat := by omega
  have e2 : (a.toNat * 65536 + b.toNat * 256 + c.toNat) / 256 % 256 = b.toNat := by omega
  have e3 : (a.toNat * 65536 + b.toNat * 256 + c.toNat) % 256 = c.toNat := by omega
  simp only [assemble, List.getD_cons_zero, List.getD_cons_succ]
  rw [e, e1, e2, e3, UInt8.ofNat_toNat, UInt8.ofNat_toNat, UInt8.ofNat_toNat]
  rfl

/-- A short final group is a full group whose missing bytes are zero: its last digits are then zero,
`assemble` reads an absent digit as zero and keeps one byte less. -/
theorem asm2 (a b : UInt8) :
    assemble [(a.toNat * 65536 + b.toNat * 256) / 262144 % 64,
      (a.toNat * 65536 + b.toNat * 256) / 4096 % 64,
      (a.toNat * 65536 + b.toNat * 256) / 64 % 64] = [a, b] := by
  have h := congrArg (List.take 2) (asm3 a b 0)
  rw [show (0 : UInt8).toNat = 0 from rfl, Nat.add_zero,
    show (a.toNat * 65536 + b.toNat * 256) % 64 = 0 by omega] at h
  exact h

theorem asm1 (a : UInt8) :
    assemble [(a.toNat * 65536) / 262144 % 64, (a.toNat * 65536) / 4096 % 64] = [a] := by
  have h := congrArg (List.take 1) (asm2 a 0)
  rw [show (0 : UInt8).toNat = 0 from rfl, Nat.zero_mul, Nat.add_zero,
    show a.toNat * 65536 / 64 % 64 = 0 by omega] at h
  exact h

theorem decodeAux_encode : ∀ (x acc : Bytes), decodeAux acc (encode x) [] = (acc ++ x, none)
  | [], acc => by simp [encode, decodeAux]
  | [a], acc => by
    simp only [encode, decodeAux_digit, List.length_nil, List.length_cons, List.nil_append, List.cons_append,
      Nat.reduceAdd, Nat.reduceEqDiff, if_false, pad2, asm1]
  | [a, b], acc => by
    simp only [encode, decodeAux_digit, List.length_nil, List.length_cons, List.nil_append, List.cons_append,
      Nat.reduceAdd, Nat.reduceEqDiff, if_false, pad1, asm2]
  | a :: b :: c :: r, acc => by
    simp only [encode, enc3, decodeAux_digit, List.length_nil, List.length_cons, List.nil_append, List.cons_append,
      Nat.reduceAdd, Nat.reduceEqDiff, if_false, if_true, asm3, decodeAux_encode r, List.append_assoc]

theorem decode_encode (x : Bytes) : decode (encode x) = (x, none) := decodeAux_encode x []

theorem encode_append : ∀ {x : Bytes}, x.length % 3 = 0 → ∀ y, encode (x ++ y) = encode x ++ encode y
  | [], _, _ => rfl
  | [_], h, _ => by simp at h
  | [_, _], h, _ => by simp at h
  | a :: b :: c :: r, h, y => by
    have := encode_append (x := r) (by simp at h; omega) y
    simp [encode, this]

theorem encode_length : ∀ x : Bytes, (encode x).length = 4 * ((x.length + 2) / 3)
  | [] => rfl
  | [_] => by simp [encode]
  | [_, _] => by simp [encode]
  | a :: b :: c :: r => by
    simp only [encode, enc3, List.length_append, List.length_cons, List.length_nil, encode_length r]
    omega

theorem encode_split (x : Bytes) (m : Nat) :
    (encode x).take (4 * m) = encode (x.take (3 * m)) ∧ (encode x).drop (4 * m) = encode (x.drop (3 * m)) := by
  by_cases h : 3 * m ≤ x.length
  · have hl : (x.take (3 * m)).length = 3 * m := by rw [List.length_take]; omega
    have hel : (encode (x.take (3 * m))).length = 4 * m := by rw [encode_length, hl]; omega
    have hx : encode x = encode (x.take (3 * m)) ++ encode (x.drop (3 * m)) := by
      rw [← encode_append (by omega), List.take_append_drop]
    rw [hx]
    exact ⟨List.take_left' hel, List.drop_left' hel⟩
  · have h1 : (encode x).length ≤ 4 * m := by rw [encode_length]; omega
    rw [List.take_of_length_le h1, List.drop_of_length_le h1, List.take_of_length_le (by omega),
      List.drop_of_length_le (by omega)]
    exact ⟨rfl, rfl⟩

theorem encode_clean : ∀ x : Bytes, ∀ c ∈ encode x, isNL c = false
  | [] => by simp [encode]
  | [a] => by simp only [encode, List.forall_mem_cons, isNL_digit, pad_facts.2, true_and]; simp
  | [a, b] => by simp only [encode, List.forall_mem_cons, isNL_digit, pad_facts.2, true_and]; simp
  | a :: b :: d :: r => by
    simp only [encode, enc3, List.cons_append, List.nil_append, List.forall_mem_cons, isNL_digit, true_and]
    exact encode_clean r

/-- The encoder, fed `inp`, has written `out` below and keeps `rem`: whole groups are encoded, fewer
than three bytes are kept back. -/
def Emits (inp : Bytes) (out : List Bytes) (rem : Bytes) : Prop :=
  ∃ X, out.flatten = encode X ∧ X.length % 3 = 0 ∧ inp = X ++ rem ∧ rem.length < 3

theorem Emits.refl {r : Bytes} (h : r.length < 3) : Emits r [] r := ⟨[], rfl, rfl, rfl, h⟩

theorem Emits.cons {a r : Bytes} {o : List Bytes} (c : Bytes) (hc : c.length % 3 = 0) :
    Emits a o r → Emits (c ++ a) (encode c :: o) r
  | ⟨X, e1, e2, e3, e4⟩ => ⟨c ++ X, by rw [List.flatten_cons, e1, encode_append hc],
      by rw [List.length_append]; omega, by rw [e3, List.append_assoc], e4⟩

theorem Emits.trans {a b r1 r2 : Bytes} {o1 o2 : List Bytes} :
    Emits a o1 r1 → Emits (r1 ++ b) o2 r2 → Emits (a ++ b) (o1 ++ o2) r2
  | ⟨X, e1, e2, e3, _⟩, ⟨Y, f1, f2, f3, f4⟩ => ⟨X ++ Y, by rw [List.flatten_append, e1, f1, encode_append e2],
      by rw [List.length_append]; omega, by rw [e3, List.append_assoc, f3, List.append_assoc], f4⟩

theorem Emits.rem_lt {a r : Bytes} {o : List Bytes} : Emits a o r → r.length < 3
  | ⟨_, _, _, _, h⟩ => h

theorem Emits.flush {a r : Bytes} {o : List Bytes} : Emits a o r → (o ++ [encode r]).flatten = encode a
  | ⟨X, e1, e2, e3, _⟩ => by simp [e1, e3, encode_append e2]

theorem interior_chunk : encOut / 4 * 3 = 768 := by decide

theorem interior_emits (f : Nat) (p : Bytes) (h : p.length ≤ f) :
    Emits p (interior f p).1 (interior f p).2 := by
  induction f generalizing p with
  | zero => exact .refl (by omega)
  | succ f ih =>
    unfold interior
    split
    · rw [interior_chunk]
      -- the chunk taken: a positive multiple of 3
      obtain ⟨nn, hnn, h3, hge, hle⟩ : ∃ nn, (if 768 > p.length then p.length - p.length % 3 else 768) = nn ∧
          nn % 3 = 0 ∧ 3 ≤ nn ∧ nn ≤ p.length := ⟨_, rfl, by split <;> omega, by split <;> omega, by split <;> omega⟩
      simp only [hnn]
      have := (ih (p.drop nn) (by rw [List.length_drop]; omega)).cons (p.take nn) (by rw [List.length_take]; omega)
      rwa [List.take_append_drop] at this
    · exact .refl (by omega)

theorem write_emits (e : Enc) (p : Bytes) (h : e.buf.length < 3) :
    Emits (e.buf ++ p) (e.write p).2 (e.write p).1.buf := by
  unfold Enc.write
  split
  · -- the leading fringe completes the group in `buf`, or `p` is used up
    obtain ⟨i, hi, h1, h2, h3⟩ : ∃ i, (if p.length < 3 - e.buf.length then p.length else 3 - e.buf.length) = i ∧
        i ≤ p.length ∧ i ≤ 3 - e.buf.length ∧ (i < 3 - e.buf.length → i = p.length) :=
      ⟨_, rfl, by split <;> omega, by split <;> omega, by split <;> omega⟩
    simp only [hi]
    have hl : (e.buf ++ p.take i).length = e.buf.length + i := by
      rw [List.length_append, List.length_take]; omega
    split
    · rename_i hlt
      have := Emits.refl hlt
      rwa [h3 (by omega), List.take_length] at this ⊢
    · have := (interior_emits _ (p.drop i) (Nat.le_refl _)).cons (e.buf ++ p.take i) (by omega)
      rwa [List.append_assoc, List.take_append_drop] at this
  · rename_i hb
    rw [List.eq_nil_of_length_eq_zero (by omega : e.buf.length = 0)]
    exact interior_emits _ p (Nat.le_refl _)

theorem writes_emits (ws : List Bytes) (e : Enc) (h : e.buf.length < 3) :
    Emits (e.buf ++ ws.flatten) (b64Layer.writes e ws).2 (b64Layer.writes e ws).1.buf := by
  induction ws generalizing e with
  | nil => simpa [Layer.writes] using Emits.refl h
  | cons c cs ih =>
    have hc := write_emits e c h
    have := hc.trans (ih (e.write c).1 hc.rem_lt)
    rwa [List.append_assoc] at this

theorem b64Layer_run (ws : List Bytes) : (b64Layer.run ws).flatten = encode ws.flatten := by
  have h := (writes_emits ws { buf := [] } (by decide)).flush
  show ((b64Layer.writes { buf := [] } ws).2 ++ (Enc.close (b64Layer.writes { buf := [] } ws).1).2).flatten = _
  unfold Enc.close
  split
  · exact h
  · rw [List.eq_nil_of_length_eq_zero (by omega : (b64Layer.writes { buf := [] } ws).1.buf.length = 0)] at h
    simpa [encode] using h

theorem close_done (e : Enc) : (Enc.close e).1.buf = [] := by
  unfold Enc.close
  split
  · rfl
  · show e.buf = []
    exact List.eq_nil_of_length_eq_zero (by omega)

theorem close_idle {e : Enc} (h : e.buf = []) : (Enc.close e).2 = [] := by
  unfold Enc.close
  rw [h]; rfl

theorem wantLen_ge (k : Nat) : 4 ≤ wantLen k := by
  have : decBuf = 1024 := by decide
  unfold wantLen
  simp only []
  split <;> split <;> omega

theorem nlRead_clean (cap : Nat) (s : Src) (hc : ∀ b ∈ s.pieces.flatten, isNL b = false) :
    nlRead (srcFuel s) cap s = s.read cap := by
  have hfil : (s.read cap).1.filter (fun b => !isNL b) = (s.read cap).1 :=
    List.filter_eq_self.mpr fun b hb => by
      rw [hc b (by rw [← (Src.read_spec s cap).1]; exact List.mem_append_left _ hb)]; rfl
  simp only [srcFuel, nlRead, hfil]
  split
  · rfl
  · exact Prod.ext (List.eq_nil_of_length_eq_zero (by omega)).symm rfl

/-- what is buffered undecoded plus what the reader below still holds is `W`, and EOF has only been
seen from an exhausted reader -/
def Fed (W : Bytes) (d : Dec) (s : Src) : Prop :=
  d.buf ++ s.pieces.flatten = W ∧ (d.readErr = true → s.pieces = [])

theorem refill_spec (k : Nat) {W : Bytes} (hW : ∀ b ∈ W, isNL b = false) (f : Nat) {d : Dec} {s : Src}
    (h : Fed W d s) (hf : d.readErr = true ∨ 4 ≤ d.buf.length ∨ s.pieces.flatten.length + s.pieces.length < f) :
    Fed W (refill k f d s).1 (refill k f d s).2 ∧
    ((refill k f d s).1.readErr = true ∨ 4 ≤ (refill k f d s).1.buf.length) ∧
    (refill k f d s).1.err = d.err ∧ (refill k f d s).1.out = d.out := by
  induction f generalizing d s with
  | zero => exact ⟨h, hf.imp_right fun h => h.resolve_right (Nat.not_lt_zero _), rfl, rfl⟩
  | succ f ih =>
    unfold refill
    split
    · rename_i hc
      rw [nlRead_clean _ s fun b hb => hW b (by rw [← h.1]; exact List.mem_append_right _ hb)]
      obtain ⟨r1, r2, r3, r4⟩ := Src.read_spec s (wantLen k - d.buf.length)
      have hcap := wantLen_ge k
      apply ih
      · exact ⟨by show (d.buf ++ _) ++ _ = W; rw [List.append_assoc, r1, h.1], r2⟩
      · -- a Read without EOF took a byte or used up a piece
        cases he : (s.read (wantLen k - d.buf.length)).2.2 with
        | true => exact Or.inl rfl
        | false =>
          have hl := congrArg List.length r1
          rw [List.length_append] at hl
          have := r4 he
          have := hf.resolve_left (by rw [hc.2]; exact Bool.false_ne_true)
          exact Or.inr (Or.inr (by omega))
    · rename_i hc
      refine ⟨h, ?_, rfl, rfl⟩
      cases hr : d.readErr with
      | true => exact Or.inl rfl
      | false => exact Or.inr (Nat.le_of_not_lt fun hb => hc ⟨hb, hr⟩)

/-- what is buffered (decoded and not) plus what the reader below still holds is the encoding of the
bytes not yet delivered; an error is latched only as EOF after everything has been decoded -/
def InvB (d : Dec) (s : Src) (rest : Bytes) : Prop :=
  ∃ X, rest = d.out ++ X ∧ Fed (encode X) d s ∧ (d.err = none ∨ (d.err = some .eof ∧ X = []))

theorem read_spec {d : Dec} {s : Src} {rest : Bytes} (h : InvB d s rest) (k : Nat) :
    ∃ rest', rest = (d.read s k).2.2.1 ++ rest' ∧ InvB (d.read s k).1 (d.read s k).2.1 rest' ∧
      ((d.read s k).2.2.2 = none ∨ ((d.read s k).2.2.2 = some .eof ∧ rest' = [])) ∧
      (0 < k → (d.read s k).2.2.2 = none → rest'.length < rest.length) := by
  obtain ⟨X, hr, hw, he⟩ := h
  unfold Dec.read
  split
  · -- leftover output
    refine ⟨d.out.drop k ++ X, ?_, ⟨X, rfl, hw, he⟩, Or.inl rfl, fun hk _ => ?_⟩
    · show rest = d.out.take k ++ (d.out.drop k ++ X)
      rw [← List.append_assoc, List.take_append_drop, hr]
    · rw [hr, List.length_append, List.length_append, List.length_drop]; omega
  rename_i ho
  have hout : d.out = [] := List.eq_nil_of_length_eq_zero (by omega)
  rw [hout, List.nil_append] at hr
  replace hr := hr.symm
  subst hr
  split
  · -- latched error: it is EOF, after everything
    rename_i hs
    rcases he with he | ⟨he, hx⟩
    · rw [he] at hs; cases hs
    · exact ⟨[], by rw [hx]; rfl, ⟨X, by rw [hout, hx]; rfl, hw, Or.inr ⟨he, hx⟩⟩, Or.inr ⟨he, rfl⟩,
        fun _ hn => by rw [he] at hn; cases hn⟩
  rename_i hs
  obtain ⟨⟨r1, r2⟩, r3, r4, r5⟩ := refill_spec k (encode_clean X) (srcFuel s) hw
    (Or.inr (Or.inr (by unfold srcFuel; omega)))
  generalize refill k (srcFuel s) d s = R at *
  obtain ⟨d', s'⟩ := R
  simp only [] at r1 r2 r3 r4 r5 ⊢
  rw [hout] at r5
  split
  · -- fewer than 4 characters and the reader below is exhausted: they are none
    rename_i hlt
    have hre : d'.readErr = true := r3.resolve_right (by omega)
    have hp := r2 hre
    rw [hp, List.flatten_nil, List.append_nil] at r1
    have hl : d'.buf.length = 0 := by
      have := encode_length X
      rw [← r1] at this; omega
    have hX : X = [] := by
      have := encode_length X
      rw [← r1, hl] at this
      exact List.eq_nil_of_length_eq_zero (by omega)
    simp only [hre, hl, if_true]
    exact ⟨[], by rw [hX]; rfl, ⟨[], by rw [r5]; rfl, ⟨by rw [← hX, ← r1, hp]; simp, fun _ => hp⟩, Or.inr ⟨rfl, rfl⟩⟩,
      Or.inr ⟨by simp, rfl⟩, fun _ hn => by simp at hn⟩
  · -- `m ≥ 1` whole quanta are decoded
    obtain ⟨m, hm, hm1, hm4⟩ : ∃ m, d'.buf.length / 4 = m ∧ 1 ≤ m ∧ 4 * m ≤ d'.buf.length :=
      ⟨_, rfl, by omega, by omega⟩
    obtain ⟨htake, hdrop⟩ := encode_split X m
    rw [← r1, List.take_append_of_le_length hm4] at htake
    rw [← r1, List.drop_append_of_le_length hm4] at hdrop
    have hXl : 1 ≤ X.length := by
      have h1 := encode_length X
      have h2 := congrArg List.length r1
      rw [List.length_append] at h2
      omega
    simp only [hm, Nat.mul_comm m 4, Nat.mul_comm m 3, htake, decode_encode]
    split
    · -- more than fits: the rest is kept in `out`
      refine ⟨(X.take (3 * m)).drop k ++ X.drop (3 * m), ?_, ⟨X.drop (3 * m), rfl, ⟨hdrop, r2⟩, Or.inl rfl⟩,
        Or.inl rfl, fun hk _ => ?_⟩
      · show X = (X.take (3 * m)).take k ++ ((X.take (3 * m)).drop k ++ X.drop (3 * m))
        rw [← List.append_assoc, List.take_append_drop, List.take_append_drop]
      · simp only [List.length_append, List.length_drop, List.length_take]
        omega
    · exact ⟨X.drop (3 * m), (List.take_append_drop _ _).symm, ⟨X.drop (3 * m), by rw [r5]; rfl, ⟨hdrop, r2⟩, Or.inl rfl⟩,
        Or.inl rfl, fun hk _ => by rw [List.length_drop]; omega⟩

theorem readSeq_spec (ks : List Nat) {d : Dec} {s : Src} {rest : Bytes} (h : InvB d s rest) :
    ∃ rest', rest = (readSeq d s ks).1.flatten ++ rest' ∧
      ((readSeq d s ks).2 = none ∨ ((readSeq d s ks).2 = some .eof ∧ rest' = [])) := by
  induction ks generalizing d s rest with
  | nil => exact ⟨rest, rfl, Or.inl rfl⟩
  | cons k ks ih =>
    obtain ⟨rest', e1, i1, e2, _⟩ := read_spec h k
    unfold readSeq
    rcases e2 with e2 | ⟨e2, e3⟩
    · simp only [e2]
      obtain ⟨rest'', f1, f2⟩ := ih i1
      exact ⟨rest'', by rw [List.flatten_cons, List.append_assoc, ← f1]; exact e1, f2⟩
    · simp only [e2]
      exact ⟨rest', by simpa using e1, by simp [e3]⟩

theorem readAll_spec (k : Nat) (hk : 0 < k) (fuel : Nat) {d : Dec} {s : Src} {rest : Bytes} (h : InvB d s rest)
    (hf : rest.length + 1 < fuel) : readAll k fuel d s = (rest, some .eof) := by
  induction fuel generalizing d s rest with
  | zero => omega
  | succ fuel ih =>
    obtain ⟨rest', e1, i1, e2, e3⟩ := read_spec h k
    unfold readAll
    rcases e2 with e2 | ⟨e2, e4⟩
    · simp only [e2]
      rw [ih i1 (by have := e3 hk e2; omega), ← e1]
    · simp only [e2]
      rw [e1, e4, List.append_nil]

theorem invB_init (wire : List Bytes) (we : Bool) (x : Bytes) (h : wire.flatten = encode x) :
    InvB Dec.init { pieces := wire, withEOF := we } x :=
  ⟨x, rfl, ⟨h, fun e => nomatch e⟩, Or.inl rfl⟩

theorem b64Layer_dec_encode (x : Bytes) : b64Layer.dec (encode x) = some x := by
  have := readAll_spec 512 (by decide) ((encode x).length + 3) (invB_init [encode x] false x List.flatten_singleton)
    (by rw [encode_length]; omega)
  simp only [b64Layer, decAll, this]

theorem transformWrite_eq (shift : UInt8) (p : Bytes) :
    transformWrite shift p = encode (if shift ≠ 0 then p.map (· + shift) else p) := by
  have h := b64Layer_run [if shift ≠ 0 then p.map (· + shift) else p]
  rw [List.flatten_cons, List.flatten_nil, List.append_nil] at h
  rw [← h]
  unfold transformWrite
  simp only [Layer.run, Layer.writes, b64Layer, List.append_nil]

theorem transform_roundtrip (shift : UInt8) (p : Bytes) :
    transformRead shift (transformWrite shift p) = some p := by
  rw [transformWrite_eq]
  unfold transformRead
  rw [decode_encode]
  exact congrArg some (unshift_shift shift p)

end XMT.B64Codec
