/-
  XMT.CfgBuildPack — building the packed bytes of a settings list yields exactly the settings'
  meaning (lemmas for Props/C08).

  Offsets in the parser are absolute, so a place in a config `c` is described by what follows it:
  `c.drop i = e ++ post` says that `e` sits at offset `i`, whatever precedes and follows.  Reads and
  slices at `i + k` then become reads and slices of the list on the right.  On this footing: one
  lemma per public constructor (`next`'s arm and build's arm on the constructor's own encoding),
  `setting_spec` for all of them, then induction over a group and over the groups.
-/
import XMT.CfgPack
import XMT.CfgNextCases
import XMT.CfgCases
namespace XMT.Cfg

theorem drop_mid (pre e post : Bytes) : (pre ++ e ++ post).drop pre.length = e ++ post := by
  rw [List.append_assoc, List.drop_left]

theorem rd_at {c l : Bytes} {i : Nat} (h : c.drop i = l) (k : Nat) : rd c (i + k) = rd l k := by
  unfold rd; rw [← h, List.getElem?_drop]

theorem rd_cons_zero (a : UInt8) (l : Bytes) : rd (a :: l) 0 = .ok a.toNat := rfl
theorem rd_cons_succ (a : UInt8) (l : Bytes) (k : Nat) : rd (a :: l) (k + 1) = rd l k := rfl

theorem rdv_at {c l : Bytes} {i : Nat} (h : c.drop i = l) (k : Nat) : rdv c (i + k) = rdv l k := by
  unfold rdv; rw [← h]; simp [List.getD]

theorem rdv_head {c l : Bytes} {i : Nat} {a : UInt8} (h : c.drop i = a :: l) : rdv c i = a.toNat := by
  have := rdv_at h 0; rwa [Nat.add_zero] at this

@[simp] theorem rdv_cons_zero (a : UInt8) (l : Bytes) : rdv (a :: l) 0 = a.toNat := rfl
@[simp] theorem rdv_cons_succ (a : UInt8) (l : Bytes) (k : Nat) : rdv (a :: l) (k + 1) = rdv l k := rfl

theorem rd16_at {c l : Bytes} {i : Nat} (h : c.drop i = l) (k : Nat) : rd16 c (i + k) = rd16 l k := by
  unfold rd16; rw [Nat.add_assoc, rd_at h, rd_at h]

theorem rd16_cons_succ (a : UInt8) (l : Bytes) (k : Nat) : rd16 (a :: l) (k + 1) = rd16 l k := rfl

theorem rd16_be16 {n : Nat} (hn : n < 65536) (l : Bytes) :
    rd16 (byteOf (n >>> 8) :: byteOf n :: l) 0 = .ok n :=
  congrArg Except.ok (ofBe16_be16 n hn)

theorem rdv16_at {c l : Bytes} {i : Nat} (h : c.drop i = l) (k : Nat) : rdv16 c (i + k) = rdv16 l k := by
  unfold rdv16; rw [Nat.add_assoc, rdv_at h, rdv_at h]

theorem rdv16_cons_succ (a : UInt8) (l : Bytes) (k : Nat) : rdv16 (a :: l) (k + 1) = rdv16 l k := rfl

theorem rdv16_be16 {n : Nat} (hn : n < 65536) (l : Bytes) : rdv16 (byteOf (n >>> 8) :: byteOf n :: l) 0 = n :=
  ofBe16_be16 n hn

/-- a big-endian field right after the tag byte (`rd32`/`rd64` read from `i + 1` on) -/
theorem rd32_be32 {c : Bytes} {i : Nat} {t : UInt8} {u : Nat} {l : Bytes} (h : c.drop i = t :: (be32 u ++ l))
    (hu : u < 2 ^ 32) : rd32 c i = .ok u := by
  unfold rd32
  simp only [rd_at h, be32, List.cons_append, rd_cons_succ, rd_cons_zero, ok_bind]
  exact congrArg Except.ok (ofBe32_be32 u hu)

theorem rd64_be64 {c : Bytes} {i : Nat} {t : UInt8} {u : Nat} {l : Bytes} (h : c.drop i = t :: (be64 u ++ l))
    (hu : u < 2 ^ 64) : rd64 c i = .ok u := by
  unfold rd64
  simp only [rd_at h, be64, List.cons_append, rd_cons_succ, rd_cons_zero, ok_bind]
  exact congrArg Except.ok (ofBe64_be64 u hu)

theorem slice_of_drop {c body y : Bytes} {a b : Nat} (h : c.drop a = body ++ y) (hb : b = a + body.length)
    (ha : a ≤ c.length) : slice c a b = .ok body := by
  have := congrArg List.length h
  simp only [List.length_drop, List.length_append] at this
  unfold slice
  rw [if_pos (by omega), h, hb, Nat.add_sub_cancel_left, List.take_left]

theorem opt_slice_of_drop {c body y : Bytes} {a b : Nat} (h : c.drop a = body ++ y) (hb : b = a + body.length)
    (ha : a ≤ c.length) : (if b > a then slice c a b else pure []) = .ok body := by
  split
  · exact slice_of_drop h hb ha
  · rw [List.length_eq_zero_iff.mp (by omega : body.length = 0)]; rfl

theorem opt_slice_of_drop' {c body y : Bytes} {a b : Nat} {g : Prop} [Decidable g] {l : String} (hg : ¬g)
    (h : c.drop a = body ++ y) (hb : b = a + body.length) (ha : a ≤ c.length) :
    (if b > a then (if g then inv l else slice c a b) else pure []) = .ok body := by
  rw [if_neg hg]; exact opt_slice_of_drop h hb ha

theorem pure_ok' {α} (a : α) : (pure a : M α) = Except.ok a := rfl

/-- `stride` at the start of an encoded setting of length `m`, from what `next` returns there. -/
theorem stride_of_nextV {c : Bytes} {i m : Nat} (hm : 0 < m) (hle : i + m ≤ c.length)
    (hn : nextV c i = some (i + m) ∨ (nextV c i = none ∧ i + m = c.length)) :
    stride c i = .ok (i + m) := by
  rw [stride_eq c i (by omega)]
  congr 1
  rcases hn with h | ⟨h, he⟩
  · rw [h, clamp_some (by omega)]; omega
  · rw [h, clamp_none]; omega

/-- the tag byte a (non-nil) setting starts with -/
def Setting.tag : Setting → Nat
  | .host _ => tHost | .sleep _ => tSleep | .jitter _ => tJitter | .weight _ => tWeight
  | .keyPin _ => tKeyPin | .killDate _ => tKillDate | .workHours _ => tWorkHours | .flag t => t
  | .ip _ => tIP | .tlsEx _ => tTLSx | .tlsExCA _ _ => tTLSxCA | .tlsCerts _ _ _ => tTLSCert
  | .muTLS _ _ _ _ => tMuTLS | .wc2 _ _ _ _ => tWC2 | .xor _ => tXOR | .aes _ _ => tAES
  | .cbk _ _ _ _ _ => tCBK | .dns _ => tDNS | .b64Shift _ => tB64Shift

/-- Setting `s` is parsed correctly at offset `i` of `c`: the parser sees its tag there, strides over
exactly its bytes, and build's switch maps `(P, z)` to what the setting means. -/
def SettingSpec (tls : Bytes → Bytes → Bytes → Bool) (s : Setting) (c : Bytes) (i : Nat) (P : Profile) (z : Nat) :
    Prop :=
  rdv c i = s.tag ∧ s.tag ≠ tSeparator ∧ stride c i = .ok (i + s.enc.length) ∧
    bcase tls c i (i + s.enc.length) s.tag P z = .ok (applySetting (P, z) s)

theorem SettingSpec.bcase_eq {tls s c i P z} (h : SettingSpec tls s c i P z) :
    bcase tls c i (i + s.enc.length) s.tag P z = .ok (applySetting (P, z) s) := h.2.2.2

/-- How every per-constructor lemma below concludes: the setting's bytes are `byteOf tag :: l`, `m` of
them; `next`'s arm returns the offset just after them (or `-1` when that is the end of `c`, which
`stride` clamps to the same offset) and build's arm returns `r`.  The place comes in two steps so that the
caller's `hc` fixes `l'` first and `rfl` then checks it against the `l` given by name. -/
theorem settingSpec_intro {tls c i post tag P z r} {m : Nat} {l l' : Bytes}
    (hd : c.drop i = byteOf tag :: l') (hl : l' = l ++ post) (ht : tag < 256) (hs : tag ≠ tSeparator)
    (hm : l.length + 1 = m)
    (hn : c.length = i + m + post.length →
      nextArmV c i tag = some (i + m) ∨ (nextArmV c i tag = none ∧ i + m = c.length))
    (hb : c.length = i + m + post.length → bcase tls c i (i + m) tag P z = .ok r) :
    rdv c i = tag ∧ tag ≠ tSeparator ∧ stride c i = .ok (i + (byteOf tag :: l).length) ∧
      bcase tls c i (i + (byteOf tag :: l).length) tag P z = .ok r := by
  subst hl hm
  rw [List.length_cons]
  have hlen : c.length = i + (l.length + 1) + post.length := by
    have := length_of_drop hd
    simp only [List.length_cons, List.length_append] at this; omega
  have htag : rdv c i = tag := (rdv_head hd).trans (byteOf_toNat_of_lt ht)
  refine ⟨htag, hs, stride_of_nextV (Nat.succ_pos _) (by omega) ?_, hb hlen⟩
  rw [nextV_of_tag htag]; exact hn hlen

/-- A name or header part cut to 255 bytes: its length fits the one-byte prefix. -/
theorem take255 (v : Bytes) : ∃ X : Bytes, v.take 0xFF = X ∧ X.length ≤ 255 ∧ (v ≠ [] → 0 < X.length) := by
  refine ⟨_, rfl, by rw [List.length_take]; omega, fun h => ?_⟩
  have := List.length_pos_iff.mpr h
  rw [List.length_take]; omega

theorem length_le_flatMap {α β} {f : α → List β} (h : ∀ a, 0 < (f a).length) :
    ∀ l : List α, l.length ≤ (l.flatMap f).length
  | [] => Nat.le_refl _
  | a :: l => by
    have := length_le_flatMap h l
    have := h a
    simp only [List.flatMap_cons, List.length_append, List.length_cons]; omega

/-- Both walks over the name list of a DNS transform — `next`'s and build's — take one name per round
and end right after the last. -/
theorem dns_names {c : Bytes} (i n : Nat) : ∀ (ns : List Bytes) (v : Nat) (post : Bytes),
    c.drop v = ns.flatMap encName ++ post → (∀ x ∈ ns, x ≠ []) → i ≤ v → ns.length ≤ n →
    n = v + (ns.flatMap encName).length →
    dnsEnd c ns.length v = n ∧
      ∀ acc, bDNS c i n ns.length v v acc = .ok (acc ++ ns.map (·.take 0xFF))
  | [], v, post, _, _, _, _, hn => ⟨by rw [hn]; rfl, fun acc => by simp [bDNS, pure_ok]⟩
  | x :: rest, v, post, hc, hne, hi, hcnt, hn => by
    obtain ⟨X, hX, hX255, hX0⟩ := take255 x
    have hX0 := hX0 (hne x List.mem_cons_self)
    simp only [List.flatMap_cons, encName, hX, List.cons_append, List.append_assoc, List.length_append,
      List.length_cons, List.map_cons] at hc hn hcnt ⊢
    have hlen := length_of_drop hc
    simp only [List.length_cons, List.length_append] at hlen
    have hr : rdv c v = X.length := (rdv_head hc).trans (byteOf_toNat_of_lt (by omega))
    have h1 := drop_app (a' := v + 1) (x := [_]) hc rfl
    obtain ⟨ih1, ih2⟩ := dns_names i n rest (v + (X.length + 1)) post (drop_app h1 (by omega))
      (fun w hw => hne w (List.mem_cons_of_mem _ hw)) (by omega) (by omega) (by omega)
    constructor
    · unfold dnsEnd; rw [if_pos (by omega), hr, ih1]
    · intro acc
      unfold bDNS
      rw [if_pos (by omega), rd_ok (by omega), ok_bind, hr, if_neg (by omega),
        slice_of_drop h1 (by omega) (by omega), ok_bind, ih2, List.append_assoc]
      rfl

/-- Both walks over the header entries of a WebC2 setting end right after the last entry; build's
collects the (cut) pairs. `q`, `j` are what the previous round left behind. -/
theorem wc2_headers {c : Bytes} (i n : Nat) : ∀ (hs : List (Bytes × Bytes)) (v : Nat) (post : Bytes) (f q j : Nat),
    c.drop v = hs.flatMap encHeader ++ post → (∀ kv ∈ hs, kv.1 ≠ []) → 0 < v → i ≤ v → q ≤ v → j ≤ v →
    hs.length < f → n = v + (hs.flatMap encHeader).length →
    wc2HdrEnd c hs.length v = some n ∧
      ∀ acc, bWC2Hdr c i n f v q j acc = .ok (acc ++ hs.map fun kv => (kv.1.take 0xFF, kv.2.take 0xFF))
  | [], v, post, f + 1, q, j, _, _, _, _, _, _, _, hn =>
    ⟨by rw [hn]; rfl, fun acc => by
      unfold bWC2Hdr; rw [if_neg (by simp only [List.flatMap_nil, List.length_nil] at hn; omega)]; simp [pure_ok]⟩
  | kv :: rest, v, post, f + 1, q, j, hc, hne, hv, hi, hq, hj, hf, hn => by
    obtain ⟨K, hK, hK255, hK0⟩ := take255 kv.1
    obtain ⟨V, hV, hV255, -⟩ := take255 kv.2
    have hK0 := hK0 (hne kv List.mem_cons_self)
    simp only [List.flatMap_cons, encHeader, hK, hV, List.cons_append, List.nil_append, List.append_assoc,
      List.length_append, List.length_cons, List.map_cons] at hc hn hf ⊢
    have hlen := length_of_drop hc
    simp only [List.length_cons, List.length_append] at hlen
    have hr : rdv c v = K.length ∧ rdv c (v + 1) = V.length :=
      ⟨(rdv_head hc).trans (byteOf_toNat_of_lt (by omega)),
        (rdv_head (drop_app (x := [_]) hc rfl)).trans (byteOf_toNat_of_lt (by omega))⟩
    have h2 := drop_app (a' := v + 2) (x := [_, _]) hc rfl
    have hV' := drop_app (a' := K.length + v + 2) h2 (by omega)
    obtain ⟨ih1, ih2⟩ := wc2_headers i n rest (V.length + (K.length + v + 2)) post f (v + 2) (K.length + v + 2)
      (drop_app hV' (by omega)) (fun w hw => hne w (List.mem_cons_of_mem _ hw)) (by omega) (by omega) (by omega)
      (by omega) (by omega) (by omega)
    constructor
    · unfold wc2HdrEnd
      rw [if_pos (by omega), if_neg (by omega), hr.1, hr.2,
        show v + (K.length + V.length + 2) = V.length + (K.length + v + 2) by omega, ih1]
    · intro acc
      unfold bWC2Hdr
      rw [if_pos (by omega), if_neg (by omega), rd_ok (by omega), rd_ok (by omega), ok_bind, ok_bind, hr.1, hr.2,
        if_neg (by omega), slice_of_drop h2 (by omega) (by omega), ok_bind,
        slice_of_drop hV' (by omega) (by omega), ok_bind, ih2, List.append_assoc]
      rfl

section
variable (tls : Bytes → Bytes → Bytes → Bool) {c post : Bytes} {i : Nat} (P : Profile) (z : Nat)

theorem spec_sleep (t : Nat) (ht : t ≠ 0) (hd : t < 2 ^ 63) (hc : c.drop i = (Setting.sleep t).enc ++ post) :
    SettingSpec tls (.sleep t) c i P z := by
  simp only [SettingSpec, Setting.tag, Setting.enc, applySetting, if_neg ht, List.cons_append] at hc ⊢
  refine settingSpec_intro (m := 9) (l := be64 t) hc rfl (by decide) (by decide) rfl
    (fun _ => .inl (nextArmV_Sleep c i)) fun _ => ?_
  rw [bcase_Sleep]; unfold bSleep
  rw [if_neg (by omega), rd64_be64 hc (by omega), ok_bind, pure_ok, if_neg (by omega)]; rfl

theorem spec_killDate (u : Nat) (hd : u < 2 ^ 64) (hc : c.drop i = (Setting.killDate u).enc ++ post) :
    SettingSpec tls (.killDate u) c i P z := by
  simp only [SettingSpec, Setting.tag, Setting.enc, List.cons_append] at hc ⊢
  refine settingSpec_intro (m := 9) (l := be64 u) hc rfl (by decide) (by decide) rfl
    (fun _ => .inl (nextArmV_KillDate c i)) fun _ => ?_
  rw [bcase_KillDate, if_neg (by omega), rd64_be64 hc hd]; rfl

theorem spec_keyPin (h : Nat) (hd : h < 2 ^ 32) (hc : c.drop i = (Setting.keyPin h).enc ++ post) :
    SettingSpec tls (.keyPin h) c i P z := by
  simp only [SettingSpec, Setting.tag, Setting.enc, List.cons_append] at hc ⊢
  refine settingSpec_intro (m := 5) (l := be32 h) hc rfl (by decide) (by decide) rfl
    (fun _ => .inl (nextArmV_KeyPin c i)) fun _ => ?_
  rw [bcase_KeyPin, if_neg (by omega), rd32_be32 hc hd]; rfl

theorem spec_jitter (n : Nat) (hc : c.drop i = (Setting.jitter n).enc ++ post) :
    SettingSpec tls (.jitter n) c i P z := by
  simp only [SettingSpec, Setting.tag, Setting.enc, List.cons_append, List.nil_append] at hc ⊢
  refine settingSpec_intro (m := 2) (l := [_]) hc rfl (by decide) (by decide) rfl
    (fun _ => .inl (nextArmV_Jitter c i)) fun _ => ?_
  rw [bcase_Jitter, if_neg (by omega)]
  simp only [rd_at hc, rd_cons_succ, rd_cons_zero, ok_bind, byteOf_toNat]; rfl

theorem spec_weight (w : Nat) (hw : w ≠ 0) (hc : c.drop i = (Setting.weight w).enc ++ post) :
    SettingSpec tls (.weight w) c i P z := by
  simp only [SettingSpec, Setting.tag, Setting.enc, applySetting, if_neg hw, List.cons_append,
    List.nil_append] at hc ⊢
  refine settingSpec_intro (m := 2) (l := [_]) hc rfl (by decide) (by decide) rfl
    (fun _ => .inl (nextArmV_Weight c i)) fun _ => ?_
  rw [bcase_Weight, if_neg (by omega)]
  simp only [rd_at hc, rd_cons_succ, rd_cons_zero, ok_bind, byteOf_toNat]; rfl

theorem spec_ip (p : Nat) (hp : p % 256 ≠ 0) (hP : P.conn = none) (hc : c.drop i = (Setting.ip p).enc ++ post) :
    SettingSpec tls (.ip p) c i P z := by
  simp only [SettingSpec, Setting.tag, Setting.enc, List.cons_append, List.nil_append] at hc ⊢
  refine settingSpec_intro (m := 2) (l := [_]) hc rfl (by decide) (by decide) rfl
    (fun _ => .inl (nextArmV_IP c i)) fun _ => ?_
  rw [bcase_IP, hP]; unfold bIP
  rw [if_neg (by decide), if_neg (by omega)]
  simp only [rd_at hc, rd_cons_succ, rd_cons_zero, ok_bind, byteOf_toNat, if_neg hp]; rfl

theorem spec_b64Shift (s : Nat) (hP : P.trans = none) (hc : c.drop i = (Setting.b64Shift s).enc ++ post) :
    SettingSpec tls (.b64Shift s) c i P z := by
  simp only [SettingSpec, Setting.tag, Setting.enc, List.cons_append, List.nil_append] at hc ⊢
  refine settingSpec_intro (m := 2) (l := [_]) hc rfl (by decide) (by decide) rfl
    (fun _ => .inl (nextArmV_B64Shift c i)) fun _ => ?_
  rw [bcase_B64Shift, hP, if_neg (by decide), if_neg (by omega)]
  simp only [rd_at hc, rd_cons_succ, rd_cons_zero, ok_bind, byteOf_toNat]; rfl

theorem and_ff (v : Nat) : v &&& 0xFF = v % 256 := Nat.and_two_pow_sub_one_eq_mod v 8

theorem spec_tlsEx (v : Nat) (hd : tls [] [] [] = true) (hP : P.conn = none)
    (hc : c.drop i = (Setting.tlsEx v).enc ++ post) :
    SettingSpec tls (.tlsEx v) c i P z := by
  simp only [SettingSpec, Setting.tag, Setting.enc, List.cons_append, List.nil_append, and_ff] at hc ⊢
  refine settingSpec_intro (m := 2) (l := [_]) hc rfl (by decide) (by decide) rfl
    (fun _ => .inl (nextArmV_TLSx c i)) fun _ => ?_
  rw [bcase_TLSx, hP]; unfold bTLSx
  rw [if_neg (by decide), if_neg (by omega)]
  simp only [rd_at hc, rd_cons_succ, rd_cons_zero, ok_bind, byteOf_toNat, Nat.mod_mod, hd, if_true]; rfl

theorem spec_workHours (w : WorkHours) (hd : w.days < 256 ∧ w.startHour ≤ 23 ∧ w.startMin ≤ 59 ∧
    w.endHour ≤ 23 ∧ w.endMin ≤ 59) (hc : c.drop i = (Setting.workHours w).enc ++ post) :
    SettingSpec tls (.workHours w) c i P z := by
  simp only [SettingSpec, Setting.tag, Setting.enc, List.cons_append, List.nil_append] at hc ⊢
  refine settingSpec_intro (m := 6) (l := [_, _, _, _, _]) hc rfl (by decide) (by decide) rfl
    (fun _ => .inl (nextArmV_WorkHours c i)) fun _ => ?_
  rw [bcase_WorkHours]; unfold bWorkHours
  simp only [rd_at hc, rd_cons_succ, rd_cons_zero, ok_bind]
  rw [if_neg (by omega), byteOf_toNat_of_lt (by omega : w.days < 256),
    byteOf_toNat_of_lt (by omega : w.startHour < 256), byteOf_toNat_of_lt (by omega : w.startMin < 256),
    byteOf_toNat_of_lt (by omega : w.endHour < 256), byteOf_toNat_of_lt (by omega : w.endMin < 256),
    if_neg (by omega)]
  rfl

theorem spec_cbk (sz a b cc d : Nat) (hc : c.drop i = (Setting.cbk sz a b cc d).enc ++ post) :
    SettingSpec tls (.cbk sz a b cc d) c i P z := by
  simp only [SettingSpec, Setting.tag, Setting.enc, List.cons_append, List.nil_append] at hc ⊢
  refine settingSpec_intro (m := 6) (l := [_, _, _, _, _]) hc rfl (by decide) (by decide) rfl
    (fun _ => .inl (nextArmV_CBK c i)) fun _ => ?_
  rw [bcase_CBK]; unfold bCBK
  simp only [rd_at hc, rd_cons_succ, rd_cons_zero, ok_bind, byteOf_toNat]
  rw [if_neg (by omega)]; rfl

/-- The `cBit` constants that are settings by themselves are bytes other than the separator, and
each is of one kind only. -/
theorem flagTags_table : ∀ t ∈ selTags ++ connTags ++ wrapTags ++ [tB64T],
    t < 256 ∧ t ≠ tSeparator ∧ (t ∈ selTags → t ∉ connTags ∧ t ∉ wrapTags ∧ t ≠ tB64T) ∧
      (t ∈ connTags → t ∉ wrapTags ∧ t ≠ tB64T) ∧ (t ∈ wrapTags → t ≠ tB64T) := by decide

theorem applySetting_sel {tag : Nat} (h : tag ∈ selTags) : applySetting (P, z) (.flag tag) = (P, tag) := by
  simp only [applySetting, List.contains_iff_mem.mpr h, if_true]

theorem applySetting_conn {tag : Nat} (h : tag ∈ connTags) :
    applySetting (P, z) (.flag tag) = ({ P with conn := some (connOfTag tag) }, z) := by
  have := flagTags_table tag (by simp [h])
  have hs : ¬selTags.contains tag = true := fun hs => (this.2.2.1 (List.contains_iff_mem.mp hs)).1 h
  simp only [applySetting, hs, List.contains_iff_mem.mpr h, if_true, Bool.false_eq_true, if_false]

theorem applySetting_wrap {tag : Nat} (h : tag ∈ wrapTags) :
    applySetting (P, z) (.flag tag) = ({ P with wraps := P.wraps ++ [wrapOfTag tag] }, z) := by
  have := flagTags_table tag (by simp [h])
  have hs : ¬selTags.contains tag = true := fun hs => (this.2.2.1 (List.contains_iff_mem.mp hs)).2.1 h
  have hn : ¬connTags.contains tag = true := fun hn => (this.2.2.2.1 (List.contains_iff_mem.mp hn)).1 h
  simp only [applySetting, hs, hn, List.contains_iff_mem.mpr h, if_true, Bool.false_eq_true, if_false]

theorem applySetting_b64T : applySetting (P, z) (.flag tB64T) = ({ P with trans := some (.b64 0) }, z) := rfl

theorem spec_flag (tag : Nat)
    (h : tag ∈ selTags ∨ tag ∈ connTags ∨ tag ∈ wrapTags ∨ tag = tB64T)
    (hPc : tag ∈ connTags → P.conn = none) (hPt : tag = tB64T → P.trans = none)
    (hc : c.drop i = (Setting.flag tag).enc ++ post) :
    SettingSpec tls (.flag tag) c i P z := by
  simp only [SettingSpec, Setting.tag, Setting.enc, List.cons_append, List.nil_append] at hc ⊢
  have hm : tag ∈ selTags ++ connTags ++ wrapTags ++ [tB64T] := by simpa using h
  have ht := flagTags_table tag hm
  refine settingSpec_intro (m := 1) (l := []) hc rfl ht.1 ht.2.1 rfl
    (fun _ => .inl (nextArmV_flag c i hm)) fun _ => ?_
  rcases h with h | h | h | h
  · rw [bcase_sel _ _ _ _ _ _ _ (List.contains_iff_mem.mpr h), applySetting_sel P z h]; rfl
  · rw [bcase_conn _ _ _ _ _ _ _ (List.contains_iff_mem.mpr h), hPc h, applySetting_conn P z h]; rfl
  · rw [bcase_wrap _ _ _ _ _ _ _ (List.contains_iff_mem.mpr h), applySetting_wrap P z h]; rfl
  · subst h; rw [bcase_B64T, hPt rfl]; rfl

theorem cap16_eq_min (n : Nat) : cap16 n = min 0xFFFF n := by
  unfold cap16; split <;> omega

/-- A field cut to 65535 bytes as the constructors do: its length fits the 16-bit prefix. -/
theorem cap16_take (s : Bytes) : ∃ U : Bytes, U.length < 65536 ∧ cap16 s.length = U.length ∧
    s.take U.length = U ∧ s.take 0xFFFF = U ∧ (s ≠ [] → U ≠ []) := by
  refine ⟨s.take 0xFFFF, by rw [List.length_take]; omega, ?_, ?_, rfl, ?_⟩
  · rw [cap16_eq_min, List.length_take]
  · rw [List.length_take, List.take_eq_take_iff]; omega
  · cases s <;> simp

theorem cap16_eq_zero {s : Bytes} (h : s = []) : cap16 s.length = 0 := by subst h; rfl

theorem spec_host (h : Bytes) (h0 : h ≠ []) (hc : c.drop i = (Setting.host h).enc ++ post) :
    SettingSpec tls (.host h) c i P z := by
  obtain ⟨U, hU, hcap, htk, htk', hne⟩ := cap16_take h
  simp only [SettingSpec, Setting.tag, Setting.enc, applySetting, if_neg (mt List.length_eq_zero_iff.mp h0), hcap,
    htk, htk', List.cons_append, List.nil_append] at hc ⊢
  have := List.length_pos_iff.mpr (hne h0)
  refine settingSpec_intro (m := U.length + 3) (l := _ :: _ :: U) hc rfl (by decide) (by decide) rfl
    (fun _ => .inl ?_) fun _ => ?_
  · rw [nextArmV_Host, nextXorHostV, if_neg (by omega)]
    simp only [rdv16_at hc, rdv16_cons_succ, rdv16_be16 hU]
    congr 1; omega
  · rw [bcase_Host]; unfold bHost
    simp only [rd16_at hc, rd16_cons_succ, rd16_be16 hU, ok_bind]
    rw [if_neg (by omega), if_neg (by omega),
      slice_of_drop (drop_app (a' := i + 3) (x := [_, _, _]) hc rfl) (by omega) (by omega)]
    rfl

theorem spec_xor (k : Bytes) (h0 : k ≠ []) (hc : c.drop i = (Setting.xor k).enc ++ post) :
    SettingSpec tls (.xor k) c i P z := by
  obtain ⟨U, hU, hcap, htk, htk', hne⟩ := cap16_take k
  simp only [SettingSpec, Setting.tag, Setting.enc, applySetting, hcap, htk, htk', List.cons_append,
    List.nil_append] at hc ⊢
  have := List.length_pos_iff.mpr (hne h0)
  refine settingSpec_intro (m := U.length + 3) (l := _ :: _ :: U) hc rfl (by decide) (by decide) rfl
    (fun _ => .inl ?_) fun _ => ?_
  · rw [nextArmV_XOR, nextXorHostV, if_neg (by omega)]
    simp only [rdv16_at hc, rdv16_cons_succ, rdv16_be16 hU]
    congr 1; omega
  · rw [bcase_XOR]; unfold bXOR
    simp only [rd16_at hc, rd16_cons_succ, rd16_be16 hU, ok_bind]
    rw [if_neg (by omega), if_neg (by omega),
      slice_of_drop (drop_app (a' := i + 3) (x := [_, _, _]) hc rfl) (by omega) (by omega)]
    rfl

theorem spec_tlsExCA (v : Nat) (ca : Bytes) (hd : tls (ca.take 0xFFFF) [] [] = true) (hP : P.conn = none)
    (hc : c.drop i = (Setting.tlsExCA v ca).enc ++ post) :
    SettingSpec tls (.tlsExCA v ca) c i P z := by
  obtain ⟨A, hA, hcap, htk, htk', -⟩ := cap16_take ca
  simp only [SettingSpec, Setting.tag, Setting.enc, applySetting, and_ff, hcap, htk, htk', List.cons_append,
    List.nil_append] at hc hd ⊢
  refine settingSpec_intro (m := A.length + 4) (l := _ :: _ :: _ :: A) hc rfl (by decide) (by decide) rfl
    (fun _ => .inl ?_) fun _ => ?_
  · rw [nextArmV_TLSxCA, nextTLSxCAV, if_neg (by omega)]
    simp only [rdv16_at hc, rdv16_cons_succ, rdv16_be16 hA]
    congr 1; omega
  · rw [bcase_TLSxCA, hP]; unfold bTLSxCA
    simp only [rd16_at hc, rd16_cons_succ, rd16_be16 hA, rd_at hc, rd_cons_succ, rd_cons_zero, ok_bind,
      byteOf_toNat, Nat.mod_mod]
    rw [if_neg (by decide), if_neg (by omega), if_neg (by omega),
      slice_of_drop (drop_app (a' := i + 4) (x := [_, _, _, _]) hc rfl) (by omega) (by omega), ok_bind, if_pos hd]
    rfl

theorem spec_tlsCerts (v : Nat) (pem key : Bytes) (hp : pem ≠ [])
    (hd : tls [] (pem.take 0xFFFF) (key.take 0xFFFF) = true) (hP : P.conn = none)
    (hc : c.drop i = (Setting.tlsCerts v pem key).enc ++ post) :
    SettingSpec tls (.tlsCerts v pem key) c i P z := by
  obtain ⟨A, hA, hcap, htk, htk', hne⟩ := cap16_take pem
  obtain ⟨B, hB, hcapB, htkB, htkB', -⟩ := cap16_take key
  simp only [SettingSpec, Setting.tag, Setting.enc, applySetting, and_ff, hcap, htk, htk', hcapB, htkB, htkB',
    List.cons_append, List.nil_append] at hc hd ⊢
  have := List.length_pos_iff.mpr (hne hp)
  have h6 := drop_app (a' := i + 6) (x := [_, _, _, _, _, _]) (y := A ++ B ++ post) hc rfl
  rw [List.append_assoc] at h6
  refine settingSpec_intro (m := A.length + B.length + 6)
    (l := _ :: _ :: _ :: _ :: _ :: (A ++ B))
    hc rfl (by decide) (by decide) (by simp only [List.length_cons, List.length_append])
    (fun _ => .inl ?_) fun _ => ?_
  · rw [nextArmV_TLSCert, nextTLSCertV, if_neg (by omega)]
    simp only [rdv16_at hc, rdv16_cons_succ, rdv16_be16 hA, rdv16_be16 hB]
    congr 1; omega
  · rw [bcase_TLSCert, hP]; unfold bTLSCert
    simp only [rd16_at hc, rd16_cons_succ, rd16_be16 hA, rd16_be16 hB, rd_at hc, rd_cons_succ, rd_cons_zero,
      ok_bind, byteOf_toNat, Nat.mod_mod]
    rw [if_neg (by decide), if_neg (by omega), if_neg (by omega), slice_of_drop h6 (by omega) (by omega), ok_bind,
      slice_of_drop (drop_app h6 (by omega)) (by omega) (by omega), ok_bind, if_pos hd]
    rfl

theorem spec_muTLS (v : Nat) (ca pem key : Bytes)
    (hd : tls (ca.take 0xFFFF) (pem.take 0xFFFF) (key.take 0xFFFF) = true) (hP : P.conn = none)
    (hc : c.drop i = (Setting.muTLS v ca pem key).enc ++ post) :
    SettingSpec tls (.muTLS v ca pem key) c i P z := by
  obtain ⟨A, hA, hcap, htk, htk', -⟩ := cap16_take ca
  obtain ⟨B, hB, hcapB, htkB, htkB', -⟩ := cap16_take pem
  obtain ⟨C, hC, hcapC, htkC, htkC', -⟩ := cap16_take key
  simp only [SettingSpec, Setting.tag, Setting.enc, applySetting, and_ff, hcap, htk, htk', hcapB, htkB, htkB',
    hcapC, htkC, htkC', List.cons_append, List.nil_append] at hc hd ⊢
  have h8 := drop_app (a' := i + 8) (x := [_, _, _, _, _, _, _, _]) (y := A ++ B ++ C ++ post) hc rfl
  simp only [List.append_assoc] at h8
  have hB' := drop_app (a' := A.length + i + 8) h8 (by omega)
  refine settingSpec_intro (m := A.length + B.length + C.length + 8)
    (l := _ :: _ :: _ :: _ :: _ :: _ :: _ :: (A ++ B ++ C))
    hc rfl (by decide) (by decide) (by simp only [List.length_cons, List.length_append])
    (fun _ => .inl ?_) fun _ => ?_
  · rw [nextArmV_MuTLS, nextMuTLSV, if_neg (by omega)]
    simp only [rdv16_at hc, rdv16_cons_succ, rdv16_be16 hA, rdv16_be16 hB, rdv16_be16 hC]
    congr 1; omega
  · rw [bcase_MuTLS, hP]; unfold bMuTLS
    simp only [rd16_at hc, rd16_cons_succ, rd16_be16 hA, rd16_be16 hB, rd16_be16 hC, rd_at hc, rd_cons_succ,
      rd_cons_zero, ok_bind, byteOf_toNat, Nat.mod_mod]
    rw [if_neg (by decide), if_neg (by omega), if_neg (by omega), slice_of_drop h8 (by omega) (by omega), ok_bind,
      slice_of_drop hB' (by omega) (by omega), ok_bind,
      slice_of_drop (drop_app hB' (by omega)) (by omega) (by omega), ok_bind, if_pos hd]
    rfl

theorem spec_aes (k iv : Bytes) (hk : k.length = 16 ∨ k.length = 24 ∨ k.length = 32) (hiv : iv.length = 16)
    (hc : c.drop i = (Setting.aes k iv).enc ++ post) :
    SettingSpec tls (.aes k iv) c i P z := by
  have hcap : cap8 k.length = k.length := by unfold cap8; split <;> omega
  simp only [SettingSpec, Setting.tag, Setting.enc, hcap, hiv, show min k.length (k.length + 16) = k.length by omega,
    List.take_of_length_le (Nat.le_refl _), show k.length + 16 - k.length = 16 by omega,
    List.take_of_length_le (Nat.le_of_eq hiv), List.cons_append, List.nil_append] at hc ⊢
  have h3 := drop_app (a' := i + 3) (x := [_, _, _]) (y := k ++ iv ++ post) hc rfl
  rw [List.append_assoc] at h3
  refine settingSpec_intro (m := k.length + 19)
    (l := _ :: _ :: (k ++ iv))
    hc rfl (by decide) (by decide) (by simp only [List.length_cons, List.length_append, hiv])
    (fun _ => .inl ?_) fun _ => ?_
  · rw [nextArmV_AES, nextAESV, if_neg (by omega)]
    simp only [rdv_at hc, rdv_cons_succ, rdv_cons_zero, byteOf_toNat]
    congr 1; omega
  · rw [bcase_AES]; unfold bAES
    simp only [rd_at hc, rd_cons_succ, rd_cons_zero, ok_bind, byteOf_toNat]
    rw [Nat.mod_eq_of_lt (by omega : k.length < 256), if_neg (by omega), if_neg (by omega),
      slice_of_drop h3 (by omega) (by omega), ok_bind, if_neg (not_not_intro hk),
      slice_of_drop (drop_app h3 (by omega)) (by omega) (by omega), ok_bind, if_neg (not_not_intro hiv)]
    rfl

theorem spec_dns (names : List Bytes) (hne : ∀ v ∈ names, v ≠ []) (hP : P.trans = none)
    (hc : c.drop i = (Setting.dns names).enc ++ post) :
    SettingSpec tls (.dns names) c i P z := by
  generalize hns : names.take 0xFF = ns at *
  have hcnt : (if names.length > 0xFF then (0xFF : UInt8) else byteOf names.length) = byteOf ns.length := by
    rw [← hns, List.length_take]
    split
    · rw [show min 0xFF names.length = 255 by omega]; rfl
    · rw [show min 0xFF names.length = names.length by omega]
  have h255 : ns.length ≤ 255 := by rw [← hns, List.length_take]; omega
  simp only [SettingSpec, Setting.tag, Setting.enc, applySetting, hns, hcnt, List.cons_append,
    List.nil_append] at hc ⊢
  have hF := length_le_flatMap (f := encName) (fun _ => Nat.succ_pos _) ns
  obtain ⟨hw, hb⟩ := dns_names i (i + ((ns.flatMap encName).length + 2)) ns (i + 2) post
    (drop_app (x := [_, _]) hc rfl) (fun v hv => hne v (List.mem_of_mem_take (hns ▸ hv))) (by omega) (by omega)
    (by omega)
  refine settingSpec_intro (m := (ns.flatMap encName).length + 2)
    (l := _ :: ns.flatMap encName) hc rfl (by decide) (by decide) rfl
    (fun _ => .inl ?_) fun _ => ?_
  · rw [nextArmV_DNS, nextDNSArmV, if_neg (by omega)]
    simp only [rdv_at hc, rdv_cons_succ, rdv_cons_zero, byteOf_toNat]
    rw [Nat.mod_eq_of_lt (by omega), hw]
  · rw [bcase_DNS, hP]; unfold bDNSArm
    simp only [rd_at hc, rd_cons_succ, rd_cons_zero, ok_bind, byteOf_toNat]
    rw [if_neg (by decide), if_neg (by omega), Nat.mod_eq_of_lt (by omega), hb, List.nil_append]
    rfl

theorem spec_wc2 (url hst agent : Bytes) (hs : List (Bytes × Bytes)) (hcount : hs.length ≤ 255)
    (hne : ∀ kv ∈ hs, kv.1 ≠ []) (hP : P.conn = none) (hc : c.drop i = (Setting.wc2 url hst agent hs).enc ++ post) :
    SettingSpec tls (.wc2 url hst agent hs) c i P z := by
  obtain ⟨U, hU, -, -, hU', -⟩ := cap16_take url
  obtain ⟨H, hH, -, -, hH', -⟩ := cap16_take hst
  obtain ⟨A, hA, -, -, hA', -⟩ := cap16_take agent
  simp only [SettingSpec, Setting.tag, Setting.enc, applySetting, hU', hH', hA',
    List.take_of_length_le (show hs.length ≤ 0xFF from hcount),
    List.cons_append, List.nil_append] at hc ⊢
  generalize hF : hs.flatMap encHeader = F at hc
  have hFl := hF ▸ length_le_flatMap (f := encHeader) (fun _ => Nat.succ_pos _) hs
  have h8 := drop_app (a' := i + 8) (x := [_, _, _, _, _, _, _, _]) (y := U ++ H ++ A ++ F ++ post) hc rfl
  simp only [List.append_assoc] at h8
  have hH' := drop_app (a' := U.length + i + 8) h8 (by omega)
  have hA' := drop_app (a' := H.length + (U.length + i + 8)) hH' (by omega)
  have hF' := drop_app (a' := A.length + (H.length + (U.length + i + 8))) hA' (by omega)
  have hlen := length_of_drop hc
  simp only [List.length_cons, List.length_append] at hlen
  obtain ⟨hw, hb⟩ := wc2_headers i (i + (U.length + H.length + A.length + F.length + 8)) hs _ post
    (c.length + 1) (H.length + (U.length + i + 8)) 0 (hF ▸ hF') hne (by omega) (by omega) (by omega) (by omega)
    (by omega) (by rw [hF]; omega)
  refine settingSpec_intro (m := U.length + H.length + A.length + F.length + 8)
    (l := _ :: _ :: _ :: _ :: _ :: _ :: _ :: (U ++ H ++ A ++ F))
    hc rfl (by decide) (by decide) (by simp only [List.length_cons, List.length_append])
    (fun _ => ?_) fun _ => ?_
  · rw [nextArmV_WC2, nextWC2V, if_neg (by omega)]
    simp only [rdv16_at hc, rdv16_cons_succ, rdv16_be16 hU, rdv16_be16 hH, rdv16_be16 hA, rdv_at hc, rdv_cons_succ,
      rdv_cons_zero, byteOf_toNat]
    rw [Nat.mod_eq_of_lt (by omega), show i + 8 + U.length + H.length + A.length =
      A.length + (H.length + (U.length + i + 8)) by omega]
    -- `next` answers -1 when nothing follows the three strings; `stride` turns that into the end of `c`
    by_cases hF0 : F.length + post.length = 0
    · exact .inr ⟨if_pos (by omega), by omega⟩
    · refine .inl ?_
      rw [if_neg (by omega)]
      by_cases hh : hs.length = 0
      · rw [if_pos hh]
        have : F.length = 0 := by rw [← hF, List.length_eq_zero_iff.mp hh]; rfl
        congr 1; omega
      · rw [if_neg hh, hw]
  · rw [bcase_WC2, hP]; unfold bWC2
    simp only [rd16_at hc, rd16_cons_succ, rd16_be16 hU, rd16_be16 hH, rd16_be16 hA, rd_at hc, rd_cons_succ,
      rd_cons_zero, ok_bind, byteOf_toNat]
    rw [if_neg (by decide), if_neg (by omega), if_neg (by omega), opt_slice_of_drop h8 (by omega) (by omega), ok_bind,
      opt_slice_of_drop' (by omega) hH' (by omega) (by omega), ok_bind,
      opt_slice_of_drop' (by omega) hA' (by omega) (by omega), ok_bind, Nat.mod_eq_of_lt (by omega)]
    by_cases hh : hs.length = 0
    · rw [if_neg (by omega), List.length_eq_zero_iff.mp hh]; rfl
    · rw [if_pos (by omega), hb]; rfl

end

/-- sets the connector hint -/
def Setting.isConn : Setting → Bool
  | .flag t => connTags.contains t
  | .ip _ | .tlsEx _ | .tlsExCA _ _ | .tlsCerts _ _ _ | .muTLS _ _ _ _ | .wc2 _ _ _ _ => true
  | _ => false

/-- sets the transform -/
def Setting.isTrans : Setting → Bool
  | .flag t => t == tB64T
  | .dns _ | .b64Shift _ => true
  | _ => false

/-- The documented domain of each constructor's arguments (values that fit the encoding's fields,
work hours in range, non-empty key / names / header names, AES key and IV sizes), and — the one part
that is not about the encoding — `tls` accepting the PEM blocks supplied. -/
def Setting.inDom (tls : Bytes → Bytes → Bytes → Bool) : Setting → Bool
  | .host _ => true
  | .sleep t => decide (t < 2 ^ 63)
  | .jitter _ => true
  | .weight _ => true
  | .keyPin h => decide (h < 2 ^ 32)
  | .killDate u => decide (u < 2 ^ 64)
  | .workHours w => decide (w.days < 256 ∧ w.startHour ≤ 23 ∧ w.startMin ≤ 59 ∧ w.endHour ≤ 23 ∧ w.endMin ≤ 59)
  | .flag t => selTags.contains t || connTags.contains t || wrapTags.contains t || t == tB64T
  | .ip p => decide (p % 256 ≠ 0)
  | .tlsEx _ => tls [] [] []
  | .tlsExCA _ ca => tls (ca.take 0xFFFF) [] []
  | .tlsCerts _ pem key => !pem.isEmpty && !key.isEmpty && tls [] (pem.take 0xFFFF) (key.take 0xFFFF)
  | .muTLS _ ca pem key => tls (ca.take 0xFFFF) (pem.take 0xFFFF) (key.take 0xFFFF)
  | .wc2 _ _ _ hs => decide (hs.length ≤ 255) && hs.all (fun kv => !kv.1.isEmpty)
  | .xor k => !k.isEmpty
  | .aes k iv => decide ((k.length = 16 ∨ k.length = 24 ∨ k.length = 32) ∧ iv.length = 16)
  | .cbk _ _ _ _ _ => true
  | .dns names => names.all (fun n => !n.isEmpty)
  | .b64Shift _ => true

theorem isEmpty_false {l : Bytes} (h : (!l.isEmpty) = true) : l ≠ [] := by
  cases l <;> simp_all

theorem setting_spec (tls : Bytes → Bytes → Bytes → Bool) (s : Setting) (hd : s.inDom tls = true)
    (he : s.enc ≠ []) {c post : Bytes} {i : Nat} (hc : c.drop i = s.enc ++ post) (P : Profile) (z : Nat)
    (hPc : s.isConn = true → P.conn = none) (hPt : s.isTrans = true → P.trans = none) :
    SettingSpec tls s c i P z := by
  cases s with
  | host h => exact spec_host tls P z h (by rintro rfl; exact he rfl) hc
  | sleep t => exact spec_sleep tls P z t (by rintro rfl; exact he rfl) (of_decide_eq_true hd) hc
  | jitter n => exact spec_jitter tls P z n hc
  | weight w => exact spec_weight tls P z w (by rintro rfl; exact he rfl) hc
  | keyPin h => exact spec_keyPin tls P z h (of_decide_eq_true hd) hc
  | killDate u => exact spec_killDate tls P z u (of_decide_eq_true hd) hc
  | workHours w => exact spec_workHours tls P z w (of_decide_eq_true hd) hc
  | flag t =>
    exact spec_flag tls P z t (by simpa [Setting.inDom, or_assoc] using hd)
      (fun h => hPc (List.contains_iff_mem.mpr h)) (fun h => hPt (beq_iff_eq.mpr h)) hc
  | ip p => exact spec_ip tls P z p (of_decide_eq_true hd) (hPc rfl) hc
  | tlsEx v => exact spec_tlsEx tls P z v hd (hPc rfl) hc
  | tlsExCA v ca => exact spec_tlsExCA tls P z v ca hd (hPc rfl) hc
  | tlsCerts v pem key =>
    simp only [Setting.inDom, Bool.and_eq_true] at hd
    exact spec_tlsCerts tls P z v pem key (isEmpty_false hd.1.1) hd.2 (hPc rfl) hc
  | muTLS v ca pem key => exact spec_muTLS tls P z v ca pem key hd (hPc rfl) hc
  | wc2 u h a hs =>
    simp only [Setting.inDom, Bool.and_eq_true, decide_eq_true_eq, List.all_eq_true] at hd
    exact spec_wc2 tls P z u h a hs hd.1 (fun kv hkv => isEmpty_false (hd.2 kv hkv)) (hPc rfl) hc
  | xor k => exact spec_xor tls P z k (isEmpty_false hd) hc
  | aes k iv => exact spec_aes tls P z k iv (of_decide_eq_true hd).1 (of_decide_eq_true hd).2 hc
  | cbk sz a b cc d => exact spec_cbk tls P z sz a b cc d hc
  | dns names =>
    exact spec_dns tls P z names (fun v hv => isEmpty_false (List.all_eq_true.mp hd v hv)) (hPt rfl) hc
  | b64Shift s => exact spec_b64Shift tls P z s (hPt rfl) hc

/-- the part of `SettingSpec` that no profile enters: the tag read, that it is not the separator, the stride -/
theorem setting_walk (tls : Bytes → Bytes → Bytes → Bool) (s : Setting) (hd : s.inDom tls = true) (he : s.enc ≠ [])
    {c post : Bytes} {i : Nat} (hc : c.drop i = s.enc ++ post) :
    rdv c i = s.tag ∧ s.tag ≠ tSeparator ∧ stride c i = .ok (i + s.enc.length) :=
  have ⟨h1, h2, h3, _⟩ := setting_spec tls s hd he hc {} 0 (fun _ => rfl) (fun _ => rfl)
  ⟨h1, h2, h3⟩

/-- every setting of the group is in its domain, and the group names at most one connector and at
most one transform (`hc`/`ht`: one is already set) -/
def groupOK (tls : Bytes → Bytes → Bytes → Bool) : Bool → Bool → List Setting → Bool
  | _, _, [] => true
  | hc, ht, s :: ss =>
    s.inDom tls && !(s.isConn && hc) && !(s.isTrans && ht) && groupOK tls (hc || s.isConn) (ht || s.isTrans) ss

/-- a nil setting has no effect -/
theorem nil_setting (s : Setting) (h : s.enc = []) :
    (∀ pz, applySetting pz s = pz) ∧ s.isConn = false ∧ s.isTrans = false := by
  cases s <;> try cases h  -- an encoding that starts with a tag byte is not nil
  all_goals simp [Setting.enc] at h <;> simp [applySetting, h, Setting.isConn, Setting.isTrans]

/-- a setting fills the connector / transform slot exactly if it is of that kind -/
theorem apply_flags (tls) (P : Profile) (z : Nat) (s : Setting) (hd : s.inDom tls = true) :
    (applySetting (P, z) s).1.conn.isSome = (P.conn.isSome || s.isConn) ∧
    (applySetting (P, z) s).1.trans.isSome = (P.trans.isSome || s.isTrans) := by
  cases s with
  | flag t =>
    have hk : t ∈ selTags ∨ t ∈ connTags ∨ t ∈ wrapTags ∨ t = tB64T := by
      simpa [Setting.inDom, or_assoc] using hd
    have ht := (flagTags_table t (by simpa using hk)).2.2
    rcases hk with h | h | h | h
    · simp [Setting.isConn, Setting.isTrans, applySetting_sel P z h, (ht.1 h).1, (ht.1 h).2.2]
    · simp [Setting.isConn, Setting.isTrans, applySetting_conn P z h, h, (ht.2.1 h).2]
    · have hnc : t ∉ connTags := fun hn => (ht.2.1 hn).1 h
      simp [Setting.isConn, Setting.isTrans, applySetting_wrap P z h, hnc, ht.2.2 h]
    · have hnc : t ∉ connTags := fun hn => (ht.2.1 hn).2 h
      subst h; simp [Setting.isConn, Setting.isTrans, applySetting_b64T, hnc]
  | host h => simp only [applySetting]; split <;> simp [Setting.isConn, Setting.isTrans]
  | sleep t => simp only [applySetting]; split <;> simp [Setting.isConn, Setting.isTrans]
  | weight w => simp only [applySetting]; split <;> simp [Setting.isConn, Setting.isTrans]
  | _ => simp [applySetting, Setting.isConn, Setting.isTrans]

theorem bytesOf_nil : bytesOf [] = [] := rfl

theorem bytesOf_cons (s : Setting) (ss : List Setting) : bytesOf (s :: ss) = s.enc ++ bytesOf ss := by
  simp [bytesOf]

/-- `build(x)` over one group found at offset `i`: the profile is the fold of the settings; the loop
returns the end of the config or the offset just after the group's separator, and the first byte of a
non-empty group is never the separator.  `n0` is the Go loop's second variable `n`, which its test
`n < len(c)` reads: `0` when `build` is entered (then `i` is inside the config), equal to `i` after
every round. -/
theorem bloop_group (tls : Bytes → Bytes → Bytes → Bool) {c : Bytes} : ∀ (ss : List Setting) (i : Nat) (post : Bytes)
    (P : Profile) (z f n0 : Nat),
    c.drop i = bytesOf ss ++ post → i ≤ c.length →
    groupOK tls P.conn.isSome P.trans.isSome ss = true →
    (post = [] ∨ ∃ r, post = byteOf tSeparator :: r) →
    (n0 = i ∨ (n0 ≤ i ∧ i < c.length)) → c.length + 1 ≤ f + i →
    ∃ n, n ≤ c.length ∧ c.drop n = post.tail ∧ (bytesOf ss ≠ [] → rdv c i ≠ tSeparator) ∧
      bloop tls c f i n0 P z = .ok ((ss.foldl applySetting (P, z)).1, n, (ss.foldl applySetting (P, z)).2)
  | _, i, _, _, _, 0, _, _, hi, _, _, _, hf => by omega
  | [], i, post, P, z, f + 1, n0, hc, hi, _, hpost, hn, hf => by
    rw [bytesOf_nil, List.nil_append] at hc
    unfold bloop
    rcases hpost with rfl | ⟨r, rfl⟩
    · have := List.drop_eq_nil_iff.mp hc
      exact ⟨n0, by omega, List.drop_eq_nil_iff.mpr (by omega), absurd rfl, by rw [if_neg (by omega)]; rfl⟩
    · have hlen := length_of_drop hc
      rw [List.length_cons] at hlen
      have hr : rdv c i = tSeparator := rdv_head hc
      have hs : stride c i = .ok (i + 1) := stride_of_nextV (by omega) (by omega)
        (.inl (by rw [nextV_of_tag hr, nextArmV_Separator]))
      exact ⟨i + 1, by omega, drop_app (x := [_]) hc rfl, absurd rfl,
        by rw [if_pos (by omega), hs, rd_ok (by omega), ok_bind, ok_bind, hr, if_pos rfl]; rfl⟩
  | s :: rest, i, post, P, z, f + 1, n0, hc, hi, hok, hpost, hn, hf => by
    unfold groupOK at hok
    simp only [Bool.and_eq_true, Bool.not_eq_true', Bool.and_eq_false_iff] at hok
    obtain ⟨⟨⟨hd, hcn⟩, htr⟩, hrest⟩ := hok
    rw [bytesOf_cons, List.append_assoc] at hc
    by_cases he : s.enc = []
    · obtain ⟨h1, h2, h3⟩ := nil_setting s he
      rw [he, List.nil_append] at hc
      rw [h2, h3, Bool.or_false, Bool.or_false] at hrest
      rw [List.foldl_cons, h1, bytesOf_cons, he, List.nil_append]
      exact bloop_group tls rest i post P z (f + 1) n0 hc hi hrest hpost hn hf
    · have hlen := length_of_drop hc
      rw [List.length_append] at hlen
      have := List.length_pos_iff.mpr he
      obtain ⟨htag, hsep, hstride, hb⟩ := setting_spec tls s hd he hc P z
        (fun h => by cases hP : P.conn <;> simp_all) (fun h => by cases hP : P.trans <;> simp_all)
      obtain ⟨hfc, hft⟩ := apply_flags tls P z s hd
      obtain ⟨n', h1, h2, -, h3⟩ := bloop_group tls rest (i + s.enc.length) post (applySetting (P, z) s).1
        (applySetting (P, z) s).2 f (i + s.enc.length) (drop_app hc rfl) (by omega)
        (by rw [hfc, hft]; exact hrest) hpost (.inl rfl) (by omega)
      refine ⟨n', h1, h2, fun _ => htag ▸ hsep, ?_⟩
      unfold bloop
      rw [if_pos (by omega), hstride, rd_ok (by omega), ok_bind, ok_bind, htag, if_neg hsep, hb, ok_bind]
      exact h3

/-- the bytes `AddGroup` appends for each further group -/
def tailBytes (gs : List (List Setting)) : Bytes := gs.flatMap fun g => byteOf tSeparator :: bytesOf g

theorem tailBytes_nil : tailBytes [] = [] := rfl

theorem tailBytes_cons (g : List Setting) (gs : List (List Setting)) :
    tailBytes (g :: gs) = byteOf tSeparator :: (bytesOf g ++ tailBytes gs) := by
  simp [tailBytes]

theorem tailBytes_shape (gs : List (List Setting)) :
    tailBytes gs = [] ∨ ∃ r, tailBytes gs = byteOf tSeparator :: r := by
  cases gs with
  | nil => exact .inl tailBytes_nil
  | cons g rest => exact .inr ⟨_, tailBytes_cons g rest⟩

theorem packGroups_eq (g : List Setting) (gs : List (List Setting)) (h : ∀ x ∈ g :: gs, bytesOf x ≠ []) :
    packGroups (g :: gs) = bytesOf g ++ tailBytes gs := by
  obtain ⟨hg, hgs⟩ := List.forall_mem_cons.mp h
  clear h
  show gs.foldl addGroup (bytesOf g) = _
  generalize bytesOf g = c at hg ⊢
  induction gs generalizing c with
  | nil => rw [tailBytes_nil, List.append_nil]; rfl
  | cons x rest ih =>
    have hx0 : x.length ≠ 0 := by
      intro h0
      exact hgs x List.mem_cons_self (by rw [List.length_eq_zero_iff.mp h0, bytesOf_nil])
    have : addGroup c x = c ++ [byteOf tSeparator] ++ bytesOf x := by
      unfold addGroup; rw [if_neg hx0, if_pos (List.length_pos_iff.mpr hg)]
    rw [List.foldl_cons, this, ih (fun y hy => hgs y (List.mem_cons_of_mem _ hy)) _ (by simp), tailBytes_cons]
    simp

/-- what one more group adds to the profiles and the selector collected so far (the step of
`meaningGroups`) -/
def groupStep (acc : List Profile × Nat) (g : List Setting) : List Profile × Nat :=
  if (bytesOf g).length = 0 then acc
  else
    let (p, z) := meaningGroup g
    (acc.1 ++ [p], if z > 0 then z else acc.2)

theorem meaningGroups_eq (gs : List (List Setting)) : meaningGroups gs = gs.foldl groupStep ([], 0) := rfl

theorem groupStep_of_ne {g : List Setting} (h : bytesOf g ≠ []) (acc : List Profile × Nat) :
    groupStep acc g =
      (acc.1 ++ [(meaningGroup g).1], if (meaningGroup g).2 > 0 then (meaningGroup g).2 else acc.2) := by
  unfold groupStep; rw [if_neg (mt List.length_eq_zero_iff.mp h)]

theorem buildLoop_groups (tls : Bytes → Bytes → Bytes → Bool) {c : Bytes} :
    ∀ (gs : List (List Setting)) (g : List Setting) (i : Nat) (e : List Profile) (sel f : Nat),
    c.drop i = bytesOf g ++ tailBytes gs → i ≤ c.length →
    (∀ x ∈ g :: gs, groupOK tls false false x = true ∧ bytesOf x ≠ []) → c.length + 1 ≤ f + i →
    buildLoop tls c f i e sel = .ok ((g :: gs).foldl groupStep (e, sel))
  | _, _, i, _, _, 0, _, hi, _, hf => by omega
  | gs, g, i, e, sel, f + 1, hc, hi, hok, hf => by
    obtain ⟨hgok, hgne⟩ := hok g List.mem_cons_self
    have hpos := List.length_pos_iff.mpr hgne
    have hlen := length_of_drop hc
    rw [List.length_append] at hlen
    obtain ⟨n, hn, hcn, hfirst, hb⟩ := bloop_group tls g i (tailBytes gs) {} 0 (c.length + 1) 0 hc hi hgok
      (tailBytes_shape gs) (.inr ⟨Nat.zero_le _, by omega⟩) (by omega)
    have hin : i < n := by
      have := congrArg List.length hcn
      rw [List.length_drop, List.length_tail] at this
      omega
    unfold buildLoop buildAt
    rw [if_pos (by omega), hb, rd_ok (by omega)]
    simp only [ok_bind]
    rw [if_neg (fun h => hfirst hgne h.2), List.foldl_cons, groupStep_of_ne hgne]
    cases gs with
    | nil =>
      have := List.drop_eq_nil_iff.mp hcn
      obtain ⟨f', rfl⟩ : ∃ f', f = f' + 1 := ⟨f - 1, by omega⟩
      unfold buildLoop
      rw [if_neg (by omega)]; rfl
    | cons g2 rest =>
      rw [tailBytes_cons] at hcn
      exact buildLoop_groups tls rest g2 n _ _ f hcn hn (fun x hx => hok x (List.mem_cons_of_mem _ hx)) (by omega)

/-- Well-formed input of `build_pack`: every group's settings are in their documented domain with
at most one connector and one transform, and every group encodes to at least one byte (so that
`AddGroup` really adds a group). Decidable. -/
def groupsOK (tls : Bytes → Bytes → Bytes → Bool) (gs : List (List Setting)) : Bool :=
  !gs.isEmpty && gs.all fun g => groupOK tls false false g && !(bytesOf g).isEmpty

/-- what `groupsOK` says, in the form the proofs use -/
theorem groupsOK_cons {tls : Bytes → Bytes → Bytes → Bool} {gs : List (List Setting)} (hok : groupsOK tls gs = true) :
    ∃ g rest, gs = g :: rest ∧ ∀ x ∈ g :: rest, groupOK tls false false x = true ∧ bytesOf x ≠ [] := by
  unfold groupsOK at hok
  simp only [Bool.and_eq_true, List.all_eq_true] at hok
  cases gs with
  | nil => simp at hok
  | cons g rest => exact ⟨g, rest, rfl, fun x hx => ⟨(hok.2 x hx).1, isEmpty_false (hok.2 x hx).2⟩⟩

end XMT.Cfg
