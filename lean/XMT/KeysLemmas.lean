/-
  Lemmas about the key state machines of XMT/Keys.lean: what each protocol function computes under
  the curve hypotheses, the invariant preserved by every event without a lost reply (its server
  part by every event: nothing writes `Server.Keys`, `xchgStep_srvKeys`), and the start-up with the
  server keys generated first, for every schedule.  The server's handling of a packet of a
  registered Session is specified on `talkBody` (XMT/KeysConn.lean, the conn explicit);
  `talk_registered` says that `talk` is that, `xchgStep_registered` what an exchange is in its terms.
  The predicates the statements of Props/C06 are written in are defined here, each where the lemmas
  first need it: `Curve.WF`, `SrvOK`, `CliInv` (read through `CliInv.registered`), `Send.Sized`,
  `Inv`, `Ev.Sized`, `Ev.NoLoss`.
-/
import XMT.KeysXor
import XMT.KeysConn
namespace XMT.Keys

/-- Hypotheses on the curve parameter (each is exercised on real P-521 by the harness). -/
structure Curve.WF (c : Curve) : Prop where
  /-- Diffie–Hellman: both sides compute the same secret. -/
  comm : ∀ a b, c.dh a (c.pubOf b) = c.dh b (c.pubOf a)
  /-- generated keys always yield a secret -/
  total : ∀ a b, a.length = privSize → b.length = privSize → ∃ v, c.dh a (c.pubOf b) = some v
  /-- a marshalled public key fills the PublicKey array … -/
  pubLen : ∀ a, (c.pubOf a).length = pubSize
  /-- … and is not all zero (it starts with the uncompressed-point tag) -/
  pubNonzero : ∀ a, allZero (c.pubOf a) = false

theorem Curve.WF.shared {c : Curve} (hc : c.WF) {a b : Bytes} (ha : a.length = privSize)
    (hb : b.length = privSize) : ∃ v, c.dh a (c.pubOf b) = some v ∧ c.dh b (c.pubOf a) = some v :=
  let ⟨v, hv⟩ := hc.total a b ha hb
  ⟨v, hv, hc.comm a b ▸ hv⟩

@[simp] theorem zeros_length (n : Nat) : (zeros n).length = n := by simp [zeros]

@[simp] theorem copyInto_length (d s : Bytes) : (copyInto d s).length = d.length := by
  simp only [copyInto, List.length_append, List.length_take, List.length_drop]; omega

theorem copyInto_same (d s : Bytes) (h : d.length = s.length) : copyInto d s = s := by
  simp [copyInto, h]

theorem allZero_zeros (n : Nat) : allZero (zeros n) = true := by
  simp [allZero, zeros]

theorem pubSize_pos : pubSize ≠ 0 := by decide
theorem shareSize_pos : shareSize ≠ 0 := by decide

@[simp] theorem zero_pub_length : KeyPair.zero.pub.length = pubSize := by simp [KeyPair.zero]
@[simp] theorem zero_priv_length : KeyPair.zero.priv.length = privSize := by simp [KeyPair.zero]
@[simp] theorem zero_share : KeyPair.zero.share = zeros shareSize := rfl

theorem fill_spec (c : Curve) (k : KeyPair) (a : Bytes) (hpl : (c.pubOf a).length = pubSize)
    (hp : k.pub.length = pubSize) (hq : k.priv.length = privSize) (ha : a.length = privSize) :
    k.fill c a = ⟨c.pubOf a, a, zeros k.share.length⟩ := by
  simp [KeyPair.fill, copyInto_same _ _ (hp.trans hpl.symm), copyInto_same _ _ (hq.trans ha.symm)]

theorem zero_fill (c : Curve) (a : Bytes) (hpl : (c.pubOf a).length = pubSize)
    (ha : a.length = privSize) : KeyPair.zero.fill c a = ⟨c.pubOf a, a, zeros shareSize⟩ := by
  rw [fill_spec c _ a hpl zero_pub_length zero_priv_length ha]; simp

theorem readPub_full (k : KeyPair) (buf : Bytes) (hk : k.pub.length = pubSize) (hb : buf.length = pubSize) :
    k.readPub buf = ({ k with pub := buf }, [], true) := by
  have hd : List.drop pubSize buf = [] := List.drop_eq_nil_of_le (by omega)
  simp [KeyPair.readPub, copyInto_same _ _ (hk.trans hb.symm), hk, hb, pubSize_pos, hd]

theorem fillShared_some (c : Curve) (k : KeyPair) (n m v : Bytes) (h : c.dh m n = some v) :
    k.fillShared c n m = ({ k with share := copyInto k.share v }, true) := by
  simp [KeyPair.fillShared, h]

theorem fillShared_none (c : Curve) (k : KeyPair) (n m : Bytes) (h : c.dh m n = none) :
    k.fillShared c n m = (k, false) := by
  simp [KeyPair.fillShared, h]

theorem fillPrivate_some (c : Curve) (k : KeyPair) (p v : Bytes) (h : c.dh p k.pub = some v)
    (hl : k.priv.length = p.length) :
    k.fillPrivate c p = ({ k with share := copyInto k.share v, priv := p }, true) := by
  simp [KeyPair.fillPrivate, fillShared_some c k k.pub p v h, copyInto_same _ _ hl]

theorem fillPrivate_lengths (c : Curve) (k : KeyPair) (p : Bytes) :
    (k.fillPrivate c p).1.share.length = k.share.length ∧ (k.fillPrivate c p).1.pub = k.pub ∧
    (k.fillPrivate c p).1.priv.length = k.priv.length := by
  cases h : c.dh p k.pub with
  | none => simp [KeyPair.fillPrivate, fillShared_none c k _ _ h]
  | some v => simp [KeyPair.fillPrivate, fillShared_some c k _ _ v h]

theorem sync_some (c : Curve) (k : KeyPair) (v : Bytes) (h : c.dh k.priv k.pub = some v) :
    k.sync c = ({ k with share := copyInto k.share v }, true) := fillShared_some c k _ _ v h

/-! ### The copy of the secret into the fixed `share` array

data/crypto.go `fillShared`: `copy(k.share[:], v.Bytes())`.  `v.Bytes()` is the MINIMAL big-endian
encoding of the x coordinate: 66 bytes for about half of all P-521 points (then the LAST byte is cut
off by `copy`), 65 bytes for most of the others, shorter when the encoding of x starts with zero bytes
(1 in 512) — then the tail of the array keeps whatever it held before (`copy` does not clear it).  The
derivation is always IN PLACE over the previous contents of `k.share`: `Fill()` zeroes the array
(registration, re-registration), a re-key (`keyCheckSync` → `FillPrivate`, `keyListenerRegenerate` →
`Sync`) writes over the previous secret. -/

theorem copyInto_agree_iff (p1 p2 v : Bytes) (hl : p1.length = p2.length) :
    copyInto p1 v = copyInto p2 v ↔ p1.drop v.length = p2.drop v.length := by
  unfold copyInto
  rw [hl]
  exact ⟨List.append_cancel_left, fun h => by rw [h]⟩

theorem copyInto_long (p v : Bytes) (h : p.length ≤ v.length) : copyInto p v = v.take p.length := by
  simp [copyInto, List.drop_eq_nil_of_le h]

theorem fillShared_agree_iff (c1 c2 : Curve) (k1 k2 : KeyPair) (n1 m1 n2 m2 v : Bytes)
    (h1 : c1.dh m1 n1 = some v) (h2 : c2.dh m2 n2 = some v) (hl : k1.share.length = k2.share.length) :
    (k1.fillShared c1 n1 m1).1.share = (k2.fillShared c2 n2 m2).1.share ↔
      k1.share.drop v.length = k2.share.drop v.length := by
  rw [fillShared_some c1 k1 n1 m1 v h1, fillShared_some c2 k2 n2 m2 v h2]
  exact copyInto_agree_iff _ _ _ hl

theorem updateIfCrypt_false (c : Curve) (sk : KeyPair) (rest : Bytes) :
    updateIfCrypt c sk false rest = (sk, rest) := by simp [updateIfCrypt]

theorem updateIfCrypt_nil (c : Curve) (sk : KeyPair) (crypt : Bool) :
    updateIfCrypt c sk crypt [] = (sk, []) := by simp [updateIfCrypt]

theorem regenerate_pub (c : Curve) (sk : KeyPair) (buf v : Bytes) (hk : sk.pub.length = pubSize)
    (hb : buf.length = pubSize) (hv : c.dh sk.priv buf = some v) :
    regenerate c sk buf = ({ sk with pub := buf, share := copyInto sk.share v }, []) := by
  simp [regenerate, readPub_full sk buf hk hb, KeyPair.sync, fillShared_some c _ buf sk.priv v hv]

/-- A re-key announcement: the decrypted buffer is exactly a public key. -/
theorem updateIfCrypt_pub (c : Curve) (sk : KeyPair) (buf v : Bytes) (hk : sk.pub.length = pubSize)
    (hb : buf.length = pubSize) (hv : c.dh sk.priv buf = some v) :
    updateIfCrypt c sk true buf = ({ sk with pub := buf, share := copyInto sk.share v }, []) := by
  have h0 : buf.length ≠ 0 := hb ▸ pubSize_pos
  simp [updateIfCrypt, h0, regenerate_pub c sk buf v hk hb hv]

/-- The registered arm of `talk` is `talkBody` (XMT/KeysConn.lean: the same code with the conn
explicit) on the conn `Listener.resolve` builds: a copy of the Session's keys. -/
theorem talk_registered (c : Curve) (srv : Server) (sk : KeyPair) (hs : srv.sess = some sk) (w : Pkt)
    (reply : Bytes) :
    talk c srv w reply =
      ({ srv with sess := some (talkBody c false { host := 0, keys := sk } sk w reply).1 },
       some (talkBody c false { host := 0, keys := sk } sk w reply).2.1,
       (talkBody c false { host := 0, keys := sk } sk w reply).2.2.1) := by
  obtain ⟨keys, sess⟩ := srv
  cases hs
  rfl

theorem talkBody_data (c : Curve) (live : Bool) (conn : Conn) (sk : KeyPair) (p reply : Bytes) :
    talkBody c live conn sk { id := .data, crypt := false, payload := xorOp p sk.share } reply =
      (sk, { id := .data, crypt := false,
             payload := xorOp reply (if live then sk.share else conn.keys.share) }, some p, conn) := by
  simp [talkBody, updateIfCrypt_false, xorOp_involutive]

/-- The server side of a re-key poll: the Session's live key afterwards is the NEW secret, the conn
holds the OLD one. -/
theorem talkBody_rekey (c : Curve) (live : Bool) (conn : Conn) (sk : KeyPair) (buf v reply : Bytes)
    (hk : sk.pub.length = pubSize) (hb : buf.length = pubSize) (hv : c.dh sk.priv buf = some v) :
    talkBody c live conn sk { id := .data, crypt := true, payload := xorOp buf sk.share } reply =
      ({ sk with pub := buf, share := copyInto sk.share v },
       { id := .data, crypt := false,
         payload := xorOp reply (if live then copyInto sk.share v else conn.keys.share) }, none, conn) := by
  cases live <;>
    simp [talkBody, xorOp_involutive, updateIfCrypt_pub c sk buf v hk hb hv, updateIfCrypt_nil]

theorem talk_unregistered (c : Curve) (srv : Server) (hs : srv.sess = none) (w : Pkt) (reply : Bytes)
    (hw : w.id ≠ .hello) :
    talk c srv w reply = (srv, some { id := .register, crypt := false, payload := [] }, none) := by
  obtain ⟨keys, sess⟩ := srv
  cases hs
  simp [talk, hw]

theorem listenerInit_pub (c : Curve) (srvPriv buf v : Bytes) (hb : buf.length = pubSize)
    (hp : srvPriv.length = privSize) (hv : c.dh srvPriv buf = some v) :
    listenerInit c srvPriv buf = (⟨buf, srvPriv, copyInto (zeros shareSize) v⟩, []) := by
  have h1 : (KeyPair.mk buf KeyPair.zero.priv (zeros shareSize)).priv.length = srvPriv.length := by
    simp [hp]
  simp [listenerInit, readPub_full KeyPair.zero buf zero_pub_length hb]
  rw [fillPrivate_some c ⟨buf, KeyPair.zero.priv, zeros shareSize⟩ srvPriv v hv h1]

theorem talk_hello (c : Curve) (srv : Server) (hs : srv.sess = none) (info pub v reply : Bytes)
    (hb : pub.length = pubSize) (hp : srv.keys.priv.length = privSize)
    (hv : c.dh srv.keys.priv pub = some v) :
    talk c srv { id := .hello, crypt := true, payload := info ++ pub, infoLen := info.length } reply =
      ({ srv with sess := some ⟨pub, srv.keys.priv, copyInto (zeros shareSize) v⟩ },
       some (hostSync srv.keys), none) := by
  obtain ⟨keys, sess⟩ := srv
  cases hs
  have h0 : pub ≠ [] := by
    intro h; rw [h] at hb; exact pubSize_pos hb.symm
  simp [talk, h0, listenerInit_pub c keys.priv pub v hb hp hv, updateIfCrypt_nil]

theorem talk_keys (c : Curve) (srv : Server) (w : Pkt) (reply : Bytes) :
    (talk c srv w reply).1.keys = srv.keys := by
  unfold talk
  split
  · split
    · rfl
    · split <;> rfl
  · rfl

theorem sessionSync_fresh (c : Curve) (k : KeyPair) (buf v : Bytes) (t : Bool)
    (hz : k.share = zeros shareSize) (hk : k.pub.length = pubSize) (hb : buf.length = pubSize)
    (hnz : allZero buf = false) (hv : c.dh k.priv buf = some v) :
    sessionSync c k buf t = ({ k with pub := buf, share := copyInto (zeros shareSize) v }, true) := by
  have hs : k.isSynced = false := by simp [KeyPair.isSynced, hz, allZero_zeros]
  simp [sessionSync, hs, readPub_full k buf hk hb, hnz, KeyPair.sync,
    fillShared_some c _ buf k.priv v hv, hz]

theorem checkSync_none (c : Curve) (cl : Client) (h : cl.next = none) : checkSync c cl = (cl, true) := by
  simp [checkSync, h]

theorem checkSync_some (c : Curve) (cl : Client) (v : KeyPair) (h : cl.next = some v) :
    checkSync c cl = ({ cl with keys := (cl.keys.fillPrivate c v.priv).1, next := none },
      (cl.keys.fillPrivate c v.priv).2) := by
  simp [checkSync, h]

theorem checkSync_keeps (c : Curve) (cl : Client) :
    (checkSync c cl).1.next = none ∧ (checkSync c cl).1.hello = cl.hello ∧
    (checkSync c cl).1.keys.share.length = cl.keys.share.length ∧
    (checkSync c cl).1.keys.pub = cl.keys.pub ∧
    (checkSync c cl).1.keys.priv.length = cl.keys.priv.length := by
  cases h : cl.next with
  | none => rw [checkSync_none c cl h]; exact ⟨h, rfl, rfl, rfl, rfl⟩
  | some v =>
    rw [checkSync_some c cl v h]
    exact ⟨rfl, rfl, fillPrivate_lengths c cl.keys v.priv⟩

theorem clientNext_hello (c : Curve) (cl : Client) (send : Send) (h : Pkt) (hh : cl.hello = some h) :
    clientNext c cl send = (h, { cl with hello := none }) := by
  simp [clientNext, hh]

theorem clientNext_data (c : Curve) (cl : Client) (p : Bytes) (hh : cl.hello = none) :
    clientNext c cl (.data p) = ({ id := .data, crypt := false, payload := p }, cl) := by
  simp [clientNext, hh]

theorem clientNext_rekey (c : Curve) (cl : Client) (a : Bytes) (hh : cl.hello = none)
    (hn : cl.next = none) :
    clientNext c cl (.rekey a) = ({ id := .data, crypt := true, payload := (KeyPair.zero.fill c a).pub },
      { cl with next := some (KeyPair.zero.fill c a) }) := by
  simp [clientNext, hh, hn]

theorem clientNext_hello_none (c : Curve) (cl : Client) (send : Send) (hh : cl.hello = none) :
    (clientNext c cl send).2.hello = none := by
  cases send with
  | data p => rw [clientNext_data c cl p hh]; exact hh
  | rekey a => simp only [clientNext, hh]; split <;> first | exact hh | rfl

/-- With no hello queued the pick is a data packet: payload, re-key announcement or keep-alive. -/
theorem clientNext_id (c : Curve) (cl : Client) (send : Send) (hh : cl.hello = none) :
    (clientNext c cl send).1.id = .data := by
  cases send <;> simp only [clientNext, hh] <;> split <;> rfl

theorem clientNext_keys (c : Curve) (cl : Client) (send : Send) : (clientNext c cl send).2.keys = cl.keys := by
  unfold clientNext
  split
  · rfl
  · split
    · rfl
    · split <;> rfl

/-- The Server generated its KeyPair (`Fill`). -/
structure SrvOK (c : Curve) (srv : Server) : Prop where
  pub : srv.keys.pub = c.pubOf srv.keys.priv
  privLen : srv.keys.priv.length = privSize

theorem SrvOK.of_keys {c : Curve} {srv srv' : Server} (h : SrvOK c srv) (hk : srv'.keys = srv.keys) :
    SrvOK c srv' :=
  ⟨hk ▸ h.pub, hk ▸ h.privLen⟩

def helloOf (pub : Bytes) : Pkt :=
  { id := .hello, crypt := true, payload := reInfo ++ pub, infoLen := reInfo.length }

/-- What holds of a client between two events when no reply was ever lost. -/
def CliInv (c : Curve) (srv : Server) (cl : Client) : Prop :=
  cl.next = none ∧ cl.keys.share.length = shareSize ∧ cl.keys.pub.length = pubSize ∧
  cl.keys.priv.length = privSize ∧
  match srv.sess, cl.hello with
  | some sk, h => h = none ∧ cl.keys.share = sk.share ∧ cl.keys.pub = srv.keys.pub ∧
                   sk.priv = srv.keys.priv ∧ sk.pub.length = pubSize
  | none, none => True
  | none, some h => h = helloOf cl.keys.pub ∧ cl.keys.pub = c.pubOf cl.keys.priv ∧
                     cl.keys.share = zeros shareSize

theorem CliInv.registered {c : Curve} {srv : Server} {cl : Client} {sk : KeyPair} (h : CliInv c srv cl)
    (hs : srv.sess = some sk) :
    cl.hello = none ∧ cl.keys.share = sk.share ∧ cl.keys.pub = srv.keys.pub ∧
    sk.priv = srv.keys.priv ∧ sk.pub.length = pubSize := by
  have := h.2.2.2.2
  rw [hs] at this
  exact this

theorem CliInv.revert {c : Curve} {srv : Server} {cl : Client} (h : CliInv c srv cl) :
    CliInv c srv { cl with next := none, hello := none } := by
  obtain ⟨_, h2, h3, h4, h5⟩ := h
  refine ⟨rfl, h2, h3, h4, ?_⟩
  revert h5
  cases srv.sess with
  | none => exact fun _ => trivial
  | some sk => exact fun h5 => ⟨rfl, h5.2⟩

theorem CliInv.drop {c : Curve} {srv : Server} {cl : Client} (h : CliInv c srv cl) :
    CliInv c { srv with sess := none } cl := by
  obtain ⟨h1, h2, h3, h4, h5⟩ := h
  refine ⟨h1, h2, h3, h4, ?_⟩
  revert h5
  cases srv.sess with
  | none => exact id
  | some sk => exact fun h5 => by rw [h5.1]; trivial

/-- The hello round trip against a server that does not know the client, started from freshly
generated keys `⟨pubOf a, a, 0…0⟩`: the server derives `v` from its private key and the client's
public key, the client (in `keySessionSync`, with or without the trust check) the same `v` from the
public key in the reply; both copy it over an all-zero array. -/
theorem hello_roundtrip (c : Curve) (hc : c.WF) (srv : Server) (hs : srv.sess = none) (hsrv : SrvOK c srv)
    (a info reply : Bytes) (ha : a.length = privSize) :
    ∃ v, c.dh srv.keys.priv (c.pubOf a) = some v ∧ c.dh a (c.pubOf srv.keys.priv) = some v ∧
      talk c srv { id := .hello, crypt := true, payload := info ++ c.pubOf a, infoLen := info.length } reply =
        ({ srv with sess := some ⟨c.pubOf a, srv.keys.priv, copyInto (zeros shareSize) v⟩ },
         some (hostSync srv.keys), none) ∧
      ∀ t, sessionSync c ⟨c.pubOf a, a, zeros shareSize⟩ srv.keys.pub t =
        (⟨srv.keys.pub, a, copyInto (zeros shareSize) v⟩, true) := by
  obtain ⟨v, hv, hv'⟩ := hc.shared hsrv.privLen ha
  have hv2 : c.dh a srv.keys.pub = some v := hsrv.pub ▸ hv'
  refine ⟨v, hv, hv', talk_hello c srv hs info _ v reply (hc.pubLen a) hsrv.privLen hv, fun t => ?_⟩
  exact sessionSync_fresh c _ _ v t rfl (hc.pubLen a) (hsrv.pub ▸ hc.pubLen _) (hsrv.pub ▸ hc.pubNonzero _) hv2

/-- `keyCheckRevert`: whatever was picked is gone, a queued hello as well as a queued KeyPair. -/
theorem xchgStep_writeFail (c : Curve) (cl : Client) (srv : Server) (send : Send) (reply fresh : Bytes) :
    xchgStep c cl srv send reply fresh .writeFail = ({ cl with next := none, hello := none }, srv, []) := by
  obtain ⟨keys, next, hello⟩ := cl
  cases hello <;> cases send <;> cases next <;> simp [xchgStep, clientNext]

/-- A data reply: decrypted with the key the client holds BEFORE `keyCheckSync` swaps, handed to
the handler only if the swap succeeded. -/
theorem clientReceive_data (c : Curve) (cl : Client) (crypt : Bool) (pl : Bytes) (n : Nat)
    (fresh info replyData : Bytes) :
    clientReceive c cl ⟨.data, crypt, pl, n⟩ fresh info replyData =
      ((checkSync c cl).1,
       if (checkSync c cl).2 then [⟨false, replyData, xorOp pl cl.keys.share⟩] else []) := by
  simp only [clientReceive]
  rcases checkSync c cl with ⟨cl1, _ | _⟩ <;> simp

/-- An exchange with a registered Session whose request was written: the client's pick, encrypted
with the client's key, goes through `talkBody` on the conn `Listener.resolve` builds; a lost reply
leaves the client as it was after the pick. -/
theorem xchgStep_registered (c : Curve) (cl : Client) (srv : Server) (sk : KeyPair) (send : Send)
    (reply fresh : Bytes) (f : Fault) (hs : srv.sess = some sk) (hh : cl.hello = none)
    (hf : f ≠ .writeFail) :
    xchgStep c cl srv send reply fresh f =
      let pc := clientNext c cl send
      let t := talkBody c false { host := 0, keys := sk } sk (pc.1.encryptedWith pc.2.keys.share) reply
      let srv' : Server := { srv with sess := some t.1 }
      if f = .replyLost then (pc.2, srv', obsOf pc.1 t.2.2.1)
      else
        let co := clientReceive c pc.2 t.2.1 fresh reInfo reply
        (co.1, srv', obsOf pc.1 t.2.2.1 ++ co.2) := by
  have hid : (clientNext c cl send).1.id ≠ .hello := by rw [clientNext_id c cl send hh]; decide
  simp only [xchgStep, if_neg hid, if_neg hf, talk_registered c srv sk hs, Pkt.encryptedWith]

theorem xchgStep_data_ok (c : Curve) (cl : Client) (srv : Server) (sk : KeyPair) (p reply fresh : Bytes)
    (hs : srv.sess = some sk) (hn : cl.next = none) (hh : cl.hello = none)
    (hsh : cl.keys.share = sk.share) :
    xchgStep c cl srv (.data p) reply fresh .ok = (cl, srv, [⟨true, p, p⟩, ⟨false, reply, reply⟩]) := by
  rw [xchgStep_registered c cl srv sk _ reply fresh .ok hs hh (by decide), clientNext_data c cl p hh]
  simp [Pkt.encryptedWith, hsh, talkBody_data, clientReceive_data, checkSync_none c cl hn,
    xorOp_involutive, obsOf, ← hs]

theorem xchgStep_rekey_ok (c : Curve) (hc : c.WF) (cl : Client) (srv : Server) (sk : KeyPair)
    (a reply fresh : Bytes) (ha : a.length = privSize) (hsrv : SrvOK c srv) (hcl : CliInv c srv cl)
    (hs : srv.sess = some sk) :
    ∃ v, c.dh srv.keys.priv (c.pubOf a) = some v ∧
      xchgStep c cl srv (.rekey a) reply fresh .ok
        = (⟨⟨cl.keys.pub, a, copyInto cl.keys.share v⟩, none, none⟩,
           { srv with sess := some { sk with pub := c.pubOf a, share := copyInto sk.share v } },
           [⟨false, reply, reply⟩]) := by
  obtain ⟨hh, hsh, hcp, hskp, hskl⟩ := hcl.registered hs
  obtain ⟨hnext, _, _, hprivl, _⟩ := hcl
  obtain ⟨v, hv, hv'⟩ := hc.shared hsrv.privLen ha
  have hv2 : c.dh a cl.keys.pub = some v := by rw [hcp, hsrv.pub]; exact hv'
  refine ⟨v, hv, ?_⟩
  have hswap : checkSync c { cl with next := some ⟨c.pubOf a, a, zeros shareSize⟩ } =
      (⟨⟨cl.keys.pub, a, copyInto cl.keys.share v⟩, none, none⟩, true) := by
    rw [checkSync_some c _ _ rfl, fillPrivate_some c cl.keys a v hv2 (hprivl.trans ha.symm), hh]
  rw [xchgStep_registered c cl srv sk _ reply fresh .ok hs hh (by decide),
    clientNext_rekey c cl a hh hnext, zero_fill c a (hc.pubLen a) ha]
  -- the reply is encrypted with the conn's copy (old key) and decrypted before the client swaps
  simp only [Pkt.encryptedWith, clientReceive_data, hswap, hsh,
    talkBody_rekey c false _ sk (c.pubOf a) v reply hskl (hc.pubLen a) (hskp ▸ hv)]
  simp [obsOf, xorOp_involutive]

theorem sessionGenerate_spec (c : Curve) (k : KeyPair) (a info : Bytes)
    (hpl : (c.pubOf a).length = pubSize) (hp : k.pub.length = pubSize) (hq : k.priv.length = privSize)
    (ha : a.length = privSize) :
    sessionGenerate c k a info = (⟨c.pubOf a, a, zeros k.share.length⟩,
      { id := .hello, crypt := true, payload := info ++ c.pubOf a, infoLen := info.length }) := by
  simp [sessionGenerate, fill_spec c k a hpl hp hq ha]

/-- The server holds no Session and the client has no hello queued: whatever was sent is answered
with SvRegister; the client completes a pending swap (`keyCheckSync`) and, if that succeeded,
generates new keys and queues the hello. -/
theorem xchgStep_unregistered (c : Curve) (cl : Client) (srv : Server) (send : Send) (reply fresh : Bytes)
    (hs : srv.sess = none) (hh : cl.hello = none) :
    xchgStep c cl srv send reply fresh .ok =
      match checkSync c (clientNext c cl send).2 with
      | (cl1, false) => (cl1, srv, [])
      | (cl1, true) => ({ cl1 with keys := (sessionGenerate c cl1.keys fresh reInfo).1,
                                   hello := some (sessionGenerate c cl1.keys fresh reInfo).2 }, srv, []) := by
  have hid := clientNext_id c cl send hh
  have hreg := fun w hw => talk_unregistered c srv hs w reply hw
  simp [xchgStep, hid, clientReceive, hreg, obsOf]
  rcases checkSync c (clientNext c cl send).2 with ⟨cl1, _ | _⟩ <;> rfl

/-- The queued hello of a re-registration is answered: both ends derive the secret over zeroed
arrays (`hello_roundtrip`). -/
theorem xchgStep_hello_ok (c : Curve) (hc : c.WF) (cl : Client) (srv : Server) (send : Send)
    (reply fresh : Bytes) (hs : srv.sess = none) (hsrv : SrvOK c srv) (hn : cl.next = none)
    (hh : cl.hello = some (helloOf cl.keys.pub)) (hkp : cl.keys.pub = c.pubOf cl.keys.priv)
    (hks : cl.keys.share = zeros shareSize) (hprivl : cl.keys.priv.length = privSize) :
    ∃ v, xchgStep c cl srv send reply fresh .ok =
      (⟨⟨srv.keys.pub, cl.keys.priv, copyInto (zeros shareSize) v⟩, none, none⟩,
       { srv with sess := some ⟨cl.keys.pub, srv.keys.priv, copyInto (zeros shareSize) v⟩ }, []) := by
  obtain ⟨v, _, _, ht, hss⟩ := hello_roundtrip c hc srv hs hsrv cl.keys.priv reInfo reply hprivl
  obtain ⟨⟨pub, priv, share⟩, next, hello⟩ := cl
  simp only at hn hh hkp hks ht hss ⊢
  subst hn hh hkp hks
  have hne : srv.keys.pub ≠ [] := by
    intro h0; have := hc.pubLen srv.keys.priv; rw [← hsrv.pub, h0] at this; exact pubSize_pos this.symm
  refine ⟨v, ?_⟩
  simp [xchgStep, clientNext, helloOf] at ht ⊢
  simp [ht, hostSync, clientReceive, checkSync, hss, obsOf, hne]

theorem Fault.writeFail_or_ok (f : Fault) (hf : f ≠ .replyLost) : f = .writeFail ∨ f = .ok := by
  cases f <;> simp at hf ⊢

/-- Nothing writes `Server.Keys` after start-up, whatever is sent and wherever the connection fails
(`talk_keys`). -/
theorem xchgStep_srvKeys (c : Curve) (cl : Client) (srv : Server) (send : Send) (reply fresh : Bytes)
    (f : Fault) : (xchgStep c cl srv send reply fresh f).2.1.keys = srv.keys := by
  simp only [xchgStep]
  split
  · rfl
  · generalize ht : talk c srv _ reply = t
    have hk : t.1.keys = srv.keys := ht ▸ talk_keys c srv _ reply
    obtain ⟨srv', _ | r, seen⟩ := t
    · exact hk
    · dsimp only; split <;> exact hk

theorem connectStep_srvKeys (c : Curve) (srv : Server) (a info : Bytes) (f : Fault) :
    (connectStep c srv a info f).2.keys = srv.keys := by
  simp only [connectStep]
  split
  · rfl
  · generalize ht : talk c srv _ [] = t
    have hk : t.1.keys = srv.keys := ht ▸ talk_keys c srv _ []
    obtain ⟨srv', _ | r, seen⟩ := t
    · exact hk
    · dsimp only; split
      · exact hk
      · split <;> exact hk

def Send.Sized : Send → Prop
  | .data _ => True
  | .rekey a => a.length = privSize

theorem xchgStep_inv (c : Curve) (hc : c.WF) (cl : Client) (srv : Server) (send : Send)
    (reply fresh : Bytes) (f : Fault) (hf : f ≠ .replyLost) (hsend : send.Sized)
    (hfresh : fresh.length = privSize) (hsrv : SrvOK c srv) (hcl : CliInv c srv cl) :
    SrvOK c (xchgStep c cl srv send reply fresh f).2.1 ∧
    CliInv c (xchgStep c cl srv send reply fresh f).2.1 (xchgStep c cl srv send reply fresh f).1 ∧
    ∀ o ∈ (xchgStep c cl srv send reply fresh f).2.2, o.got = o.sent := by
  refine ⟨hsrv.of_keys (xchgStep_srvKeys c cl srv send reply fresh f), ?_⟩
  rcases f.writeFail_or_ok hf with rfl | rfl
  · rw [xchgStep_writeFail]; exact ⟨hcl.revert, by simp⟩
  have ⟨hnext, hshl, hpubl, hprivl, hrel⟩ := hcl
  obtain ⟨skeys, _ | sk⟩ := srv
  · cases hh : cl.hello with
    | none =>
      -- SvRegister: `keyCheckSync` keeps the sizes, then (if it succeeded) fresh keys and a hello
      rw [xchgStep_unregistered c cl _ send reply fresh rfl hh]
      obtain ⟨k1, k2, k3, k4, k5⟩ := checkSync_keeps c (clientNext c cl send).2
      rw [clientNext_hello_none c cl send hh] at k2
      rw [clientNext_keys] at k3 k4 k5
      generalize checkSync c (clientNext c cl send).2 = r at k1 k2 k3 k4 k5 ⊢
      obtain ⟨⟨keys1, next1, hello1⟩, ok⟩ := r
      simp only at k1 k2 k3 k4 k5; subst k1 k2
      cases ok
      · exact ⟨⟨rfl, k3.trans hshl, k4 ▸ hpubl, k5.trans hprivl, trivial⟩, by simp⟩
      · simp only [sessionGenerate_spec c keys1 fresh reInfo (hc.pubLen fresh) (k4 ▸ hpubl) (k5.trans hprivl) hfresh]
        exact ⟨⟨rfl, by simp [k3, hshl], hc.pubLen fresh, hfresh, rfl, rfl, by rw [k3, hshl]⟩, by simp⟩
    | some h =>
      rw [hh] at hrel
      obtain ⟨rfl, hkp, hks⟩ := hrel
      obtain ⟨v, e⟩ := xchgStep_hello_ok c hc cl _ send reply fresh rfl hsrv hnext hh hkp hks hprivl
      rw [e]
      exact ⟨⟨rfl, by simp, hsrv.pub ▸ hc.pubLen _, hprivl, rfl, rfl, rfl, rfl, hpubl⟩, by simp⟩
  · obtain ⟨hh, hsh, hcp, hskp, hskl⟩ := hcl.registered rfl
    cases send with
    | data p =>
      rw [xchgStep_data_ok c cl _ sk p reply fresh rfl hnext hh hsh]
      exact ⟨hcl, by simp⟩
    | rekey a =>
      obtain ⟨v, _, e⟩ := xchgStep_rekey_ok c hc cl _ sk a reply fresh hsend hsrv hcl rfl
      rw [e]
      exact ⟨⟨rfl, by simpa using hshl, hpubl, hsend, rfl, by rw [hsh], hcp, hskp, hc.pubLen a⟩, by simp⟩

theorem connectStep_fresh (c : Curve) (hc : c.WF) (srv : Server) (hs : srv.sess = none)
    (a info : Bytes) (ha : a.length = privSize) (hsrv : SrvOK c srv) :
    ∃ v, c.dh srv.keys.priv (c.pubOf a) = some v ∧ c.dh a (c.pubOf srv.keys.priv) = some v ∧
      connectStep c srv a info .ok
        = (some ⟨⟨srv.keys.pub, a, copyInto (zeros shareSize) v⟩, none, none⟩,
           { srv with sess := some ⟨c.pubOf a, srv.keys.priv, copyInto (zeros shareSize) v⟩ }) := by
  obtain ⟨v, h1, h2, ht, hss⟩ := hello_roundtrip c hc srv hs hsrv a info [] ha
  exact ⟨v, h1, h2, by simp [connectStep, sessionGenerate, zero_fill c a (hc.pubLen a) ha, ht, hostSync, hss]⟩

theorem connectStep_inv (c : Curve) (hc : c.WF) (srv : Server) (a info : Bytes) (f : Fault)
    (hf : f ≠ .replyLost) (ha : a.length = privSize) (hsrv : SrvOK c srv) :
    SrvOK c (connectStep c srv a info f).2 ∧
    ∀ cl, (connectStep c srv a info f).1 = some cl → CliInv c (connectStep c srv a info f).2 cl := by
  refine ⟨hsrv.of_keys (connectStep_srvKeys c srv a info f), ?_⟩
  rcases f.writeFail_or_ok hf with rfl | rfl
  · simp [connectStep]
  cases hs : srv.sess with
  | none =>
    obtain ⟨v, _, _, e⟩ := connectStep_fresh c hc srv hs a info ha hsrv
    rw [e]
    intro cl hcl
    cases hcl
    exact ⟨rfl, by simp, hsrv.pub ▸ hc.pubLen _, ha, rfl, rfl, rfl, rfl, hc.pubLen a⟩
  | some sk =>
    -- a registered device gets a data reply, not SvComplete: `Connect` fails
    obtain ⟨keys, sess⟩ := srv
    cases hs
    simp only [connectStep, talk]
    simp

structure Inv (c : Curve) (s : State) : Prop where
  srv : SrvOK c s.server
  cli : ∀ cl, s.client = some cl → CliInv c s.server cl
  intact : Intact s

/-- Every scalar a history draws has the private-key size. -/
def Ev.Sized : Ev → Prop
  | .connect a _ _ => a.length = privSize
  | .xchg send _ fresh _ => send.Sized ∧ fresh.length = privSize
  | .drop => True

/-- The event is not a lost reply (the write may fail). -/
def Ev.NoLoss : Ev → Prop
  | .connect _ _ f => f ≠ .replyLost
  | .xchg _ _ _ f => f ≠ .replyLost
  | .drop => True

instance (s : Send) : Decidable s.Sized := by cases s <;> unfold Send.Sized <;> infer_instance
instance (e : Ev) : Decidable e.Sized := by cases e <;> unfold Ev.Sized <;> infer_instance
instance (e : Ev) : Decidable e.NoLoss := by cases e <;> unfold Ev.NoLoss <;> infer_instance

theorem step_xchg (c : Curve) (s : State) (cl : Client) (hcl : s.client = some cl) (send : Send)
    (reply fresh : Bytes) (f : Fault) :
    step c s (.xchg send reply fresh f) =
      { client := some (xchgStep c cl s.server send reply fresh f).1,
        server := (xchgStep c cl s.server send reply fresh f).2.1,
        obs := s.obs ++ (xchgStep c cl s.server send reply fresh f).2.2 } := by
  simp only [step, hcl]

theorem step_inv (c : Curve) (hc : c.WF) (s : State) (e : Ev) (hs : e.Sized) (hn : e.NoLoss)
    (h : Inv c s) : Inv c (step c s e) := by
  cases e with
  | drop => exact ⟨h.srv.of_keys rfl, fun cl hcl => (h.cli cl hcl).drop, h.intact⟩
  | connect a info f =>
    have := connectStep_inv c hc s.server a info f hn hs h.srv
    exact ⟨this.1, this.2, h.intact⟩
  | xchg send reply fresh f =>
    cases hcl : s.client with
    | none => simpa only [step, hcl] using h
    | some cl =>
      have := xchgStep_inv c hc cl s.server send reply fresh f hn hs.1 hs.2 h.srv (h.cli cl hcl)
      rw [step_xchg c s cl hcl]
      exact ⟨this.1, fun _ hcl' => Option.some.inj hcl' ▸ this.2.1,
        List.forall_mem_append.mpr ⟨h.intact, this.2.2⟩⟩

theorem run_inv (c : Curve) (hc : c.WF) (evs : List Ev) (s : State)
    (hev : ∀ e ∈ evs, e.Sized ∧ e.NoLoss) (h : Inv c s) : Inv c (run c s evs) :=
  List.foldlRecOn evs (step c) h fun s h e he => step_inv c hc s e (hev e he).1 (hev e he).2 h

theorem init_server (c : Curve) (b : Bytes) (hpl : (c.pubOf b).length = pubSize) (hb : b.length = privSize) :
    (init c b).server = ⟨⟨c.pubOf b, b, zeros shareSize⟩, none⟩ := by
  simp [init, zero_fill c b hpl hb]

theorem init_inv (c : Curve) (hc : c.WF) (b : Bytes) (hb : b.length = privSize) : Inv c (init c b) := by
  have hz := init_server c b (hc.pubLen b) hb
  exact ⟨⟨by rw [hz], by rw [hz]; exact hb⟩, nofun, nofun⟩

theorem Inv.synced {c : Curve} {s : State} (h : Inv c s) : Synced s := by
  intro cl sk hcl hsk
  exact ((h.cli cl hcl).registered hsk).2.1

/-- The start-up state after `n` steps of the Listener when the KeyPair was generated before the
goroutines started: the first step creates the Session, the second sends the reply, the event loop
finds the keys filled and leaves them alone. -/
def bootAfter (c : Curve) (b pa v : Bytes) (n : Nat) (ld : Bool) : Boot :=
  { keys := ⟨c.pubOf b, b, zeros shareSize⟩, loopDone := ld,
    sess := if 1 ≤ n then some ⟨pa, b, copyInto (zeros shareSize) v⟩ else none,
    reply := if 2 ≤ n then some (c.pubOf b) else none }

theorem bootStep_after (c : Curve) (hc : c.WF) (b pa v : Bytes) (hb : b.length = privSize)
    (hpa : pa.length = pubSize) (hv : c.dh b pa = some v) (n : Nat) (ld : Bool) :
    bootStep c b pa (bootAfter c b pa v n ld) .lis = bootAfter c b pa v (n + 1) ld ∧
    bootStep c b pa (bootAfter c b pa v n ld) .loop = bootAfter c b pa v n true := by
  constructor
  · rcases n with _ | _ | n <;> simp [bootStep, bootAfter, listenerInit_pub c b pa v hpa hb hv]
  · cases ld <;> simp [bootStep, bootAfter, hc.pubNonzero b]

theorem boot_fold_after (c : Curve) (hc : c.WF) (b pa v : Bytes) (hb : b.length = privSize)
    (hpa : pa.length = pubSize) (hv : c.dh b pa = some v) : ∀ (sched : List Tid) (n : Nat) (ld : Bool),
    ∃ ld', sched.foldl (bootStep c b pa) (bootAfter c b pa v n ld) =
      bootAfter c b pa v (n + (sched.filter (· = .lis)).length) ld'
  | [], n, ld => ⟨ld, rfl⟩
  | .loop :: ts, n, ld => by
    rw [List.foldl_cons, (bootStep_after c hc b pa v hb hpa hv n ld).2]
    exact boot_fold_after c hc b pa v hb hpa hv ts n true
  | .lis :: ts, n, ld => by
    rw [List.foldl_cons, (bootStep_after c hc b pa v hb hpa hv n ld).1]
    obtain ⟨ld', h⟩ := boot_fold_after c hc b pa v hb hpa hv ts (n + 1) ld
    exact ⟨ld', by rw [h]; simp [Nat.add_assoc, Nat.add_comm 1]⟩

/-- Every state a schedule reaches from the prefilled start is a `bootAfter` (`boot_fold_after`), so
the outcome depends on the number of Listener steps only. -/
theorem bootRun_prefilled (c : Curve) (hc : c.WF) (b a : Bytes) (hb : b.length = privSize)
    (ha : a.length = privSize) (sched : List Tid) :
    ∃ v, c.dh b (c.pubOf a) = some v ∧ bootRun c true b a sched =
      if 2 ≤ (sched.filter (· = .lis)).length
      then some (copyInto (zeros shareSize) v, copyInto (zeros shareSize) v) else none := by
  obtain ⟨v, hv, hv'⟩ := hc.shared hb ha
  have hss := sessionSync_fresh c ⟨c.pubOf a, a, zeros shareSize⟩ (c.pubOf b) v false rfl
    (hc.pubLen a) (hc.pubLen b) (hc.pubNonzero b) hv'
  obtain ⟨ld', h⟩ := boot_fold_after c hc b (c.pubOf a) v hb (hc.pubLen a) hv sched 0 false
  have h0 : bootInit c true b = bootAfter c b (c.pubOf a) v 0 false := by
    simp [bootInit, bootAfter, zero_fill c b (hc.pubLen b) hb]
  refine ⟨v, hv, ?_⟩
  simp only [bootRun, zero_fill c a (hc.pubLen a) ha, h0, h, Nat.zero_add]
  by_cases h2 : 2 ≤ (sched.filter (· = .lis)).length
  · simp [bootAfter, h2, show 1 ≤ (sched.filter (· = .lis)).length by omega, hss]
  · simp [bootAfter, h2]

end XMT.Keys
