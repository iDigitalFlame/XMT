/-
  XMT.CfgEquiv — Validate against Build (lemmas for Props/C08 and Props/C09).  The two are run side by
  side: arm by arm and loop by loop, validate's outcome and build's agree and neither is a panic or a
  loop out of fuel (`Agree`).  Hence both are total, and Validate accepts exactly what Build accepts
  when certificate/key contents are fine.  The TLS oracle can only turn a success of Build into an
  error of class `ext`.  (`erase`, forgetting the value, is how CfgJsonTotal ties MarshalJSON's arms to
  build's.)
-/
import XMT.CfgTotal
import XMT.CfgCases
namespace XMT.Cfg

/-- forget the value -/
def erase {α} (x : M α) : M Unit := x >>= fun _ => pure ()

@[simp] theorem erase_ok {α} (a : α) : erase (Except.ok a : M α) = .ok () := rfl
@[simp] theorem erase_pure {α} (a : α) : erase (pure a : M α) = .ok () := rfl
@[simp] theorem erase_err {α} (e : Fault) : erase (Except.error e : M α) = .error e := rfl
@[simp] theorem erase_inv {α} (l) : erase (inv l : M α) = inv l := rfl
@[simp] theorem erase_map {α β} (x : M α) (f : α → β) : erase (f <$> x) = erase x := by
  cases x <;> rfl

@[simp] theorem erase_bind_pure {α β} (x : M α) (f : α → β) :
    erase (x >>= fun a => (pure (f a) : M β)) = erase x := by
  cases x <;> rfl

theorem erase_bind {α β} (x : M α) (f : α → M β) : erase (x >>= f) = x >>= fun a => erase (f a) := by
  cases x <;> rfl

theorem erase_ite {α} {p : Prop} [Decidable p] (a b : M α) :
    erase (if p then a else b) = if p then erase a else erase b := by
  split <;> rfl

theorem safe_erase {α} {x : M α} : Safe (erase x) ↔ Safe x := safe_bind_pure

/-- the TLS oracle that accepts everything: certificate and key contents are fine -/
def allTrue : Bytes → Bytes → Bytes → Bool := fun _ _ _ => true

/-- Outcome `v` (of validate) agrees with outcome `b` (of build), and neither is a panic or a loop out
of fuel: both return, with values related by `R`, or both return an error of the package. -/
def Agree {α β} (R : α → β → Prop) : M α → M β → Prop
  | .ok x, .ok y => R x y
  | .error (.err _ _), .error (.err _ _) => True
  | _, _ => False

theorem Agree.safe_left {α β} {R : α → β → Prop} {v : M α} {b : M β} (h : Agree R v b) : Safe v := by
  unfold Agree at h; split at h <;> trivial

theorem Agree.safe_right {α β} {R : α → β → Prop} {v : M α} {b : M β} (h : Agree R v b) : Safe b := by
  unfold Agree at h; split at h <;> trivial

theorem Agree.ok_iff {α β} {R : α → β → Prop} {v : M α} {b : M β} (h : Agree R v b) :
    (∃ x, v = .ok x) ↔ ∃ y, b = .ok y := by
  unfold Agree at h
  split at h
  · exact ⟨fun _ => ⟨_, rfl⟩, fun _ => ⟨_, rfl⟩⟩
  · exact ⟨nofun, nofun⟩
  · exact h.elim

theorem agree_pure {α β} {R : α → β → Prop} {x : α} {y : β} (h : R x y) : Agree R (pure x) (pure y) := h

theorem Agree.bind {α β γ δ} {R : α → β → Prop} {S : γ → δ → Prop} {v : M α} {b : M β} {f : α → M γ}
    {g : β → M δ} (h : Agree R v b) (hf : ∀ x y, R x y → Agree S (f x) (g y)) :
    Agree S (v >>= f) (b >>= g) := by
  unfold Agree at h
  split at h
  · exact hf _ _ h
  · trivial
  · exact h.elim

theorem Agree.mono {α β} {R S : α → β → Prop} {v : M α} {b : M β} (h : Agree R v b)
    (hr : ∀ x y, R x y → S x y) : Agree S v b := by
  unfold Agree at h ⊢
  split at h
  · exact hr _ _ h
  · trivial
  · exact h.elim

/-- build hands the value on, validate has none -/
theorem Agree.bind_pure {α β γ} {v : M α} {b : M β} (h : Agree (fun _ _ => True) v b) (g : β → γ) :
    Agree (fun _ _ => True) v (b >>= fun a => pure (g a)) := by
  unfold Agree at h ⊢
  split at h <;> trivial

/-- both check a guard first (the two sources may list the same bounds in a different order) -/
theorem agree_if_iff {α β} {R : α → β → Prop} {p q : Prop} [Decidable p] [Decidable q] {v : M α} {b : M β}
    {l l' k k'} (hpq : p ↔ q) (h : ¬p → Agree R v b) :
    Agree R (if p then .error (.err l k) else v) (if q then .error (.err l' k') else b) := by
  by_cases hp : p
  · rw [if_pos hp, if_pos (hpq.mp hp)]; trivial
  · rw [if_neg hp, if_neg (mt hpq.mpr hp)]; exact h hp

theorem agree_if {α β} {R : α → β → Prop} {p : Prop} [Decidable p] {v : M α} {b : M β} {l l' k k'}
    (h : ¬p → Agree R v b) :
    Agree R (if p then .error (.err l k) else v) (if p then .error (.err l' k') else b) :=
  agree_if_iff Iff.rfl h

/-- `agree_if` where build's guard sits inside the arm's own function -/
theorem agree_if_bind {α β γ} {R : α → γ → Prop} {p : Prop} [Decidable p] {v : M α} {b : M β} {f : β → M γ}
    {l l' k k'} (h : ¬p → Agree R v (b >>= f)) :
    Agree R (if p then .error (.err l k) else v) ((if p then .error (.err l' k') else b) >>= f) := by
  split
  · trivial
  · exact h ‹_›

/-- an arm with a function of its own on both sides, whose value only build hands on -/
theorem Agree.arm {α β γ} {R : γ → β → Prop} {x : M α} {vx : M Unit} (h : Agree (fun _ _ => True) vx x)
    {g : α → β} {pt : γ} (hg : ∀ a, R pt (g a)) :
    Agree R (vx >>= fun _ => pure pt) (x >>= fun a => pure (g a)) :=
  h.bind fun _ a _ => hg a

/-- an optional field of the WebC2 setting (`c[q:v]`, read only when it is not empty) is returned -/
theorem optSlice_ok (c : Bytes) (q v : Nat) (h1 : q ≤ v) (h2 : v ≤ c.length) :
    ∃ u, (if v > q then slice c q v else pure []) = .ok u := by
  split
  · exact ⟨_, slice_ok h1 h2⟩
  · exact ⟨_, rfl⟩

/-- An optional field `c[q:v]` of the WebC2 setting: validate checks the bounds `g` always, build only
when the field is not empty (an empty field passes the check), and then reads it. -/
theorem agree_optSlice {α β} {R : α → β → Prop} {c : Bytes} {q v : Nat} {g : Prop} [Decidable g]
    {l l' : String} {x : M α} {f : Bytes → M β} (hg : ¬g → q ≤ v ∧ v ≤ c.length) (hq : g → v > q)
    (h : ¬g → ∀ u, Agree R x (f u)) :
    Agree R (if g then inv l else x)
      ((if v > q then (if g then inv l' else slice c q v) else pure []) >>= f) := by
  by_cases hG : g
  · rw [if_pos hG, if_pos (hq hG), if_pos hG]; trivial
  · rw [if_neg hG, if_neg hG]
    split
    · rw [slice_ok (hg hG).1 (hg hG).2]; exact h hG _
    · exact h hG _

section
variable {c : Bytes} {i n : Nat}

theorem wc2Hdr_agree (hn : n ≤ c.length) : ∀ f v q j acc, 1 ≤ f → (n + 1 ≤ f + v ∨ n ≤ v) →
    Agree (fun _ _ => True) (vWC2Hdr c i n f v q j) (bWC2Hdr c i n f v q j acc) := by
  intro f
  induction f with
  | zero => intro v q j acc h; omega
  | succ f ih =>
    intro v q j acc _ hfv
    unfold vWC2Hdr bWC2Hdr
    split
    · refine agree_if fun h2 => ?_
      rw [rd_ok (by omega), rd_ok (by omega)]
      simp only [ok_bind]
      refine agree_if_iff (by omega) fun h3 => ?_
      rw [slice_ok (by omega) (by omega), slice_ok (by omega) (by omega)]
      apply ih <;> omega
    · trivial

theorem dns_agree (hn : n ≤ c.length) : ∀ x v e acc,
    Agree (fun _ _ => True) (vDNS c i n x v e) (bDNS c i n x v e acc) := by
  intro x
  induction x with
  | zero => intro v e acc; trivial
  | succ x ih =>
    intro v e acc
    unfold vDNS bDNS
    split
    · rw [rd_ok (by omega)]
      simp only [ok_bind]
      refine agree_if fun h2 => ?_
      rw [slice_ok (by omega) (by omega)]
      exact ih _ _ _
    · trivial

theorem host_agree (hn : n ≤ c.length) : Agree (fun _ _ => True) (vHost c i n) (bHost c i n) := by
  unfold vHost bHost
  refine agree_if fun h => ?_
  rw [rd16_ok (by omega)]
  simp only [ok_bind]
  refine agree_if fun h2 => ?_
  rw [slice_ok (by omega) (by omega)]; trivial

theorem workHours_agree (hn : n ≤ c.length) : Agree (fun _ _ => True) (vWorkHours c i n) (bWorkHours c i n) := by
  unfold vWorkHours bWorkHours
  refine agree_if fun h => ?_
  rw [rd_ok (by omega : i + 2 < c.length), rd_ok (by omega : i + 3 < c.length),
    rd_ok (by omega : i + 4 < c.length), rd_ok (by omega : i + 5 < c.length)]
  simp only [ok_bind]
  refine agree_if fun _ => ?_
  rw [rd_ok (by omega)]; trivial

theorem ip_agree (hn : n ≤ c.length) : Agree (fun _ _ => True) (vIP c i n) (bIP c i n) := by
  unfold vIP bIP
  refine agree_if fun h => ?_
  rw [rd_ok (by omega)]
  exact agree_if fun _ => trivial

theorem wc2_agree (hn : n ≤ c.length) : Agree (fun _ _ => True) (vWC2 c i n) (bWC2 c i n) := by
  unfold vWC2 bWC2
  refine agree_if fun h => ?_
  rw [rd16_ok (by omega), rd16_ok (by omega), rd16_ok (by omega), rd_ok (by omega)]
  simp only [ok_bind]
  refine agree_if fun h1 => ?_
  obtain ⟨url, hu⟩ := optSlice_ok c (i + 8) (rdv16 c (i + 1) + i + 8) (by omega) (by omega)
  rw [hu, ok_bind]
  refine agree_optSlice (fun h => by omega) (fun h => by omega) fun h2 host => ?_
  refine agree_optSlice (fun h => by omega) (fun h => by omega) fun h3 agent => ?_
  split
  · exact (wc2Hdr_agree hn _ _ _ _ [] (by omega) (by omega)).bind_pure _
  · trivial

theorem muTLS_agree (hn : n ≤ c.length) : Agree (fun _ _ => True) (vMuTLS c i n) (bMuTLS allTrue c i n) := by
  unfold vMuTLS bMuTLS
  refine agree_if fun h => ?_
  rw [rd16_ok (by omega), rd16_ok (by omega), rd16_ok (by omega)]
  simp only [ok_bind]
  refine agree_if fun _ => ?_
  rw [rd_ok (by omega), slice_ok (by omega) (by omega), slice_ok (by omega) (by omega),
    slice_ok (by omega) (by omega)]
  trivial

theorem tlsxCA_agree (hn : n ≤ c.length) : Agree (fun _ _ => True) (vTLSxCA c i n) (bTLSxCA allTrue c i n) := by
  unfold vTLSxCA bTLSxCA
  refine agree_if fun h => ?_
  rw [rd16_ok (by omega)]
  simp only [ok_bind]
  refine agree_if fun _ => ?_
  rw [rd_ok (by omega), slice_ok (by omega) (by omega)]
  trivial

theorem tlsCert_agree (hn : n ≤ c.length) : Agree (fun _ _ => True) (vTLSCert c i n) (bTLSCert allTrue c i n) := by
  unfold vTLSCert bTLSCert
  refine agree_if fun h => ?_
  rw [rd16_ok (by omega), rd16_ok (by omega)]
  simp only [ok_bind]
  refine agree_if fun _ => ?_
  rw [rd_ok (by omega), slice_ok (by omega) (by omega), slice_ok (by omega) (by omega)]
  trivial

theorem xor_agree (hn : n ≤ c.length) : Agree (fun _ _ => True) (vXOR c i n) (bXOR c i n) := by
  unfold vXOR bXOR
  refine agree_if fun h => ?_
  rw [rd16_ok (by omega)]
  simp only [ok_bind]
  refine agree_if fun h2 => ?_
  rw [slice_ok (by omega) (by omega)]; trivial

/-- AES: validate's explicit size rule is the size rule of `crypto.NewAes` + `wrapper.NewBlock`; where
Build fails with the constructors' error (class `ext`), validate says "invalid". -/
theorem aes_agree (hn : n ≤ c.length) : Agree (fun _ _ => True) (vAES c i n) (bAES c i n) := by
  unfold vAES bAES
  refine agree_if fun h => ?_
  rw [rd_ok (by omega : i + 1 < c.length), rd_ok (by omega : i + 2 < c.length)]
  simp only [ok_bind]
  refine agree_if_iff (by omega) fun h1 => ?_
  obtain ⟨key, hk, hkl⟩ := slice_ok_len c (i + 3) (rdv c (i + 1) + i + 3) (by omega) (by omega)
  obtain ⟨iv, hv, hvl⟩ := slice_ok_len c (rdv c (i + 1) + i + 3)
    (rdv c (i + 2) + (rdv c (i + 1) + i + 3)) (by omega) (by omega)
  rw [hk, hv]
  simp only [ok_bind]
  rw [hkl, hvl]
  exact agree_if fun _ => agree_if fun _ => trivial

theorem dnsArm_agree (hn : n ≤ c.length) : Agree (fun _ _ => True) (vDNSArm c i n) (bDNSArm c i n) := by
  unfold vDNSArm bDNSArm
  refine agree_if fun h => ?_
  rw [rd_ok (by omega)]
  simp only [ok_bind]
  exact (dns_agree hn _ _ _ []).bind_pure _

end

def flags (P : Profile) : Bool × Bool := (P.conn.isSome, P.trans.isSome)

/-- validate's two flags are "a connector is set" / "a transform is set" of build's profile -/
def FlagsOf (pt : Bool × Bool) (Pz : Profile × Nat) : Prop := pt = flags Pz.1

theorem case_agree (c : Bytes) (i n tag : Nat) (P : Profile) (z : Nat) (hn : n ≤ c.length) :
    Agree FlagsOf (vcase c i n tag (flags P).1 (flags P).2) (bcase allTrue c i n tag P z) := by
  by_cases h : tag = tInvalid
  · subst h; rw [vcase_Invalid, bcase_Invalid]; trivial
  by_cases h : tag = tHost
  · subst h; rw [vcase_Host, bcase_Host]
    exact (host_agree hn).arm fun _ => rfl
  by_cases h : tag = tSleep
  · subst h; rw [vcase_Sleep, bcase_Sleep]; unfold bSleep
    refine agree_if_bind fun h8 => ?_
    obtain ⟨u, hu⟩ := rd64_ok c i (by omega)
    rw [hu]; exact agree_pure rfl
  by_cases h : tag = tKeyPin
  · subst h; rw [vcase_KeyPin, bcase_KeyPin]
    refine agree_if fun h8 => ?_
    obtain ⟨u, hu⟩ := rd32_ok c i (by omega)
    rw [hu]; exact agree_pure rfl
  by_cases h : tag = tJitter
  · subst h; rw [vcase_Jitter, bcase_Jitter]
    exact agree_if fun h8 => by rw [rd_ok (by omega)]; exact agree_pure rfl
  by_cases h : tag = tWeight
  · subst h; rw [vcase_Weight, bcase_Weight]
    exact agree_if fun h8 => by rw [rd_ok (by omega)]; exact agree_pure rfl
  by_cases h : tag = tSelPercent
  · subst h; rw [vcase_SelPercent, bcase_SelPercent]
    exact agree_if fun _ => agree_pure rfl
  by_cases h : tag = tSelPercentRR
  · subst h; rw [vcase_SelPercentRR, bcase_SelPercentRR]
    exact agree_if fun _ => agree_pure rfl
  by_cases h : tag = tKillDate
  · subst h; rw [vcase_KillDate, bcase_KillDate]
    refine agree_if fun h8 => ?_
    obtain ⟨u, hu⟩ := rd64_ok c i (by omega)
    rw [hu]; exact agree_pure rfl
  by_cases h : tag = tWorkHours
  · subst h; rw [vcase_WorkHours, bcase_WorkHours]
    exact (workHours_agree hn).arm fun _ => rfl
  by_cases h : selTags.contains tag = true
  · rw [vcase_sel _ _ _ _ _ _ h, bcase_sel _ _ _ _ _ _ _ h]; exact agree_pure rfl
  by_cases h : connTags.contains tag = true
  · rw [vcase_conn _ _ _ _ _ _ h, bcase_conn _ _ _ _ _ _ _ h]
    exact agree_if fun _ => agree_pure rfl
  by_cases h : tag = tIP
  · subst h; rw [vcase_IP, bcase_IP]
    exact agree_if fun _ => (ip_agree hn).arm fun _ => rfl
  by_cases h : tag = tWC2
  · subst h; rw [vcase_WC2, bcase_WC2]
    exact agree_if fun _ => (wc2_agree hn).arm fun _ => rfl
  by_cases h : tag = tTLSx
  · subst h; rw [vcase_TLSx, bcase_TLSx]; unfold bTLSx
    refine agree_if fun _ => agree_if_bind fun h8 => ?_
    rw [rd_ok (by omega)]
    simp only [ok_bind]
    rw [if_pos (show allTrue [] [] [] = true from rfl)]; exact agree_pure rfl
  by_cases h : tag = tMuTLS
  · subst h; rw [vcase_MuTLS, bcase_MuTLS]
    exact agree_if fun _ => (muTLS_agree hn).arm fun _ => rfl
  by_cases h : tag = tTLSxCA
  · subst h; rw [vcase_TLSxCA, bcase_TLSxCA]
    exact agree_if fun _ => (tlsxCA_agree hn).arm fun _ => rfl
  by_cases h : tag = tTLSCert
  · subst h; rw [vcase_TLSCert, bcase_TLSCert]
    exact agree_if fun _ => (tlsCert_agree hn).arm fun _ => rfl
  by_cases h : wrapTags.contains tag = true
  · rw [vcase_wrap _ _ _ _ _ _ h, bcase_wrap _ _ _ _ _ _ _ h]; exact agree_pure rfl
  by_cases h : tag = tXOR
  · subst h; rw [vcase_XOR, bcase_XOR]
    exact (xor_agree hn).arm fun _ => rfl
  by_cases h : tag = tCBK
  · subst h; rw [vcase_CBK, bcase_CBK]; unfold bCBK
    refine agree_if_bind fun h8 => ?_
    rw [rd_ok (by omega : i + 2 < c.length), rd_ok (by omega : i + 3 < c.length),
      rd_ok (by omega : i + 4 < c.length), rd_ok (by omega : i + 5 < c.length),
      rd_ok (by omega : i + 1 < c.length)]
    exact agree_pure rfl
  by_cases h : tag = tAES
  · subst h; rw [vcase_AES, bcase_AES]
    exact (aes_agree hn).arm fun _ => rfl
  by_cases h : tag = tB64T
  · subst h; rw [vcase_B64T, bcase_B64T]
    exact agree_if fun _ => agree_pure rfl
  by_cases h : tag = tDNS
  · subst h; rw [vcase_DNS, bcase_DNS]
    exact agree_if fun _ => (dnsArm_agree hn).arm fun _ => rfl
  by_cases h : tag = tB64Shift
  · subst h; rw [vcase_B64Shift, bcase_B64Shift]
    exact agree_if fun _ => agree_if fun h8 => by rw [rd_ok (by omega)]; exact agree_pure rfl
  -- any other byte: both reject
  unfold vcase bcase
  simp only [*, or_self, if_false]
  trivial

/-- `validate(x)` and `build(x)` run together: neither panics nor runs out of fuel, both return the
same end offset (past `i` if the loop is entered) or both return an error. -/
theorem loop_agree (c : Bytes) : ∀ f i n P z, 1 ≤ f → (n < c.length → c.length + 1 ≤ f + n) → n ≤ i →
    (n < c.length → i < c.length) →
    Agree (fun r x => r = x.2.1 ∧ (n < c.length → i < r) ∧ n ≤ r)
      (vloop c f i n (flags P).1 (flags P).2) (bloop allTrue c f i n P z) := by
  intro f
  induction f with
  | zero => intro i n P z h; omega
  | succ f ih =>
    intro i n P z _ hf hni hi
    unfold vloop bloop
    by_cases hlt : n < c.length
    · obtain ⟨n', hs, h1, h2⟩ := stride_ok c i (hi hlt)
      rw [if_pos hlt, if_pos hlt, hs, rd_ok (hi hlt)]
      simp only [ok_bind]
      split
      · exact agree_pure ⟨rfl, fun _ => h1, by omega⟩
      · exact (case_agree c i n' _ P z h2).bind fun _ ⟨P', z'⟩ h => by
          subst h
          exact (ih n' n' P' z' (by omega) (by omega) (by omega) id).mono fun _ _ hr =>
            ⟨hr.1, fun _ => by omega, by omega⟩
    · rw [if_neg hlt, if_neg hlt]; exact agree_pure ⟨rfl, fun h => absurd h hlt, Nat.le_refl n⟩

theorem at_agree (c : Bytes) (x : Nat) (hx : x < c.length) :
    Agree (fun r y => r = y.2.1 ∧ x < r) (validateAt c x) (buildAt allTrue c x) :=
  (loop_agree c _ x 0 {} 0 (by omega) (by omega) (by omega) (fun _ => hx)).mono fun _ _ hr =>
    ⟨hr.1, hr.2.1 (by omega)⟩

theorem outer_agree (c : Bytes) : ∀ f i e g, 1 ≤ f → (i < c.length → c.length + 1 ≤ f + i) →
    Agree (fun _ _ => True) (validateLoop c f i) (buildLoop allTrue c f i e g) := by
  intro f
  induction f with
  | zero => intro i e g h; omega
  | succ f ih =>
    intro i e g _ hf
    unfold buildLoop validateLoop
    by_cases hlt : i < c.length
    · rw [if_pos hlt, if_pos hlt]
      refine (at_agree c i hlt).bind fun _ ⟨v, n, s⟩ h => ?_
      obtain ⟨rfl, hin⟩ := h
      rw [rd_ok hlt]
      simp only [ok_bind]
      split <;> exact ih _ _ _ (by omega) (by omega)
    · rw [if_neg hlt, if_neg hlt]; trivial

/-- the outer loops of `Validate` and `Build` as these enter them -/
theorem outer_agree_entry (c : Bytes) :
    Agree (fun _ _ => True) (validateLoop c (c.length + 1) 0) (buildLoop allTrue c (c.length + 1) 0 [] 0) :=
  outer_agree c _ 0 [] 0 (by omega) (by omega)

theorem validate_iff_build_allTrue (c : Bytes) :
    validate c = .ok () ↔ ∃ b, build allTrue c = .ok b := by
  unfold validate build
  split
  · exact ⟨fun _ => ⟨_, rfl⟩, fun _ => rfl⟩
  have ho := (outer_agree_entry c).ok_iff
  constructor
  · intro hv
    obtain ⟨⟨e, g⟩, hb⟩ := ho.mp ⟨_, hv⟩
    rw [hb]; simp only [ok_bind]
    split <;> exact ⟨_, rfl⟩
  · rintro ⟨b, hb⟩
    cases hl : buildLoop allTrue c (c.length + 1) 0 [] 0 with
    | error e => rw [hl] at hb; cases hb
    | ok r => obtain ⟨⟨⟩, hv⟩ := ho.mpr ⟨r, hl⟩; exact hv

def IsExt {α} (x : M α) : Prop := ∃ l, x = .error (.err l .ext)

theorem tls_or_ext_ite {α} {p : Prop} [Decidable p] {a b a' b' : M α} (ha : a = a' ∨ IsExt a)
    (hb : b = b' ∨ IsExt b) : (if p then a else b) = (if p then a' else b') ∨ IsExt (if p then a else b) := by
  split <;> assumption

theorem ite_tls {α} {p : Prop} [Decidable p] {a b b' : M α} (h : b = b' ∨ IsExt b) :
    (if p then a else b) = (if p then a else b') ∨ IsExt (if p then a else b) :=
  tls_or_ext_ite (.inl rfl) h

theorem IsExt.bind {α β} {x : M α} (h : IsExt x) (f : α → M β) : IsExt (x >>= f) := by
  obtain ⟨l, rfl⟩ := h; exact ⟨l, rfl⟩

theorem bind_tls_of {α β} {x x' : M α} {f g : α → M β} (hx : x = x' ∨ IsExt x)
    (h : ∀ a, f a = g a ∨ IsExt (f a)) : (x >>= f) = (x' >>= g) ∨ IsExt (x >>= f) := by
  rcases hx with rfl | hx
  · cases x with
    | error e => left; rfl
    | ok a => exact h a
  · right; exact hx.bind f

theorem bind_tls {α β} {x : M α} {f g : α → M β} (h : ∀ a, f a = g a ∨ IsExt (f a)) :
    (x >>= f) = (x >>= g) ∨ IsExt (x >>= f) :=
  bind_tls_of (.inl rfl) h

/-- The last step of a TLS arm; the right side is that step under `allTrue`, whose test reduces to
`true = true`. -/
theorem tls_final {α} (t : Bool) (a : α) (l : String) :
    (if t = true then (pure a : M α) else extErr l) = (if true = true then pure a else extErr l) ∨
      IsExt (if t = true then (pure a : M α) else extErr l) := by
  cases t
  · right; exact ⟨_, rfl⟩
  · left; rfl

theorem bTLSx_tls (tls) (c : Bytes) (i n : Nat) :
    bTLSx tls c i n = bTLSx allTrue c i n ∨ IsExt (bTLSx tls c i n) := by
  unfold bTLSx
  exact ite_tls (bind_tls fun ver => tls_final _ _ _)

theorem bMuTLS_tls (tls) (c : Bytes) (i n : Nat) :
    bMuTLS tls c i n = bMuTLS allTrue c i n ∨ IsExt (bMuTLS tls c i n) := by
  unfold bMuTLS
  exact ite_tls (bind_tls fun l1 => bind_tls fun l2 => bind_tls fun l3 => ite_tls
    (bind_tls fun ver => bind_tls fun ca => bind_tls fun pem => bind_tls fun key => tls_final _ _ _))

theorem bTLSxCA_tls (tls) (c : Bytes) (i n : Nat) :
    bTLSxCA tls c i n = bTLSxCA allTrue c i n ∨ IsExt (bTLSxCA tls c i n) := by
  unfold bTLSxCA
  exact ite_tls (bind_tls fun l => ite_tls (bind_tls fun ver => bind_tls fun ca => tls_final _ _ _))

theorem bTLSCert_tls (tls) (c : Bytes) (i n : Nat) :
    bTLSCert tls c i n = bTLSCert allTrue c i n ∨ IsExt (bTLSCert tls c i n) := by
  unfold bTLSCert
  exact ite_tls (bind_tls fun l1 => bind_tls fun l2 => ite_tls
    (bind_tls fun ver => bind_tls fun pem => bind_tls fun key => tls_final _ _ _))

theorem bcase_tls (tls) (c : Bytes) (i n tag : Nat) (P : Profile) (z : Nat) :
    bcase tls c i n tag P z = bcase allTrue c i n tag P z ∨ IsExt (bcase tls c i n tag P z) := by
  by_cases h1 : tag = tTLSx
  · subst h1; rw [bcase_TLSx, bcase_TLSx]; exact ite_tls (bind_tls_of (bTLSx_tls tls c i n) fun _ => .inl rfl)
  by_cases h2 : tag = tMuTLS
  · subst h2; rw [bcase_MuTLS, bcase_MuTLS]; exact ite_tls (bind_tls_of (bMuTLS_tls tls c i n) fun _ => .inl rfl)
  by_cases h3 : tag = tTLSxCA
  · subst h3; rw [bcase_TLSxCA, bcase_TLSxCA]; exact ite_tls (bind_tls_of (bTLSxCA_tls tls c i n) fun _ => .inl rfl)
  by_cases h4 : tag = tTLSCert
  · subst h4; rw [bcase_TLSCert, bcase_TLSCert]; exact ite_tls (bind_tls_of (bTLSCert_tls tls c i n) fun _ => .inl rfl)
  left
  unfold bcase
  simp only [if_neg h1, if_neg h2, if_neg h3, if_neg h4]

theorem bloop_tls (tls) (c : Bytes) : ∀ f i n P z,
    bloop tls c f i n P z = bloop allTrue c f i n P z ∨ IsExt (bloop tls c f i n P z) := by
  intro f
  induction f with
  | zero => intro i n P z; left; rfl
  | succ f ih =>
    intro i n P z
    unfold bloop
    exact tls_or_ext_ite (bind_tls fun n' => bind_tls fun tag => ite_tls
      (bind_tls_of (bcase_tls tls c i n' tag P z) fun ⟨_, _⟩ => ih _ _ _ _)) (.inl rfl)

theorem buildAt_tls (tls) (c : Bytes) (x : Nat) :
    buildAt tls c x = buildAt allTrue c x ∨ IsExt (buildAt tls c x) :=
  bloop_tls tls c _ _ _ _ _

theorem buildLoop_tls (tls) (c : Bytes) : ∀ f i e g,
    buildLoop tls c f i e g = buildLoop allTrue c f i e g ∨ IsExt (buildLoop tls c f i e g) := by
  intro f
  induction f with
  | zero => intro i e g; left; rfl
  | succ f ih =>
    intro i e g
    unfold buildLoop
    exact tls_or_ext_ite (bind_tls_of (buildAt_tls tls c i) fun ⟨_, _, _⟩ => bind_tls fun t =>
      tls_or_ext_ite (ih _ _ _) (ih _ _ _)) (.inl rfl)

/-- Whatever `com.NewTLSConfig` says about the PEM blocks, Build either behaves as if they had been
accepted, or fails with an error of the external constructor. -/
theorem build_tls (tls) (c : Bytes) : build tls c = build allTrue c ∨ IsExt (build tls c) := by
  unfold build
  exact ite_tls (bind_tls_of (buildLoop_tls tls c _ _ _ _) fun _ => .inl rfl)

theorem validate_of_build {tls : Bytes → Bytes → Bytes → Bool} {c : Bytes} {b : Option Built}
    (hb : build tls c = .ok b) : validate c = .ok () := by
  rcases build_tls tls c with h | ⟨l, h⟩
  · exact (validate_iff_build_allTrue c).mpr ⟨b, h ▸ hb⟩
  · rw [hb] at h; cases h

theorem build_of_validate (tls : Bytes → Bytes → Bytes → Bool) {c : Bytes} (hv : validate c = .ok ()) :
    (∃ b, build tls c = .ok b) ∨ IsExt (build tls c) := by
  obtain ⟨b, hb⟩ := (validate_iff_build_allTrue c).mp hv
  exact (build_tls tls c).imp (fun h => ⟨b, h.trans hb⟩) id

end XMT.Cfg

