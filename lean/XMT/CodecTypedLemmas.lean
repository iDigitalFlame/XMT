/-
  Lemmas for XMT.CodecTyped: Go's integer conversions round-trip; a Go-level writer is the primitive
  writer after the cast (`lower`), a Go-level reader the primitive reader followed by the cast back
  (`decG_eq`), and the cast back undoes the cast on every value the Go type holds (`cast_lower`). That
  lifts the round trip / truncation theorems of CodecRoundtrip to Go-level values,
  generic over a lawful reader. Then the pointer readers and `ReadStringList` into a used destination.
-/
import XMT.CodecTyped
import XMT.CodecRoundtrip

namespace XMT.Codec

/-- Go's `intW(uintV(n)) = n` for every `n` of the signed `w`-bit type, through any unsigned type at
least as wide. -/
theorem toS_toU {w v : Nat} (hw : 0 < w) (hv : w ≤ v) (n : Int) (h : fitsS w n) :
    toS w (toU v n) = n := by
  -- the low `w` bits of `uintV(n)` are `n mod 2^w` …
  have hd : (2 : Int) ^ w ∣ 2 ^ v := ⟨2 ^ (v - w), by rw [← Int.pow_add, Nat.add_sub_cancel' hv]⟩
  have hm : ((toU v n % 2 ^ w : Nat) : Int) = n % 2 ^ w := by
    rw [toU, Int.natCast_emod, Int.natCast_pow,
      Int.toNat_of_nonneg (Int.emod_nonneg _ (Int.ne_of_gt (Int.pow_pos (by decide))))]
    exact Int.emod_emod_of_dvd n hd
  -- … and `n mod 2^w` is `n` or `n + 2^w`, by the sign of `n`
  have h2 : 2 ^ w = 2 * 2 ^ (w - 1) := by
    rw [← Nat.pow_succ', Nat.succ_eq_add_one, Nat.sub_add_cancel hw]
  have hH : (0 : Nat) < 2 ^ (w - 1) := Nat.two_pow_pos _
  unfold fitsS at h
  unfold toS
  rw [show ((2 : Int) ^ w) = ((2 ^ w : Nat) : Int) by simp] at hm ⊢
  rw [show ((2 : Int) ^ (w - 1)) = ((2 ^ (w - 1) : Nat) : Int) by simp] at h
  rw [h2] at hm ⊢
  generalize toU v n % (2 * 2 ^ (w - 1)) = m at hm ⊢
  generalize 2 ^ (w - 1) = H at *
  by_cases hn : 0 ≤ n
  · rw [Int.emod_eq_of_lt hn (by omega)] at hm
    split <;> omega
  · rw [← Int.add_mul_emod_self_left n _ 1, Int.mul_one, Int.emod_eq_of_lt (by omega) (by omega)] at hm
    split <;> omega

theorem toU_lt (w : Nat) (n : Int) : toU w n < 2 ^ w := by
  have hp : (0 : Int) < 2 ^ w := Int.pow_pos (by decide)
  rw [toU, Int.toNat_lt (Int.emod_nonneg _ (Int.ne_of_gt hp))]
  simpa using Int.emod_lt_of_pos n hp

/-- `int(uint64(n)) = n` for every `int` of the platform: its width is positive and at most the 64
bits of the wire form (regenerated; closed by `decide`). -/
theorem int_cast_roundtrip (n : Int) (h : fitsS Facts.c10_intSize n) :
    toS Facts.c10_intSize (toU 64 n) = n :=
  toS_toU (by decide) (by decide) n h

theorem toS_of_lt {w v : Nat} (h : v < 2 ^ (w - 1)) : toS w v = v := by
  have : v % 2 ^ w = v := Nat.mod_eq_of_lt
    (Nat.lt_of_lt_of_le h (Nat.pow_le_pow_right (by decide) (Nat.sub_le w 1)))
  rw [toS, this, if_pos h]

theorem countInt_fits (n : Nat) (h : n < 2 ^ (Facts.c10_intSize - 1)) : countInt n = n :=
  toS_of_lt h

theorem countInt_small (n : Nat) (h : n < 2^31) : countInt n = n :=
  countInt_fits n (Nat.lt_of_lt_of_le h (Nat.pow_le_pow_right (by decide) (by decide)))

/-- The value the primitive writer is called with (`WriteInt16(n) = WriteUint16(uint16(n))`, …). -/
def GVal.lower : GVal → Val
  | .bool b => .bool b
  | .i8 n => .u8 (byteOf (toU 8 n)) | .u8 n => .u8 (byteOf n)
  | .i16 n => .u16 (toU 16 n) | .u16 n => .u16 n
  | .i32 n => .u32 (toU 32 n) | .u32 n => .u32 n
  | .i64 n => .u64 (toU 64 n) | .u64 n => .u64 n
  | .int n => .u64 (toU 64 n) | .uint n => .u64 n
  | .f32 b => .u32 b | .f64 b => .u64 b
  | .bytes b => .bytes b | .str s => .bytes s | .strs l => .strs l

theorem encGChunk_lower (g : GVal) : encGChunk g = encChunk g.lower := by
  cases g <;> rfl

theorem encGStream_lower (g : GVal) : encGStream g = encStream g.lower := by
  cases g <;> rfl

theorem encAllGChunk_cons (g : GVal) (gs : List GVal) :
    encAllGChunk (g :: gs) = encGChunk g ++ encAllGChunk gs :=
  List.flatMap_cons

theorem encAllGStream_cons (g : GVal) (gs : List GVal) :
    encAllGStream (g :: gs) = encGStream g ++ encAllGStream gs :=
  List.flatMap_cons

theorem encAllGChunk_lower (gs : List GVal) : encAllGChunk gs = encAllChunk (gs.map GVal.lower) := by
  induction gs with
  | nil => rfl
  | cons g gs ih => rw [encAllGChunk_cons, encGChunk_lower, ih]; rfl

theorem encAllGStream_lower (gs : List GVal) : encAllGStream gs = encAllStream (gs.map GVal.lower) := by
  induction gs with
  | nil => rfl
  | cons g gs ih => rw [encAllGStream_cons, encGStream_lower, ih]; rfl

/-- what fits the platform's `int` / `uint` fits 64 bits (regenerated; closed by `decide`) -/
theorem lt_of_lt_intSize {n k : Nat} (hk : k ≤ Facts.c10_intSize) (h : n < 2 ^ k) : n < 2 ^ 64 :=
  Nat.lt_of_lt_of_le h (Nat.pow_le_pow_right (by decide) (Nat.le_trans hk (by decide)))

theorem lower_WF (g : GVal) (h : g.WF) : g.lower.WF := by
  cases g with
  | i16 n | i32 n | i64 n | int n => exact toU_lt _ n
  | uint n => exact lt_of_lt_intSize (Nat.le_refl _) h
  | _ => first | exact h | trivial

/-- The primitive read behind the method of a kind … -/
def GKind.prim : GKind → Ty
  | .bool => .bool | .i8 | .u8 => .u8 | .i16 | .u16 => .u16 | .i32 | .u32 | .f32 => .u32
  | .i64 | .u64 | .int | .uint | .f64 => .u64 | .bytes | .str => .bytes | .strs => .strs

/-- … and the conversion the method applies to what that read returns (on a value of another
type, which `dec P k.prim` never returns: anything). -/
def GKind.cast : GKind → Val → GVal
  | .bool, .bool b => .bool b
  | .i8, .u8 b => .i8 (toS 8 b.toNat) | .u8, .u8 b => .u8 b.toNat
  | .i16, .u16 n => .i16 (toS 16 n) | .u16, .u16 n => .u16 n
  | .i32, .u32 n => .i32 (toS 32 n) | .u32, .u32 n => .u32 n | .f32, .u32 n => .f32 n
  | .i64, .u64 n => .i64 (toS 64 n) | .u64, .u64 n => .u64 n | .f64, .u64 n => .f64 n
  | .int, .u64 n => .int (toS Facts.c10_intSize n) | .uint, .u64 n => .uint (n % 2 ^ Facts.c10_intSize)
  | .bytes, .bytes b => .bytes b | .str, .bytes b => .str b | .strs, .strs l => .strs l
  | _, _ => .bool false

theorem lower_ty (g : GVal) : g.lower.ty = g.kind.prim := by cases g <;> rfl

/-- The reader's cast undoes the writer's, on every value the Go type can hold. -/
theorem cast_lower (g : GVal) (hg : g.WF) : g.kind.cast g.lower = g := by
  cases g with
  | i8 n =>
    have : (byteOf (toU 8 n)).toNat = toU 8 n := byteOf_toNat_of_lt (toU_lt 8 n)
    exact congrArg GVal.i8 ((congrArg (toS 8) this).trans (toS_toU (by decide) (Nat.le_refl _) n hg))
  | u8 n => exact congrArg GVal.u8 (byteOf_toNat_of_lt hg)
  | i16 n => exact congrArg GVal.i16 (toS_toU (by decide) (Nat.le_refl _) n hg)
  | i32 n => exact congrArg GVal.i32 (toS_toU (by decide) (Nat.le_refl _) n hg)
  | i64 n => exact congrArg GVal.i64 (toS_toU (by decide) (Nat.le_refl _) n hg)
  | int n => exact congrArg GVal.int (int_cast_roundtrip n hg)
  | uint n => exact congrArg GVal.uint (Nat.mod_eq_of_lt hg)
  | _ => rfl

section
variable {S : Type} {P : Prim S} {abs : S → Bytes} {inv : S → Prop}

theorem decG_eq (k : GKind) :
    decG P k = fun s => dec P k.prim s >>= fun (v, s) => pure (k.cast v, s) := by
  funext s
  cases k <;> simp only [decG, dec, GKind.prim, bind, Except.bind] <;> split <;> rfl

theorem decG_decodes (L : Lawful P abs inv) (g : GVal) (hg : g.WF) :
    Decodes abs inv (decG P g.kind) (encGChunk g) g := by
  rw [decG_eq, encGChunk_lower, ← lower_ty]
  exact (dec_decodes L g.lower (lower_WF g hg)).mapE.of_eq rfl (cast_lower g hg).symm

theorem decG_ok (L : Lawful P abs inv) (g : GVal) (hg : g.WF) :
    Reads abs inv (decG P g.kind) (encGChunk g) g :=
  (decG_decodes L g hg).reads

theorem decAllG_ok (L : Lawful P abs inv) (gs : List GVal) (hg : ∀ g ∈ gs, g.WF) :
    Reads abs inv (decAllG P (gs.map GVal.kind)) (encAllGChunk gs) gs := by
  induction gs with
  | nil => exact Reads.ret _
  | cons g gs ih =>
    intro s r hi h
    rw [encAllGChunk_cons, List.append_assoc] at h
    obtain ⟨s1, e1, a1, i1⟩ := decG_ok L g (hg g List.mem_cons_self) s _ hi h
    obtain ⟨s2, e2, a2, i2⟩ := ih (fun x hx => hg x (List.mem_cons_of_mem _ hx)) s1 r i1 a1
    exact ⟨s2, by simp only [List.map_cons, decAllG, e1, e2], a2, i2⟩

theorem decAllG_prefix_err (L : Lawful P abs inv) (gs : List GVal) (hg : ∀ g ∈ gs, g.WF) (s : S)
    (hi : inv s) (hp : abs s <+: encAllGChunk gs) (hne : abs s ≠ encAllGChunk gs) :
    ∃ e k, decAllG P (gs.map GVal.kind) s = .error (e, gs.take k) := by
  have hlt := strict_prefix_length hp hne
  clear hne
  induction gs generalizing s with
  | nil => simp [encAllGChunk] at hlt
  | cons g gs ih =>
    rw [encAllGChunk_cons] at hp hlt
    rcases strict_prefix_append hp hlt with ⟨h1, h2⟩ | ⟨p', h1, h2, h3⟩
    · obtain ⟨e, he⟩ := (decG_decodes L g (hg g List.mem_cons_self)).fails s hi h1 h2
      exact ⟨e, 0, by simp only [List.map_cons, decAllG, he, List.take_zero]⟩
    · obtain ⟨s1, e1, a1, i1⟩ := decG_ok L g (hg g List.mem_cons_self) s p' hi h1
      obtain ⟨e, k, he⟩ := ih (fun x hx => hg x (List.mem_cons_of_mem _ hx)) s1 i1
        (a1 ▸ h2) (a1 ▸ h3)
      exact ⟨e, k + 1, by simp only [List.map_cons, decAllG, e1, he, List.take_succ_cons]⟩

theorem readInto_ok (L : Lawful P abs inv) (g old : GVal) (hg : g.WF) (s : S) (r : Bytes)
    (hi : inv s) (h : abs s = encGChunk g ++ r) :
    ∃ s', readInto P g.kind old s = (g, .ok s') ∧ abs s' = r ∧ inv s' := by
  obtain ⟨s1, e1, a1, i1⟩ := decG_ok L g hg s r hi h
  exact ⟨s1, by rw [readInto, e1], a1, i1⟩

theorem readInto_prefix (L : Lawful P abs inv) (g old : GVal) (hg : g.WF) (s : S) (hi : inv s)
    (hp : abs s <+: encGChunk g) (hne : abs s ≠ encGChunk g) :
    ∃ e, readInto P g.kind old s = (old, .error e) := by
  obtain ⟨e, he⟩ := (decG_decodes L g hg).fails s hi hp (strict_prefix_length hp hne)
  exact ⟨e, by rw [readInto, he]⟩

theorem slAppend_ok (L : Lawful P abs inv) (l : List Bytes)
    (hl : ∀ b ∈ l, b.length ≤ Facts.maxSlice) (done : List Bytes) (s : S) (r : Bytes) (hi : inv s)
    (h : abs s = l.flatMap encBytesChunk ++ r) :
    ∃ s', slAppend P l.length done s = (done.reverse ++ l, .ok s') ∧ abs s' = r ∧ inv s' := by
  induction l generalizing s done with
  | nil => exact ⟨s, by simp [slAppend], h, hi⟩
  | cons b l ih =>
    rw [List.flatMap_cons, List.append_assoc] at h
    obtain ⟨s1, e1, a1, i1⟩ := decBytes_ok L b (hl b List.mem_cons_self) s _ hi h
    obtain ⟨s2, e2, a2, i2⟩ := ih (fun x hx => hl x (List.mem_cons_of_mem _ hx)) (b :: done) s1 i1 a1
    exact ⟨s2, by simp [slAppend, readStr, e1, e2], a2, i2⟩

theorem slOverwrite_ok (L : Lawful P abs inv) (l : List Bytes)
    (hl : ∀ b ∈ l, b.length ≤ Facts.maxSlice) (done old : List Bytes) (s : S) (r : Bytes)
    (hi : inv s) (h : abs s = l.flatMap encBytesChunk ++ r) :
    ∃ s', slOverwrite P l.length done old s = (done.reverse ++ l ++ old.drop l.length, .ok s') ∧
      abs s' = r ∧ inv s' := by
  induction l generalizing s done old with
  | nil => exact ⟨s, by simp [slOverwrite], h, hi⟩
  | cons b l ih =>
    rw [List.flatMap_cons, List.append_assoc] at h
    obtain ⟨s1, e1, a1, i1⟩ := decBytes_ok L b (hl b List.mem_cons_self) s _ hi h
    obtain ⟨s2, e2, a2, i2⟩ :=
      ih (fun x hx => hl x (List.mem_cons_of_mem _ hx)) (b :: done) old.tail s1 i1 a1
    refine ⟨s2, ?_, a2, i2⟩
    simp only [List.length_cons, slOverwrite, readStr, e1, e2]
    cases old <;> simp

/-- What `data.ReadStringList` leaves in a destination that held `old`. -/
def slIntoResult (old l : List Bytes) : List Bytes :=
  if l = [] then old
  else if old.length ≥ l.length then l ++ old.drop l.length
  else l

theorem decStrsInto_ok (L : Lawful P abs inv) (l old : List Bytes)
    (hl1 : l.length < 2 ^ (Facts.c10_intSize - 1)) (hl2 : ∀ b ∈ l, b.length ≤ Facts.maxSlice)
    (s : S) (r : Bytes) (hi : inv s)
    (h : abs s = encChunk (.strs l) ++ r) :
    ∃ s', decStrsInto P old s = (slIntoResult old l, .ok s') ∧ abs s' = r ∧ inv s' := by
  obtain ⟨s1, e1, a1, i1⟩ :=
    (decLen_decodes L l.length (lt_of_lt_intSize (Nat.sub_le _ 1) hl1)).reads s _ hi
      (h.trans (List.append_assoc ..))
  by_cases h0 : l = []
  · subst h0
    exact ⟨s1, by rw [decStrsInto, e1]; rfl, a1, i1⟩
  · have hn : l.length ≠ 0 := fun hh => h0 (List.length_eq_zero_iff.mp hh)
    rw [if_neg hn] at e1
    simp only [decStrsInto, e1, countInt_fits l.length hl1, Int.toNat_natCast, slIntoResult,
      if_neg h0, ge_iff_le, Int.ofNat_le]
    by_cases hge : l.length ≤ old.length
    · simpa only [if_pos hge, List.reverse_nil, List.nil_append] using
        slOverwrite_ok L l hl2 [] old s1 r i1 a1
    · simpa only [if_neg hge, List.reverse_nil, List.nil_append] using
        slAppend_ok L l hl2 [] s1 r i1 a1

end
end XMT.Codec
