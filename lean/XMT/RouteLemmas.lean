/-
  XMT.RouteLemmas — the routing model (XMT/Route.lean) acts on the Session of the device a packet
  names: the predicates on events that Props/C15.lean is stated with, lemmas about the sessions
  table, look-up and removal, and the walk through `Listener.talk` showing that every event is good.

  The walks are by `fun_cases` / `fun_induction` (`split` on the model's nested `if`s costs Lean a
  hundred times more); `case n` is the n-th exit of the definition as written in XMT/Route.lean.
  A lemma about a call takes the call's result as `h : f … = (t', e, r)`, so that the equations
  these tactics leave in the context apply to it directly (`rfl` gives the plain form).
-/
import XMT.Route
namespace XMT.Route

/-- An event that acts on a Session on behalf of a packet is *good* when the Session's device ID
equals the device ID the packet names; an event of tag resolution (`conn.resolve`: the peer
announced a 32-bit tag, the Session stored under that number was touched / drained) is good when
the Session's device satisfies `tagP` (instantiated with "the peer really serves that device", or
with `True` when only the packet-driven effects are of interest). -/
def Ev.Good (tagP : ID → Prop) : Ev → Prop
  | .touch s d => s = d
  | .key s d => s = d
  | .recv s d _ _ => s = d
  | .reg s d => s = d
  | .oneshot _ => True
  | .tagTouch s _ => tagP s
  | .tagOut _ s _ => tagP s

def AllGood (tagP : ID → Prop) (l : List Ev) : Prop := ∀ e ∈ l, e.Good tagP

/-- packet-driven effects only (tag resolution unconstrained) -/
abbrev Ev.Own (e : Ev) : Prop := e.Good (fun _ => True)
abbrev AllOwn (l : List Ev) : Prop := AllGood (fun _ => True) l

variable {tagP : ID → Prop} {hash : ID → Nat} {closing o : Bool} {t t' : Tbl} {s hs hs' : Sess} {d host : ID}
  {m : Sub} {n : Pkt} {vs : List Sub} {i x idx tag : Nat} {tags : List Nat} {c : Conn} {e : List Ev}
  {ru : Except Err Unit} {rl : Except Err (List Leaf × List Nat)} {rc : Except Err Conn} {rr : Except Err Reply}

theorem allGood_nil : AllGood tagP [] := fun _ h => nomatch h

theorem allGood_cons {e : Ev} {l : List Ev} : AllGood tagP (e :: l) ↔ e.Good tagP ∧ AllGood tagP l :=
  List.forall_mem_cons

theorem allGood_append {a b : List Ev} (ha : AllGood tagP a) (hb : AllGood tagP b) : AllGood tagP (a ++ b) :=
  fun e he => (List.mem_append.1 he).elim (ha e) (hb e)

theorem Tbl.get_cons (k : Nat) (s : Sess) (r : Tbl) (h : Nat) :
    Tbl.get ((k, s) :: r) h = if k = h then some s else Tbl.get r h := rfl

theorem Tbl.get_del (t : Tbl) (h k : Nat) :
    Tbl.get (Tbl.del t h) k = if k = h then none else Tbl.get t k := by
  induction t with
  | nil => exact (ite_self none).symm
  | cons e r ih =>
    obtain ⟨k', s⟩ := e
    by_cases hk : k' = h
    · have : Tbl.del ((k', s) :: r) h = Tbl.del r h := by simp [Tbl.del, hk]
      rw [this, ih, Tbl.get_cons, hk]
      by_cases hkh : k = h
      · simp only [hkh, if_true]
      · simp only [hkh, Ne.symm hkh, if_false]
    · have : Tbl.del ((k', s) :: r) h = (k', s) :: Tbl.del r h := by simp [Tbl.del, hk]
      rw [this, Tbl.get_cons, Tbl.get_cons, ih]
      by_cases hkk : k' = k
      · simp only [hkk, hkk ▸ hk, if_true, if_false]
      · simp only [hkk, if_false]

theorem Tbl.get_set (t : Tbl) (h k : Nat) (s : Sess) :
    Tbl.get (Tbl.set t h s) k = if k = h then some s else Tbl.get t k := by
  rw [Tbl.set, Tbl.get_cons, Tbl.get_del]
  by_cases hk : k = h
  · simp only [hk, if_true]
  · simp only [hk, Ne.symm hk, if_false]

theorem Tbl.forall_set {P : Nat → Sess → Prop}
    (h : ∀ k x, t.get k = some x → P k x) (hs : P i s) : ∀ k x, (t.set i s).get k = some x → P k x := by
  intro k x hx
  rw [Tbl.get_set] at hx
  by_cases hk : k = i
  · rw [if_pos hk] at hx; cases hx; exact hk ▸ hs
  · rw [if_neg hk] at hx; exact h k x hx

theorem Tbl.forall_del {P : Nat → Sess → Prop}
    (h : ∀ k x, t.get k = some x → P k x) : ∀ k x, (t.del i).get k = some x → P k x := by
  intro k x hx
  rw [Tbl.get_del] at hx
  by_cases hk : k = i
  · rw [if_pos hk] at hx; cases hx
  · rw [if_neg hk] at hx; exact h k x hx

theorem find_spec (hash : ID → Nat) (t : Tbl) (d : ID) :
    match find hash t d with
    | .own s => s.id = d ∧ t.get (hash d) = some s
    | .absent => t.get (hash d) = none
    | .collide => ∃ s, t.get (hash d) = some s ∧ s.id ≠ d := by
  unfold find
  cases t.get (hash d) with
  | none => rfl
  | some s =>
    dsimp only
    by_cases h : s.id = d
    · rw [show (s.id != d) = false from bne_eq_false_iff_eq.2 h]; exact ⟨h, rfl⟩
    · rw [show (s.id != d) = true from bne_iff_ne.2 h]; exact ⟨s, rfl, h⟩

theorem find_own (h : find hash t d = .own s) :
    s.id = d ∧ t.get (hash d) = some s := by
  have := find_spec hash t d; rwa [h] at this

theorem find_absent (h : find hash t d = .absent) : t.get (hash d) = none := by
  have := find_spec hash t d; rwa [h] at this

theorem find_collide {hash : ID → Nat} {t : Tbl} {d : ID} (h : find hash t d = .collide) :
    ∃ s, t.get (hash d) = some s ∧ s.id ≠ d := by
  have := find_spec hash t d; rwa [h] at this

theorem find_eq_collide (hs : t.get (hash d) = some s) (hne : s.id ≠ d) : find hash t d = .collide := by
  rw [find, hs]
  exact if_pos (bne_iff_ne.2 hne)

theorem find_ne_own (hun : ∀ k s, t.get k = some s → s.id ≠ d) (s : Sess) : find hash t d ≠ .own s :=
  fun hf => hun _ s (find_own hf).2 (find_own hf).1

theorem lookup_eq_some_iff {i : ID} :
    lookup hash t i = some s ↔ s.id = i ∧ t.get (hash i) = some s ∧ idEmpty i = false := by
  constructor
  · fun_cases lookup hash t i <;> intro h <;> cases h
    rename_i he hs hne
    exact ⟨by simpa using hne, hs, by simpa using he⟩
  · rintro ⟨hid, hs, he⟩
    simp [lookup, he, hs, hid]

/-- the keys of the table are the hashes of the (non-empty) IDs stored under them. -/
def Inv (hash : ID → Nat) (t : Tbl) : Prop := ∀ k s, t.get k = some s → hash s.id = k ∧ idEmpty s.id = false

theorem remove_keeps_other {i a : ID} (hs : t.get (hash a) = some s) (hid : s.id = a) (hne : i ≠ a) :
    (remove hash t i).get (hash a) = some s := by
  fun_cases remove hash t i
  case case1 x hx hxi =>
    rw [Tbl.get_del, if_neg, hs]
    intro hk
    rw [hk, hx] at hs
    cases hs
    exact hne (hxi.symm.trans hid)
  all_goals exact hs

theorem forall_remove {P : Nat → Sess → Prop} (i : ID) (h : ∀ k x, t.get k = some x → P k x) :
    ∀ k x, (remove hash t i).get k = some x → P k x := by
  fun_cases remove hash t i
  case case1 => exact Tbl.forall_del h
  all_goals exact h

/-- Behind the device test of `receive` the Session's ID equals the device the packet names, unless
the packet is flagged MultiDevice (which skips the test): the `key` and `recv` events are good. -/
theorem receiveSub_good (os : Option Sess) (h : receiveSub os m = (e, ru))
    (hid : os.elim True fun s => s.id = m.dev ∨ hasFlag m.flags flagMultiDevice = false) :
    AllGood tagP e := by
  revert h
  fun_cases receiveSub os m <;> rintro ⟨⟩
  all_goals simp only [allGood_cons, allGood_nil, Ev.Good, and_true]
  -- left: the `key` and the `recv` exit, behind the device test `hm`
  all_goals
    rename_i hm
    rcases hid with h | h
    · exact h
    · simpa [h] using hm

theorem receiveAll_good (h : receiveAll s x vs = (e, ru))
    (hvs : ∀ v ∈ vs, hasFlag v.flags flagMultiDevice = false) : AllGood tagP e := by
  fun_induction receiveAll s x vs generalizing e ru <;> cases h
  case case4 => exact receiveSub_good (some _) ‹_› (Or.inr (hvs _ (.head _)))
  case case5 ih =>
    exact allGood_append (receiveSub_good (some _) ‹_› (Or.inr (hvs _ (.head _))))
      (ih ‹_› fun v hv => hvs v (.tail _ hv))
  all_goals exact allGood_nil

theorem receive_good (h : receive s n = (e, ru)) (hid : s.id = n.hd.dev)
    (hin : ∀ v ∈ n.subs, hasFlag v.flags flagMultiDevice = false) : AllGood tagP e := by
  revert h
  fun_cases receive s n
  case case6 => exact fun h => receiveAll_good h hin
  all_goals rintro ⟨⟩
  all_goals simp only [allGood_cons, allGood_nil, Ev.Good, and_true]
  all_goals exact hid

theorem keyEv_good (hid : s.id = m.dev) : AllGood tagP (keyEv s m) := by
  unfold keyEv
  split
  · exact allGood_cons.2 ⟨hid, allGood_nil⟩
  · exact allGood_nil

theorem notifySub_good (h : notifySub s m = (e, ru)) (hid : s.id = m.dev) :
    AllGood tagP e := by
  cases h
  exact allGood_append (keyEv_good hid) (receiveSub_good (some s) rfl (Or.inl hid))

theorem newSess_id (n : Sub) : (newSess n).id = n.dev := by
  unfold newSess; split <;> rfl

theorem talkSub_good {so : Except Err SubOut} (h : talkSub hash closing t m o = (t', e, so)) :
    AllGood tagP e := by
  revert h
  fun_cases talkSub hash closing t m o <;> rintro ⟨⟩
  case case6 | case7 | case8 =>  -- a hello from a device without Session: registered
    have hid := newSess_id m
    exact allGood_append (allGood_cons.2 ⟨hid, allGood_cons.2 ⟨hid, allGood_nil⟩⟩)
      (receiveSub_good (some _) ‹_› (Or.inl hid))
  case case9 | case10 | case11 =>  -- the sender's own Session
    have hid := (find_own ‹_›).1
    exact allGood_append (allGood_cons.2 ⟨hid, keyEv_good hid⟩) (receiveSub_good (some _) ‹_› (Or.inl hid))
  all_goals exact allGood_nil

theorem multiLoop_good (h : multiLoop hash closing x vs hs t = (t', hs', e, rl)) :
    AllGood tagP e := by
  fun_induction multiLoop hash closing x vs hs t generalizing t' hs' e rl
  case case4 ih => exact ih h  -- a nested container is skipped
  all_goals cases h
  case case5 ih => exact allGood_append (receiveSub_good none ‹_› trivial) (ih ‹_›)  -- oneshot
  case case6 ih =>  -- an element of the host's own device
    exact allGood_append (notifySub_good ‹_› (beq_iff_eq.1 ‹_›)) (ih ‹_›)
  case case7 => exact talkSub_good ‹_›  -- an element of another device: `talkSub`, failing …
  case case8 ih => exact allGood_append (talkSub_good ‹_›) (ih ‹_›)  -- … or not
  all_goals exact allGood_nil

/-- every Session that a tag of the packet can reach belongs to the sender itself or to a device
that satisfies `tagP`. -/
def TagsOK (tagP : ID → Prop) (t : Tbl) (tags : List Nat) (host : ID) : Prop :=
  ∀ tag ∈ tags, ∀ v, t.get tag = some v → v.id = host ∨ tagP v.id

theorem tagsOK_true (t : Tbl) (tags : List Nat) (host : ID) : TagsOK (fun _ => True) t tags host :=
  fun _ _ _ _ => Or.inr trivial

theorem TagsOK.tail (h : TagsOK tagP t (tag :: tags) host) : TagsOK tagP t tags host :=
  fun g hg => h g (.tail _ hg)

/-- the Session under a tag that `conn.resolve` does not skip as the host's own -/
theorem TagsOK.head {v : Sess} (h : TagsOK tagP t (tag :: tags) host) (hv : t.get tag = some v)
    (hne : ¬(v.id == host) = true) : tagP v.id :=
  (h tag (.head _) v hv).resolve_left fun e => hne (beq_iff_eq.2 e)

theorem TagsOK.set {k : Nat} {v : Sess} (h : TagsOK tagP t tags host) (hv : k ∈ tags → v.id = host ∨ tagP v.id) :
    TagsOK tagP (t.set k v) tags host := fun tag htag x hx =>
  Tbl.forall_set (P := fun k x => k ∈ tags → x.id = host ∨ tagP x.id) (fun k x hx hk => h k hk x hx) hv tag x hx htag

/-- the table and host that `talkNew` continues with once it has registered the sender -/
theorem TagsOK.newSess {k : Nat} (h : TagsOK tagP t tags m.dev) :
    TagsOK tagP (t.set k (newSess m)) tags (newSess m).id :=
  (newSess_id m).symm ▸ h.set fun _ => .inl (newSess_id m)

theorem resolveLoop_good (h : resolveLoop host idx tags t c = (t', e, rc))
    (htag : TagsOK tagP t tags host) : AllGood tagP e := by
  fun_induction resolveLoop host idx tags t c generalizing t' e rc
  case case4 ih | case5 ih | case6 ih => exact ih h htag.tail  -- known, unused or own tag: skipped
  all_goals cases h
  case case7 ih => exact allGood_cons.2 ⟨htag.head ‹_› ‹_›, ih ‹_› htag.tail⟩  -- empty queue: touched
  case case8 ih =>  -- touched and drained
    have hp := htag.head ‹_› ‹_›
    exact allGood_cons.2 ⟨hp, allGood_cons.2 ⟨hp, ih ‹_› (htag.tail.set fun _ => .inr hp)⟩⟩
  all_goals exact allGood_nil

/-- the guard in front of `conn.resolve` is the first exit of its loop -/
theorem resolve_guard {r : Tbl × List Ev × Except Err Conn}
    (h : (if tags.isEmpty then (t, [], .ok c) else resolveLoop host 0 tags t c) = r) :
    resolveLoop host 0 tags t c = r := by
  cases tags <;> exact h

/-- no element of a same-device batch carries `FlagMultiDevice` (see the known finding
`mdflag-bypass:receive`). -/
def InnerOK (n : Pkt) : Bool :=
  hasFlag n.hd.flags flagMultiDevice || n.subs.all (fun v => !hasFlag v.flags flagMultiDevice)

theorem inner_of_InnerOK (h : InnerOK n = true) (hmd : ¬hasFlag n.hd.flags flagMultiDevice = true) :
    ∀ v ∈ n.subs, hasFlag v.flags flagMultiDevice = false := by
  simpa [InnerOK, hmd] using h

theorem process_good (h : process hash closing hs t n c = (t', hs', e, rl)) (hid : hs.id = n.hd.dev)
    (hin : InnerOK n = true) : AllGood tagP e := by
  revert h
  fun_cases process hash closing hs t n c
  case case4 | case5 =>  -- a single packet or a same-device batch
    -- the events are a bare `let` variable, which `rintro ⟨⟩` cannot substitute
    dsimp +zetaDelta only
    rintro ⟨⟩
    exact allGood_append (keyEv_good hid) (receive_good ‹_› hid (inner_of_InnerOK hin ‹_›))
  all_goals rintro ⟨⟩
  case case1 => exact allGood_nil
  case case2 | case3 => exact multiLoop_good ‹_›  -- a multi-device batch

theorem talkWith_good {ok : Bool} (h : talkWith hash closing i s ok t n = (t', e, rr))
    (hid : s.id = n.hd.dev) (hin : InnerOK n = true) (htag : TagsOK tagP t n.tags s.id) : AllGood tagP e := by
  have hk : AllGood tagP (if ok then keyEv s n.hd else []) := by
    split
    · exact keyEv_good hid
    · exact allGood_nil
  revert h
  fun_cases talkWith hash closing i s ok t n <;> rintro ⟨⟩
  case case1 => exact resolveLoop_good (resolve_guard ‹_›) htag  -- a malformed tag
  case case2 | case3 =>
    exact allGood_append (allGood_append (resolveLoop_good (resolve_guard ‹_›) htag) hk) (process_good ‹_› hid hin)

theorem talkNew_nonhello (h : (n.hd.pid == svHello) = false) :
    talkNew hash closing t n =
      (t, [], .ok { ok := false, host := none, next := [registerReply n.hd], subs := [] }) := by
  have hne : n.hd.pid ≠ svHello := by simpa using h
  simp [talkNew, h, hne]

theorem talkNew_good (h : talkNew hash closing t n = (t', e, rr)) (hin : InnerOK n = true)
    (htag : TagsOK tagP t n.tags n.hd.dev) : AllGood tagP e := by
  revert h
  fun_cases talkNew hash closing t n <;> rintro ⟨⟩
  case case4 =>  -- a hello: registered
    have hid := newSess_id n.hd
    exact allGood_append (allGood_cons.2 ⟨hid, allGood_cons.2 ⟨hid, allGood_nil⟩⟩)
      (talkWith_good ‹_› hid hin htag.newSess)
  all_goals exact allGood_nil

theorem talk_good (h : talk hash closing t n = (t', e, rr)) (hin : InnerOK n = true)
    (htag : TagsOK tagP t n.tags n.hd.dev) : AllGood tagP e := by
  revert h
  fun_cases talk hash closing t n
  case case3 | case4 => exact fun h => talkNew_good h hin htag  -- slot of another device, or free
  all_goals rintro ⟨⟩
  case case5 =>  -- the sender's own Session
    have hid := (find_own ‹_›).1
    exact allGood_append (allGood_cons.2 ⟨hid, allGood_nil⟩) (talkWith_good ‹_› hid hin (hid ▸ htag))
  all_goals exact allGood_nil

/-- the operations that `Props.C15.history_effects_only_own_partial` admits in a history: a packet handed
to `talk` must be `InnerOK`, anything else goes -/
def Op.ok : Op → Bool
  | .talk n => InnerOK n
  | _ => true

end XMT.Route
