/-
  XMT.FragMap — the `frags` map of `receive` as an association list (`Frags`).  First what holds
  of any list: a lookup after an update (`find_put`), and the frame / projection theorem over it:
  what happens to one group in any interleaving is what happens to its own fragments alone
  (`recvAll_project`; only the group's own arrivals need go through the reassembly path, the others
  may be control packets or single fragments).  Then what needs the keys of the list to be distinct
  (`keys`): a group has no entry or exactly one, and every operation acts at that place
  (`key_cases`); what an update does to the number of fragments held (`held`, `heldAt`, `held_put`);
  distinctness is kept by an update and by an arrival (`keys_put_nodup`, `keys_recvFrag_nodup`).  The
  distinct-key facts carry the namespace `FragHostile` because the statements of C02 and C04 name
  them so.
-/
import XMT.FragRecv
namespace XMT.Frag
open XMT.Flag

theorem find_cons (kv : Nat × Cluster) (fs : Frags) (g : Nat) :
    Frags.find (kv :: fs) g = if kv.1 = g then some kv.2 else fs.find g := by
  unfold Frags.find
  rw [List.find?_cons]
  by_cases h : kv.1 = g <;> simp [h]

theorem find_erase (fs : Frags) (g g' : Nat) :
    (fs.erase g).find g' = if g' = g then none else fs.find g' := by
  unfold Frags.erase Frags.find
  rw [List.find?_filter]
  split
  · rename_i h; subst h
    rw [List.find?_eq_none.mpr (by simp)]; rfl
  · rename_i h
    congr 2; funext a
    by_cases ha : a.1 = g' <;> simp [ha, h]

theorem find_set (fs : Frags) (g g' : Nat) (c : Cluster) :
    (fs.set g c).find g' = if g' = g then some c else fs.find g' := by
  unfold Frags.set Frags.find
  split
  · -- the entries of `g` replaced: keys stay, so the same entry is found
    rename_i hany
    rw [List.find?_map, Option.map_map,
      show ((fun x : Nat × Cluster => decide (x.1 = g')) ∘ fun kv => if kv.1 = g then (g, c) else kv) =
        fun x => decide (x.1 = g') from funext fun kv => by simp only [Function.comp]; split <;> simp [*]]
    cases hf : fs.find? (fun x => decide (x.1 = g')) with
    | none =>
      split
      · rename_i h; subst h
        obtain ⟨x, hx, hxg⟩ := List.any_eq_true.mp hany
        exact absurd hxg (List.find?_eq_none.mp hf x hx)
      · rfl
    | some x =>
      have hx : x.1 = g' := by simpa using List.find?_some hf
      by_cases h : g' = g <;> simp [h, hx]
  · -- a new entry at the end
    rename_i hany
    rw [List.find?_append]
    by_cases h : g' = g
    · subst h
      rw [List.find?_eq_none.mpr fun x hx hxg => hany (List.any_eq_true.mpr ⟨x, hx, hxg⟩)]; simp
    · have : ¬ g = g' := fun e => h e.symm
      simp [h, this]

theorem find_put (fs : Frags) (g g' : Nat) (c : Option Cluster) :
    (fs.put g c).find g' = if g' = g then c else fs.find g' := by
  cases c with
  | none => exact find_erase fs g g'
  | some c => exact find_set fs g g' c

/-- a fragment that goes through the reassembly path of `receive` -/
def Proper (n : Pkt) : Prop :=
  ¬ (n.id.toNat = Facts.svDrop ∨ n.id.toNat = Facts.svRegister) ∧ 2 ≤ len n.flags

theorem recvFrag_proper (fs : Frags) (n : Pkt) (h : Proper n) :
    recvFrag fs n = (fs.put (group n.flags) (recvGroup (fs.find (group n.flags)) n).1,
                     (recvGroup (fs.find (group n.flags)) n).2) := by
  have := h.2
  unfold recvFrag
  rw [if_neg h.1, if_neg (by omega), if_neg (by omega)]

/-- an arrival leaves the map alone or puts what `recvGroup` leaves for its group -/
theorem recvFrag_cases (fs : Frags) (n : Pkt) : (recvFrag fs n).1 = fs ∨
    (recvFrag fs n).1 = fs.put (group n.flags) (recvGroup (fs.find (group n.flags)) n).1 := by
  unfold recvFrag
  repeat' split
  · exact .inl rfl
  · exact .inl rfl
  · exact .inl rfl
  · exact .inr rfl

/-- an arrival acts on the entry of its own group and on no other; what arrives for another group need
not go through the reassembly path (`SvDrop`/`SvRegister` carrying FlagFrag, a count of 0 or 1) -/
theorem recvFrag_find (fs : Frags) (n : Pkt) (g : Nat) (h : group n.flags = g → Proper n) :
    (recvFrag fs n).1.find g =
      if group n.flags = g then (recvGroup (fs.find g) n).1 else fs.find g := by
  by_cases hg : group n.flags = g
  · rw [recvFrag_proper fs n (h hg), find_put, if_pos hg.symm, if_pos hg, hg]
  · rw [if_neg hg]
    rcases recvFrag_cases fs n with e | e <;> rw [e]
    rw [find_put, if_neg fun e => hg e.symm]

theorem recvFrag_out (fs : Frags) (n : Pkt) (h : Proper n) :
    (recvFrag fs n).2 = (recvGroup (fs.find (group n.flags)) n).2 := by
  rw [recvFrag_proper fs n h]

/-- the outputs of the arrivals that belong to group `g` -/
def outsOf (g : Nat) : List Pkt → List Out → List Out
  | n :: ns, o :: os => if group n.flags = g then o :: outsOf g ns os else outsOf g ns os
  | _, _ => []

theorem recvAll_project (g : Nat) : ∀ (arr : List Pkt) (fs : Frags),
    (∀ n ∈ arr, group n.flags = g → Proper n) →
    ((recvAll fs arr).1.find g = (feedGroup (fs.find g) (arr.filter (fun n => group n.flags = g))).1) ∧
    (outsOf g arr (recvAll fs arr).2 = (feedGroup (fs.find g) (arr.filter (fun n => group n.flags = g))).2)
  | [], fs, _ => ⟨rfl, rfl⟩
  | n :: ns, fs, h => by
    have hn := h n List.mem_cons_self
    have ih := recvAll_project g ns (recvFrag fs n).1 fun x hx => h x (List.mem_cons_of_mem _ hx)
    rw [recvFrag_find fs n g hn] at ih
    simp only [recvAll, outsOf, List.filter_cons, decide_eq_true_eq]
    split
    · rename_i hg
      subst hg
      rw [if_pos rfl] at ih
      exact ⟨ih.1, by rw [feedGroup, recvFrag_out fs n (hn rfl), ih.2]⟩
    · rename_i hg
      rwa [if_neg hg] at ih

end XMT.Frag

namespace XMT.FragHostile
open XMT.Frag

/-- fragments held in reassembly state -/
def held (fs : Frags) : Nat := (fs.map (fun kv => kv.2.data.length)).sum

def keys (fs : Frags) : List Nat := fs.map (·.1)

/-- fragments held for group `g` -/
def heldAt (fs : Frags) (g : Nat) : Nat := ((fs.find g).map (·.data.length)).getD 0

theorem heldAt_le (fs : Frags) (g : Nat) : heldAt fs g ≤ held fs := by
  induction fs with
  | nil => exact Nat.le_refl _
  | cons kv fs ih =>
    unfold heldAt held at ih ⊢
    rw [find_cons, List.map_cons, List.sum_cons]
    split
    · exact Nat.le_add_right _ _
    · exact Nat.le_trans ih (Nat.le_add_left _ _)

/-- a map without an entry for `g`: nothing to find, to erase or to replace -/
theorem find_filter_map_of_not_mem_keys (l : Frags) (g : Nat) (h : g ∉ keys l) :
    l.find? (fun x => decide (x.1 = g)) = none ∧ l.filter (fun x => decide (x.1 ≠ g)) = l ∧
    ∀ c : Cluster, l.map (fun kv => if kv.1 = g then (g, c) else kv) = l := by
  have hk : ∀ kv ∈ l, ¬ kv.1 = g := fun kv hm hk => h (List.mem_map.mpr ⟨kv, hm, hk⟩)
  exact ⟨List.find?_eq_none.mpr fun kv hm => by simpa using hk kv hm,
    List.filter_eq_self.mpr fun kv hm => by simpa using hk kv hm,
    fun c => (List.map_congr_left fun kv hm => if_neg (hk kv hm)).trans (List.map_id l)⟩

theorem find_none_of_not_mem_keys (fs : Frags) (g : Nat) (h : g ∉ keys fs) : fs.find g = none := by
  unfold Frags.find; rw [(find_filter_map_of_not_mem_keys fs g h).1]; rfl

/-- with distinct keys the map has no entry for `g`, or exactly one, and every operation on `g`
acts at that place -/
theorem key_cases (fs : Frags) (g : Nat) (hn : (keys fs).Nodup) :
    (g ∉ keys fs ∧ fs.find g = none ∧ fs.erase g = fs ∧ ∀ c, fs.set g c = fs ++ [(g, c)]) ∨
    ∃ l c0 r, fs = l ++ (g, c0) :: r ∧ fs.find g = some c0 ∧ fs.erase g = l ++ r ∧
      ∀ c, fs.set g c = l ++ (g, c) :: r := by
  by_cases hk : g ∈ keys fs
  · obtain ⟨⟨g', c0⟩, hm, rfl⟩ := List.mem_map.mp hk
    obtain ⟨l, r, rfl⟩ := List.append_of_mem hm
    simp only [keys, List.map_append, List.map_cons, List.nodup_append, List.nodup_cons,
      List.mem_cons, ne_eq, forall_eq_or_imp] at hn
    obtain ⟨fl, el, ml⟩ := find_filter_map_of_not_mem_keys l g' fun h => (hn.2.2 _ h).1 rfl
    obtain ⟨_, er, mr⟩ := find_filter_map_of_not_mem_keys r g' hn.2.1.1
    refine .inr ⟨l, c0, r, rfl, ?_, ?_, fun c => ?_⟩
    · simp [Frags.find, List.find?_append, fl]
    · unfold Frags.erase; rw [List.filter_append, List.filter_cons_of_neg (by simp), el, er]
    · simp [Frags.set, ml, mr]
  · obtain ⟨f, e, m⟩ := find_filter_map_of_not_mem_keys fs g hk
    refine .inl ⟨hk, find_none_of_not_mem_keys fs g hk, e, fun c => ?_⟩
    unfold Frags.set
    rw [if_neg fun ha => by simpa [f] using List.find?_isSome.mpr (List.any_eq_true.mp ha)]

theorem held_put (fs : Frags) (g : Nat) (c : Option Cluster) (hn : (keys fs).Nodup) :
    held (fs.put g c) + heldAt fs g = held fs + (c.map (·.data.length)).getD 0 := by
  unfold heldAt
  rcases key_cases fs g hn with ⟨_, hf, he, hs⟩ | ⟨l, c0, r, rfl, hf, he, hs⟩ <;>
    cases c <;> simp [Frags.put, hf, he, hs, held] <;> omega

theorem keys_put_nodup (fs : Frags) (g : Nat) (c : Option Cluster) (hn : (keys fs).Nodup) :
    (keys (fs.put g c)).Nodup := by
  cases c with
  | none => exact (List.filter_sublist.map _).nodup hn
  | some c =>
    rcases key_cases fs g hn with ⟨hk, _, _, hs⟩ | ⟨l, c0, r, rfl, _, _, hs⟩
    · simp only [Frags.put, hs, keys, List.map_append, List.map_cons, List.map_nil]
      exact List.nodup_append.mpr ⟨hn, List.pairwise_singleton _ g, fun a ha b hb => by
        rw [List.mem_singleton.mp hb]; exact fun e => hk (e ▸ ha)⟩
    · simpa only [Frags.put, hs, keys, List.map_append, List.map_cons] using hn

theorem keys_recvFrag_nodup (fs : Frags) (n : Pkt) (hn : (keys fs).Nodup) :
    (keys (recvFrag fs n).1).Nodup := by
  rcases recvFrag_cases fs n with h | h <;> rw [h]
  · exact hn
  · exact keys_put_nodup _ _ _ hn

end XMT.FragHostile
