/-
  XMT.CodecIO — the stream reader of `data/data_reader.go` over an `io.Reader` described call by
  call: every `Read` returns a piece of data, possibly nothing (`(0, nil)`, a no-progress read),
  possibly together with `io.EOF` (`(n > 0, io.EOF)`, the final bytes and the end in one call, as
  flate / cipher / HTTP body readers and `iotest.DataErrReader` do), or `(0, io.EOF)`.

  All primitive reads of the current code go through `io.ReadFull` (since fix 01c25de also the
  one-byte read), which is modelled literally (`io.ReadAtLeast` loop).
-/
import XMT.CodecLemmas

namespace XMT.Codec

/-- What one `Read` call of the underlying `io.Reader` has to offer: `data` (all of it if the
buffer is large enough, else the part that fits, the rest stays for the next call) and whether
`io.EOF` is returned together with the last of it.  `⟨[], false⟩` is a `(0, nil)` read. -/
structure Piece where
  data : Bytes
  eof : Bool
  deriving DecidableEq, Repr

abbrev IOStream := List Piece

/-- all bytes the reader will ever deliver -/
def absIO (s : IOStream) : Bytes := s.flatMap (·.data)

/-- `io.ReadFull(r, buf)`, `len(buf) = k` (`io.ReadAtLeast`: `for n < min && err == nil { nn, err
= r.Read(buf[n:]); n += nn }`).  Returns the bytes obtained and the reader afterwards; fewer than
`k` bytes mean the loop was ended by `io.EOF` (an exhausted script answers `(0, io.EOF)`).  An
`io.EOF` that arrives together with the last byte needed is dropped (`if n >= min { err = nil }`). -/
def readFullIO : IOStream → Nat → Bytes × IOStream
  | [], _ => ([], [])
  | p :: ps, k =>
    if k = 0 then ([], p :: ps)                                 -- `n < min` is false: no Read at all
    else if p.data.length ≤ k then
      if p.eof then (p.data, ps)                                -- err == io.EOF ends the loop
      else
        let r := readFullIO ps (k - p.data.length)              -- (also the `(0, nil)` read: once more)
        (p.data ++ r.1, r.2)
    else (p.data.take k, { p with data := p.data.drop k } :: ps)  -- the buffer is full

/-- `data_reader.go` over such a reader.  `Uint8` is `io.ReadFull(r.r, r.buf[0:1])`. -/
def ioPrim : Prim IOStream where
  u8 s := match readFullIO s 1 with
    | ([b0], r) => .ok (b0, r)
    | (g, _) => .error (shortErr g)
  u16 s := match readFullIO s 2 with
    | ([b0, b1], r) => .ok (ofBe16 b0 b1, r)
    | (g, _) => .error (shortErr g)
  u32 s := match readFullIO s 4 with
    | ([b0, b1, b2, b3], r) => .ok (ofBe32 b0 b1 b2 b3, r)
    | (g, _) => .error (shortErr g)
  u64 s := match readFullIO s 8 with
    | ([b0, b1, b2, b3, b4, b5, b6, b7], r) => .ok (ofBe64 b0 b1 b2 b3 b4 b5 b6 b7, r)
    | (g, _) => .error (shortErr g)
  body l s :=
    let r := readFullIO s l
    if r.1.length = l then .ok r else .error (shortErr r.1)

/-- A reader that keeps the `io.Reader` contract at its end: once a `Read` has returned `io.EOF`
no later `Read` delivers data.  (`(0, nil)` reads and EOF-with-data are allowed anywhere /
at the end.) -/
def EofOK : IOStream → Prop
  | [] => True
  | p :: ps => (p.eof = true → ∀ q ∈ ps, q.data = []) ∧ EofOK ps

instance : (s : IOStream) → Decidable (EofOK s)
  | [] => isTrue trivial
  | p :: ps =>
    have : Decidable (EofOK ps) := instDecidableEofOK ps
    by unfold EofOK; exact inferInstance

/-- The streams of `Codec.lean` (`List Bytes`, no EOF flags) as scripts. -/
def ofStream (cs : Stream) : IOStream := cs.map fun c => ⟨c, false⟩

theorem absIO_cons (p : Piece) (ps : IOStream) : absIO (p :: ps) = p.data ++ absIO ps :=
  List.flatMap_cons

theorem absIO_nil_of_all_empty (ps : IOStream) (h : ∀ q ∈ ps, q.data = []) : absIO ps = [] := by
  induction ps with
  | nil => rfl
  | cons q ps ih =>
    rw [absIO_cons, h q List.mem_cons_self, ih fun x hx => h x (List.mem_cons_of_mem _ hx)]; rfl

theorem readFullIO_cuts : Cuts (fun k s => readFullIO s k) absIO EofOK := by
  intro k s h
  induction s, k using readFullIO.induct with
  | case1 k => simp [readFullIO, absIO, EofOK]
  | case2 p ps => simp [readFullIO, h]
  | case3 p ps k hk hl he =>
    -- `io.EOF` with the last data: nothing follows
    simp only [readFullIO, if_neg hk, if_pos hl, if_pos he, absIO_cons,
      absIO_nil_of_all_empty ps (h.1 he), List.append_nil]
    exact ⟨(List.take_of_length_le hl).symm, by simp [List.drop_of_length_le hl], h.2⟩
  | case4 p ps k hk hl he ih =>
    obtain ⟨i1, i2, i3⟩ := ih h.2
    simp only [readFullIO, if_neg hk, if_pos hl, if_neg he, absIO_cons, i1, i2]
    refine ⟨?_, ?_, i3⟩
    · rw [List.take_append, List.take_of_length_le hl]
    · rw [List.drop_append, List.drop_of_length_le hl, List.nil_append]
  | case5 p ps k hk hl =>
    have h0 : k - p.data.length = 0 := by omega
    simp only [readFullIO, if_neg hk, if_neg hl, absIO_cons, List.take_append, List.drop_append, h0,
      List.take_zero, List.drop_zero, List.append_nil]
    exact ⟨trivial, trivial, h⟩

theorem io_lawful : Lawful ioPrim absIO EofOK where
  u8_ok := by
    intro s b r hi h
    obtain ⟨s', e, a, i⟩ := readFullIO_cuts.full 1 [b] hi h rfl
    exact ⟨s', by simp only [ioPrim, e], a, i⟩
  u8_err := by
    intro s hi h
    have := readFullIO_cuts.short (k := 1) hi (by simp [h])
    simp only [ioPrim]; split
    · rename_i e; simp [e] at this
    · exact ⟨_, rfl⟩
  u16_ok := by
    intro s b0 b1 r hi h
    obtain ⟨s', e, a, i⟩ := readFullIO_cuts.full 2 [b0, b1] hi h rfl
    exact ⟨s', by simp only [ioPrim, e], a, i⟩
  u16_err := by
    intro s hi h
    have := readFullIO_cuts.short hi h
    simp only [ioPrim]; split
    · rename_i e; simp [e] at this
    · exact ⟨_, rfl⟩
  u32_ok := by
    intro s b0 b1 b2 b3 r hi h
    obtain ⟨s', e, a, i⟩ := readFullIO_cuts.full 4 [b0, b1, b2, b3] hi h rfl
    exact ⟨s', by simp only [ioPrim, e], a, i⟩
  u32_err := by
    intro s hi h
    have := readFullIO_cuts.short hi h
    simp only [ioPrim]; split
    · rename_i e; simp [e] at this
    · exact ⟨_, rfl⟩
  u64_ok := by
    intro s b0 b1 b2 b3 b4 b5 b6 b7 r hi h
    obtain ⟨s', e, a, i⟩ := readFullIO_cuts.full 8 [b0, b1, b2, b3, b4, b5, b6, b7] hi h rfl
    exact ⟨s', by simp only [ioPrim, e], a, i⟩
  u64_err := by
    intro s hi h
    have := readFullIO_cuts.short hi h
    simp only [ioPrim]; split
    · rename_i e; simp [e] at this
    · exact ⟨_, rfl⟩
  body_ok := fun _ _ hi h => readFullIO_cuts.body_ok hi h
  body_err := fun _ _ hi h => readFullIO_cuts.body_err hi h

theorem ofStream_eofOK (cs : Stream) : EofOK (ofStream cs) := by
  induction cs with
  | nil => trivial
  | cons c cs ih => exact ⟨by simp, ih⟩

theorem absIO_ofStream (cs : Stream) : absIO (ofStream cs) = cs.flatten := by
  rw [absIO, ofStream, List.flatMap_map]; exact List.flatMap_id'

/-- An `io.EOF` in the middle followed by more data (a reader that breaks the contract) is outside
the theorems: the reads stop short there. -/
example : readFullIO [⟨[1], true⟩, ⟨[2], false⟩] 2 = ([1], [⟨[2], false⟩]) := by decide

end XMT.Codec
