/-
  XMT.HostBox — model of the `container` that holds a client Session's current host
  (c2/x_ews.go, build tags `ews && implant`: an in-memory XOR-wrapped byte buffer; the default
  build's c2/x_no_ews.go is a plain string whose Set/String are the identity).

      func (c *container) Set(s string) {
          if c.k[0] = 0; len(c.v) == 0 { c.v = []byte(s); return }
          if i := len(s) - len(c.v); i > 0 { c.v = append(c.v, make([]byte, i)...) }
          n := copy(c.v, s)
          c.v = c.v[:n]
      }
      func (c *container) Wrap()   { k[i] = byte(FastRand()) (16 draws); if k[0]==0 {k[0]=1}; XorOp(c.v, c.k[:]) }
      func (c *container) Unwrap() { if c.k[0] == 0 { return }; XorOp(c.v, c.k[:]) }
      func (c container) String() string { the bytes of c.v }

  `Set` is modelled with Go's slice semantics spelled out: `append` extends by `i` zero bytes, `copy`
  overwrites the first `min(len dst, len src)` bytes and returns that count, the reslice keeps `n`
  bytes.  The capacity of the backing array does not influence any of these values.
-/
import XMT.KeysXor
namespace XMT.HostBox
open XMT.Keys

structure Box where
  v : Bytes
  k : Bytes          -- the 16 byte key
  deriving Repr, DecidableEq

def keyLen : Nat := 16

def empty : Box := { v := [], k := List.replicate keyLen 0 }

/-- `k[0] = 0` -/
def clearK0 (k : Bytes) : Bytes :=
  match k with
  | [] => []
  | _ :: t => 0 :: t

/-- Go's `copy(dst, src)`: new contents of `dst` and the count. -/
def goCopy (dst src : Bytes) : Bytes × Nat :=
  let n := min dst.length src.length
  (src.take n ++ dst.drop n, n)

def set (c : Box) (s : Bytes) : Box :=
  let k := clearK0 c.k
  if c.v.length = 0 then { v := s, k := k }
  else
    let v1 := if s.length > c.v.length then c.v ++ List.replicate (s.length - c.v.length) 0 else c.v
    let (v2, n) := goCopy v1 s
    { v := v2.take n, k := k }

/-- `draws` are the 16 PRNG bytes (`byte(util.FastRand())`). -/
def wrap (c : Box) (draws : Bytes) : Box :=
  let k := match draws with
    | [] => []
    | d :: t => (if d = 0 then 1 else d) :: t
  { v := xorOp c.v k, k := k }

def unwrap (c : Box) : Box :=
  match c.k with
  | [] => c
  | k0 :: _ => if k0 = 0 then c else { c with v := xorOp c.v c.k }

def string (c : Box) : Bytes := c.v

inductive Op where
  | set (s : Bytes)
  | wrap (draws : Bytes)
  | unwrap
  deriving Repr

def step (c : Box) : Op → Box
  | .set s => set c s
  | .wrap d => wrap c d
  | .unwrap => unwrap c

/-! The connection loop's use of the container (c2/session.go `listen`): every turn does
`s.host.Unwrap()`, possibly `s.host.Set(h)` (the profile switched), `Connect(ctx, s.host.String())`,
`s.host.Wrap()` -/

structure Turn where
  newHost : Option Bytes
  draws : Bytes
  deriving Repr

/-- one turn: the new container and the host string the connector was given -/
def turn (c : Box) (t : Turn) : Box × Bytes :=
  let c1 := unwrap c
  let c2 := match t.newHost with
    | some h => set c1 h
    | none => c1
  (wrap c2 t.draws, string c2)

def observed (c : Box) : List Turn → List Bytes
  | [] => []
  | t :: ts => (turn c t).2 :: observed (turn c t).1 ts

/-- what the selector promised: the host of the last switch (or the one before the loop) -/
def expected (cur : Bytes) : List Turn → List Bytes
  | [] => []
  | t :: ts => (t.newHost.getD cur) :: expected (t.newHost.getD cur) ts

theorem set_string (c : Box) (s : Bytes) : string (set c s) = s := by
  unfold string set goCopy
  split
  · rfl
  · split
    · simp [show min (c.v.length + (s.length - c.v.length)) s.length = s.length by omega]
    · simp [show min c.v.length s.length = s.length by omega]

theorem set_k0 (c : Box) (s : Bytes) : (set c s).k = clearK0 c.k := by
  unfold set
  split <;> rfl

theorem clearK0_ne (k : Bytes) (h : k ≠ []) : clearK0 k ≠ [] := by
  cases k with
  | nil => exact absurd rfl h
  | cons a t => exact List.cons_ne_nil 0 t

theorem unwrap_after_set (c : Box) (s : Bytes) (hk : c.k ≠ []) : unwrap (set c s) = set c s := by
  unfold unwrap
  rw [set_k0]
  cases hkk : c.k with
  | nil => exact absurd hkk hk
  | cons a t => rfl

theorem unwrap_k (c : Box) : (unwrap c).k = c.k := by
  unfold unwrap
  split
  · rfl
  · split <;> rfl

theorem unwrap_wrap (c : Box) (d : Bytes) (hd : d ≠ []) : string (unwrap (wrap c d)) = string c := by
  cases d with
  | nil => exact absurd rfl hd
  | cons a t =>
    unfold unwrap wrap string
    by_cases ha : a = 0 <;> simp [ha, xorOp_involutive]

theorem turn_spec (c : Box) (t : Turn) (hd : t.draws ≠ []) :
    (turn c t).2 = t.newHost.getD (string (unwrap c)) ∧
    string (unwrap (turn c t).1) = t.newHost.getD (string (unwrap c)) := by
  unfold turn
  refine ⟨?_, (unwrap_wrap _ _ hd).trans ?_⟩ <;> cases t.newHost <;> first | rfl | exact set_string _ _

theorem observed_eq (c : Box) (ts : List Turn) (hd : ∀ t ∈ ts, t.draws ≠ []) :
    observed c ts = expected (string (unwrap c)) ts := by
  induction ts generalizing c with
  | nil => rfl
  | cons t ts ih =>
    obtain ⟨h2, h1⟩ := turn_spec c t (hd t List.mem_cons_self)
    rw [observed, expected, ih _ fun t' h => hd t' (List.mem_cons_of_mem _ h), h1, h2]

end XMT.HostBox
