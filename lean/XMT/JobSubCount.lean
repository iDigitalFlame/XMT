/-
  XMT.JobSubCount — `count` = number of keys of the pending table in every state of the sub-step
  model (also between the single writes of Cancel's locked region, where `delete` changes both at once):
  `countIs_runS`, from the `TabStep` clause of `stepOK_stepS`. `tabStep_applyC` says the same of one write
  of Cancel's region on its own: `delete` is a `TabStep`, every other write leaves table and count alone.
-/
import XMT.JobSubStep
namespace XMT.JobSub
open XMT.Job

theorem tabStep_applyC (s s' : StS) (t r : Nat) (a : CAct) (h : applyC s t r a = .ok s')
    (hin : s.table (s.jobs r).id = some r) (ha : a ≠ .delete → True) :
    (a = .delete → TabStep s.table s.count s'.table s'.count) ∧
    (a ≠ .delete → s'.table = s.table ∧ s'.count = s.count) := by
  cases a <;> simp only [applyC] at h
  case delete => cases h; exact ⟨fun _ => .inr (.inr ⟨_, _, hin, rfl, rfl⟩), fun hne => absurd rfl hne⟩
  case close =>
    split at h
    · cases h
    · cases h; exact ⟨nofun, fun _ => ⟨rfl, rfl⟩⟩
  all_goals cases h; exact ⟨nofun, fun _ => ⟨rfl, rfl⟩⟩

theorem countIs_runS (prog : List KindS) (sched : List Nat) (s : StS) (h : InvS prog s)
    (hc : CountIs s.table s.count) : CountIs (runS prog s sched).table (runS prog s sched).count :=
  countIs_foldl StS.table StS.count (fun s t h => ⟨(good_stepS prog s t h).1, (stepOK_stepS h).tabStep⟩) sched s h hc

end XMT.JobSub
