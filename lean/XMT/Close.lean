/-
  XMT.Close — executable interleaving model of the close machinery of ONE c2.Session (client side
  or server side):

    c2/session.go   close (both branches), Wake, queue, wait/listen (closing arm, connect error arm,
                    Shutdown() exit), shutdown (three guarded channel closes, Set(stateClosed),
                    Server.Remove, s.m.close(), Unlock, final close(s.ch)), next/pick (peek)
    c2/vars.go      receiveSingle(SvShutdown) (server branch: ack, Remove, ShutdownWait, close(false);
                    client branch: Closing() guard, close(false))
    c2/channel.go   chanWake
    c2/types.go     eventer.listen
    c2/server.go    Server.listen arm `case i := <-s.delSession`, Server.Remove(id, false)

  Granularity (DESIGN §4 "Concurrency"): a thread is a sequence of atomic actions, one per shared
  memory access of the Go source (load of the state word, CAS on it, store of s.peek, channel
  send / close, Lock / Unlock).  `pc` names the action a thread executes next; the pcs ARE the
  labels of the yield points that the overlay rewrites of lib/props/C16.json insert into the real
  code, so a schedule of the model is executed literally on the real goroutines.

  State predicates that read the word twice (`Closing() = Closed() || bit`) are ONE load here: the
  bits involved (closed, closing, shutdown, send/wake/recvClose) are never cleared (regenerated fact
  `c16MonotoneFlags`), so the two-load result always equals a one-load result at one of the two
  instants.

  `Cfg` selects the code variant: every repair made by a `fix:` commit is a flag whose value for
  the CURRENT tree is regenerated from the source (`cfgF`), so the theorems are about the code that
  is there now and a reverted repair leaves their `decide` obligations undischarged.
  Core only (the driver is a compiled lean_exe).
-/
import XMT.Generated.Facts
namespace XMT.Close

/-- point update of a function -/
def upd {α : Type} (f : Nat → α) (i : Nat) (v : α) : Nat → α := fun k => if k = i then v else f k

@[simp] theorem upd_same {α : Type} (f : Nat → α) (i : Nat) (v : α) : upd f i v i = v := if_pos rfl
theorem upd_apply {α : Type} (f : Nat → α) (i : Nat) (v : α) (k : Nat) :
    upd f i v k = if k = i then v else f k := rfl
theorem upd_other {α : Type} (f : Nat → α) (i : Nat) (v : α) (k : Nat) (h : k ≠ i) :
    upd f i v k = f k := if_neg h

/-- the channels of a Session that `shutdown` closes; `ev` is the client's event queue (`s.m`) -/
inductive Chan | send | wake | recv | ch | ev
deriving DecidableEq, Repr, Inhabited

/-- what a thread returned, or how it died -/
inductive Out
  | none
  | ret
  | panicClose (c : Chan)   -- close of closed channel
  | panicSend (c : Chan)    -- send on closed channel
deriving DecidableEq, Repr, Inhabited

def Out.isPanic : Out → Bool
  | .panicClose _ => true
  | .panicSend _ => true
  | _ => false

/-- pc of a finished thread -/
def fin : Nat := 99

/-- code variant -/
structure Cfg where
  client : Bool        -- client-side Session (parent == nil) or server-side
  trySet : Bool        -- close(): `if !s.state.trySet(stateClosing) { return nil }` (else: Set)
  wakeLocked : Bool    -- chanWake holds s.lock.RLock() across check and send
  evReturns : Bool     -- eventer.listen returns when its queue is closed (else: spins)
  errShutdown : Bool   -- listen's connect-error arm breaks on Shutdown() (else: on Closing())
  ackLocked : Bool     -- receiveSingle queues the SvShutdown acknowledgement under s.lock
  fuse : Bool          -- ASSUMPTION switch: check+send of Session.queue / Session.Wake is one action
deriving DecidableEq, Repr

/-- the current tree (flags regenerated from the source), check and send separate -/
def cfgF (client : Bool) : Cfg :=
  { client := client, trySet := Facts.c16CloseTrySet, wakeLocked := Facts.c16ChanWakeLocked,
    evReturns := Facts.c16EventerReturns, errShutdown := Facts.c16ListenBreakOnShutdown,
    ackLocked := Facts.c16AckLocked, fuse := false }

/-- the tree before the repairs -/
def cfgO (client : Bool) : Cfg :=
  { client := client, trySet := false, wakeLocked := false, evReturns := false, errShutdown := false,
    ackLocked := false, fuse := false }

def maxErrors : Nat := Facts.c16MaxErrors
def sendCap : Nat := Facts.c16SendCap

/-- thread-local state -/
structure Loc where
  pc : Nat := 99
  w : Bool := false            -- close(w)
  cont : Nat := 99             -- queue()/write(): where the caller continues (8 / 4 = receiveSingle, 99 = return)
  script : List Bool := []     -- listen: outcomes of the next connection attempts (true = exchange ok)
  got : Bool := false          -- next(): pick handed out the peeked packet
  sd : Bool := false           -- ghost: the thread has entered shutdown()
  out : Out := .none
deriving Inhabited

/-- thread programs -/
inductive Kind
  | close (w : Bool)           -- Session.close(w); Close() = close(true)
  | recvShutdown               -- receiveSingle(s, SvShutdown packet)
  | listen (res : List Bool)   -- the client's listen goroutine; `res` scripts the connection attempts
  | waitCh                     -- Session.Wait()
  | send                       -- Session.queue(n)
  | wake                       -- Session.Wake()
  | chanWake                   -- Session.chanWake() (conn.stop)
  | cancel                     -- the Session's context is cancelled
  | srvLoop                    -- Server.listen, arm `case i := <-s.delSession`
  | evLoop                     -- eventer.listen (client)
  | serve                      -- Session.next(): the connection handler picks the reply
deriving Repr, Inhabited, DecidableEq

/-- shared state of the Session (and the two Server fields the close path touches) -/
structure St where
  -- state word
  closing : Bool := false
  shutdown : Bool := false
  closed : Bool := false
  sendClose : Bool := false
  wakeClose : Bool := false
  recvClose : Bool := false
  canRecv : Bool := false
  shutdownWait : Bool := false
  -- fields
  hasRecv : Bool := false      -- s.recv != nil
  peek : Bool := false         -- s.peek holds the SvShutdown packet
  sendLen : Nat := 0           -- len(s.send)
  wakeLen : Nat := 0           -- len(s.wake)
  errors : Nat := 0
  ctxDone : Bool := false      -- the base context is cancelled
  ctxTmp : Bool := false       -- s.ctx was replaced by the fresh timeout context (closing arm)
  -- ghost: number of successful close() calls per channel
  sendC : Nat := 0
  wakeC : Nat := 0
  recvC : Nat := 0
  chC : Nat := 0
  evC : Nat := 0
  -- s.lock (sync.RWMutex)
  lock : Option Nat := none
  rlock : Nat → Bool := fun _ => false
  -- Server
  srvActive : Bool := true     -- Server.IsActive()
  delReq : Nat := 0            -- entries for this id pending in Server.delSession
  listed : Bool := true        -- the id is in Server.sessions
  told : Nat := 0              -- ghost: SvShutdown packets handed to the wire by this side
  loc : Nat → Loc := fun _ => {}

instance : Inhabited St := ⟨{}⟩

/-! ### helpers -/

def setLoc (s : St) (t : Nat) (l : Loc) : St := { s with loc := upd s.loc t l }

theorem setLoc_loc (s : St) (t : Nat) (l : Loc) (u : Nat) :
    (setLoc s t l).loc u = if u = t then l else s.loc u := rfl

theorem setLoc_loc_same (s : St) (t : Nat) (l : Loc) : (setLoc s t l).loc t = l := upd_same ..

theorem setLoc_loc_other (s : St) {t u : Nat} (l : Loc) (h : u ≠ t) : (setLoc s t l).loc u = s.loc u :=
  upd_other _ _ _ _ h

theorem forall_setLoc {P : Nat → Loc → Prop} {s : St} {t : Nat} {l : Loc}
    (h : ∀ u, u ≠ t → P u (s.loc u)) (ht : P t l) (u : Nat) : P u ((setLoc s t l).loc u) := by
  by_cases hu : u = t
  · rw [hu, setLoc_loc_same]; exact ht
  · rw [setLoc_loc_other _ _ hu]; exact h u hu

def goto (s : St) (t : Nat) (pc : Nat) : St := setLoc s t { s.loc t with pc := pc }
def finish (s : St) (t : Nat) : St := setLoc s t { s.loc t with pc := fin, out := .ret }
def die (s : St) (t : Nat) (o : Out) : St := setLoc s t { s.loc t with pc := fin, out := o }
def enterSd (s : St) (t : Nat) : St := setLoc s t { s.loc t with pc := 40, sd := true }

/-- return from write()/queue() to the caller -/
def ret (s : St) (t : Nat) : St := if (s.loc t).cont = fin then finish s t else goto s t (s.loc t).cont

/-- `select { case s.send <- n: default: }` -/
def sendSend (s : St) (t : Nat) : St :=
  if s.sendC > 0 then die s t (.panicSend .send)
  else
    let s' := { s with sendLen := if s.sendLen < sendCap then s.sendLen + 1 else s.sendLen }
    ret s' t

def afterWake (s : St) (t : Nat) : St := if (s.loc t).w then goto s t 28 else finish s t

/-- `select { case s.wake <- wake: default: }` in Session.Wake -/
def wakeSend (s : St) (t : Nat) : St :=
  if s.wakeC > 0 then die s t (.panicSend .wake) else afterWake { s with wakeLen := 1 } t

/-- `Server.Remove(id, false)`: `if !s.IsActive() { return }; s.delSession <- i.Hash()` -/
def removeReq (s : St) : St := { s with delReq := if s.srvActive then s.delReq + 1 else s.delReq }

/-- the packet `next` returns goes to the wire -/
def tell (s : St) (got : Bool) : St := { s with told := if got then s.told + 1 else s.told }

def noReaders (s : St) (n : Nat) : Bool := (List.range n).all (fun u => !s.rlock u)

/-- the pcs that name an action -/
def validPc (pc : Nat) : Bool :=
  [1, 2, 3, 4, 5, 6, 7, 8, 20, 21, 22, 23, 24, 25, 26, 27, 28, 40, 41, 42, 43, 44, 45, 46, 47, 48, 49,
   50, 51, 52, 53, 54, 60, 61, 62, 63, 64, 65, 66, 70, 71, 72, 73, 80, 86, 87, 88, 89, 90, 92, 94].contains pc

/-- blocking actions: a thread the model says is blocked is never released by the scheduler -/
def enabled (cfg : Cfg) (n : Nat) (s : St) (t : Nat) : Bool :=
  match (s.loc t).pc with
  | 28 => decide (s.chC > 0)                       -- `<-s.ch` in close(true)
  | 80 => decide (s.chC > 0)                       -- `<-s.ch` in Wait()
  | 40 => s.lock.isNone && noReaders s n           -- s.lock.Lock()
  | 7 => s.lock.isNone && noReaders s n            -- s.lock.Lock() in receiveSingle
  | 86 => !cfg.wakeLocked || s.lock.isNone         -- s.lock.RLock()
  | 92 => decide (s.delReq > 0)                    -- `<-s.delSession`
  | 94 => s.ctxDone || decide (s.evC > 0)          -- select { <-ctx.Done(), <-e }
  | 99 => false
  | pc => validPc pc

/-! ### the atomic actions, one definition per pc (= yield label in the instrumented code) -/

set_option linter.unusedVariables false

-- receiveSingle(SvShutdown), server branch
-- s.write(true, ack): `if s.state.Closing() || s.state.SendClosed() { return ErrClosedPipe }`
def a1 (cfg : Cfg) (s : St) (t : Nat) : St :=
  let l := s.loc t
  if s.closed || s.closing || s.sendClose then ret s t else goto s t 2

-- queue(): `if s.state.SendClosed() { return }`
def a2 (cfg : Cfg) (s : St) (t : Nat) : St :=
  let l := s.loc t
  if s.closed || s.sendClose then ret s t
  else if cfg.fuse then sendSend s t else goto s t 3

def a3 (cfg : Cfg) (s : St) (t : Nat) : St :=
  let l := s.loc t
  sendSend s t

def a4 (cfg : Cfg) (s : St) (t : Nat) : St :=
  let l := s.loc t
  goto (removeReq s) t 5                                 -- s.s.Remove(s.ID, false)

def a5 (cfg : Cfg) (s : St) (t : Nat) : St :=
  let l := s.loc t
  setLoc { s with shutdownWait := true } t { l with pc := 20, w := false }

-- receiveSingle(SvShutdown), client branch: `if s.state.Closing() { return }`
def a6 (cfg : Cfg) (s : St) (t : Nat) : St :=
  let l := s.loc t
  if s.closed || s.closing then finish s t else setLoc s t { l with pc := 20, w := false }

-- receiveSingle(SvShutdown), server branch: the lock around the acknowledgement
def a7 (cfg : Cfg) (s : St) (t : Nat) : St :=
  goto { s with lock := some t } t 1

def a8 (cfg : Cfg) (s : St) (t : Nat) : St :=
  goto { s with lock := none } t 4

-- close(w)
def a20 (cfg : Cfg) (s : St) (t : Nat) : St :=
  let l := s.loc t
  if s.closed || s.closing then finish s t else goto s t 21

def a21 (cfg : Cfg) (s : St) (t : Nat) : St :=
  let l := s.loc t
  if !cfg.client && !s.shutdownWait then goto s t 22 else goto s t 25

def a22 (cfg : Cfg) (s : St) (t : Nat) : St :=
  let l := s.loc t
  goto { s with peek := true } t 23                     -- s.peek = SvShutdown packet

def a23 (cfg : Cfg) (s : St) (t : Nat) : St :=
  let l := s.loc t
  if s.closed || s.sendClose then finish s t else goto s t 24

def a24 (cfg : Cfg) (s : St) (t : Nat) : St :=
  let l := s.loc t
  finish { s with sendLen := 0 } t                      -- for len(s.send) > 0 { <-s.send }

-- the transition to closing
def a25 (cfg : Cfg) (s : St) (t : Nat) : St :=
  let l := s.loc t
  if cfg.trySet && s.closing then finish s t
  else
    let s' := { s with closing := true }
    if cfg.client then goto s' t 26 else enterSd s' t

-- Wake(): `if ... s.state.WakeClosed() { return }`
def a26 (cfg : Cfg) (s : St) (t : Nat) : St :=
  let l := s.loc t
  if s.closed || s.wakeClose then afterWake s t
  else if cfg.fuse then wakeSend s t else goto s t 27

def a27 (cfg : Cfg) (s : St) (t : Nat) : St :=
  let l := s.loc t
  wakeSend s t

def a28 (cfg : Cfg) (s : St) (t : Nat) : St :=
  let l := s.loc t
  finish s t                                            -- <-s.ch

-- shutdown()
def a40 (cfg : Cfg) (s : St) (t : Nat) : St :=
  let l := s.loc t
  goto { s with lock := some t } t 41

def a41 (cfg : Cfg) (s : St) (t : Nat) : St :=
  let l := s.loc t
  if s.closed || s.sendClose then goto s t 44 else goto s t 42

def a42 (cfg : Cfg) (s : St) (t : Nat) : St :=
  let l := s.loc t
  goto { s with sendClose := true } t 43

def a43 (cfg : Cfg) (s : St) (t : Nat) : St :=
  let l := s.loc t
  if s.sendC > 0 then die s t (.panicClose .send) else goto { s with sendC := s.sendC + 1 } t 44

def a44 (cfg : Cfg) (s : St) (t : Nat) : St :=
  let l := s.loc t
  if s.closed || s.wakeClose then goto s t 47 else goto s t 45

def a45 (cfg : Cfg) (s : St) (t : Nat) : St :=
  let l := s.loc t
  goto { s with wakeClose := true } t 46

def a46 (cfg : Cfg) (s : St) (t : Nat) : St :=
  let l := s.loc t
  if s.wakeC > 0 then die s t (.panicClose .wake) else goto { s with wakeC := s.wakeC + 1 } t 47

-- `s.recv != nil && !s.state.CanRecv() && !s.state.RecvClosed()`
def a47 (cfg : Cfg) (s : St) (t : Nat) : St :=
  let l := s.loc t
  if s.hasRecv && !(!(s.closed || s.recvClose) && s.canRecv) && !(s.closed || s.recvClose)
  then goto s t 48 else goto s t 50

def a48 (cfg : Cfg) (s : St) (t : Nat) : St :=
  let l := s.loc t
  goto { s with recvClose := true } t 49

def a49 (cfg : Cfg) (s : St) (t : Nat) : St :=
  let l := s.loc t
  if s.recvC > 0 then die s t (.panicClose .recv) else goto { s with recvC := s.recvC + 1 } t 50

def a50 (cfg : Cfg) (s : St) (t : Nat) : St :=
  let l := s.loc t
  goto { s with closed := true } t (if cfg.client then 52 else 51)

def a51 (cfg : Cfg) (s : St) (t : Nat) : St :=
  let l := s.loc t
  goto (removeReq s) t 52                               -- s.s.Remove(s.ID, false)

-- s.m.close(): client `close(eventer)`, server `func (*Server) close() {}`
def a52 (cfg : Cfg) (s : St) (t : Nat) : St :=
  let l := s.loc t
  if cfg.client then
    (if s.evC > 0 then die s t (.panicClose .ev) else goto { s with evC := s.evC + 1 } t 53)
  else goto s t 53

def a53 (cfg : Cfg) (s : St) (t : Nat) : St :=
  let l := s.loc t
  goto { s with lock := none } t 54

def a54 (cfg : Cfg) (s : St) (t : Nat) : St :=
  let l := s.loc t
  if s.chC > 0 then die s t (.panicClose .ch) else finish { s with chC := s.chC + 1 } t

-- listen (client): wait()
def a60 (cfg : Cfg) (s : St) (t : Nat) : St :=
  let l := s.loc t
  if s.closed || s.closing then goto s t 61
  else if s.ctxDone then goto { s with closing := true } t 61
  else goto { s with wakeLen := 0 } t 61

def a61 (cfg : Cfg) (s : St) (t : Nat) : St :=
  let l := s.loc t
  if s.closed || s.closing then goto s t 62 else goto s t 64

def a62 (cfg : Cfg) (s : St) (t : Nat) : St :=
  let l := s.loc t
  goto { s with peek := true } t 63

def a63 (cfg : Cfg) (s : St) (t : Nat) : St :=
  let l := s.loc t
  goto { s with shutdown := true, ctxTmp := s.ctxTmp || s.ctxDone } t 64

-- s.p.Connect(s.ctx, …) and s.session(c)
def a64 (cfg : Cfg) (s : St) (t : Nat) : St :=
  let l := s.loc t
  let r := match l.script with | [] => true | b :: _ => b
  let rest := l.script.drop 1
  if r && !(s.ctxDone && !s.ctxTmp) then
    setLoc { tell s s.peek with errors := 0, sendLen := 0, peek := false } t { l with pc := 66, script := rest }
  else setLoc s t { l with pc := 65, script := rest }

def a65 (cfg : Cfg) (s : St) (t : Nat) : St :=
  let l := s.loc t
  if (if cfg.errShutdown then s.closed || s.shutdown else s.closed || s.closing) then enterSd s t
  else if s.errors ≤ maxErrors then goto { s with errors := s.errors + 1 } t 60
  else enterSd s t

def a66 (cfg : Cfg) (s : St) (t : Nat) : St :=
  let l := s.loc t
  if s.closed || s.shutdown then enterSd s t else goto s t 60

-- next(): pick, then nextPacket
-- pick(): `if s.peek != nil {…}`, else `if len(s.send) > 0 { return <-s.send }`
def a70 (cfg : Cfg) (s : St) (t : Nat) : St :=
  let l := s.loc t
  if s.peek then setLoc s t { l with pc := 71, got := true }
  else goto { s with sendLen := s.sendLen - 1 } t 72

def a71 (cfg : Cfg) (s : St) (t : Nat) : St :=
  let l := s.loc t
  goto { s with peek := false } t 72

def a72 (cfg : Cfg) (s : St) (t : Nat) : St :=
  let l := s.loc t
  if s.sendLen = 0 then finish (tell s l.got) t else goto s t 73

def a73 (cfg : Cfg) (s : St) (t : Nat) : St :=
  let l := s.loc t
  finish { tell s l.got with sendLen := 0, peek := false } t   -- n, s.peek = nextPacket(…)

-- Wait()
def a80 (cfg : Cfg) (s : St) (t : Nat) : St :=
  let l := s.loc t
  finish s t

-- chanWake()
def a86 (cfg : Cfg) (s : St) (t : Nat) : St :=
  let l := s.loc t
  if cfg.wakeLocked then goto { s with rlock := upd s.rlock t true } t 87 else goto s t 87

def a87 (cfg : Cfg) (s : St) (t : Nat) : St :=
  let l := s.loc t
  if s.closed || s.wakeClose || decide (s.wakeLen ≥ 1) then goto s t 89 else goto s t 88

def a88 (cfg : Cfg) (s : St) (t : Nat) : St :=
  let l := s.loc t
  if s.wakeC > 0 then die s t (.panicSend .wake) else goto { s with wakeLen := 1 } t 89

def a89 (cfg : Cfg) (s : St) (t : Nat) : St :=
  let l := s.loc t
  finish { s with rlock := if cfg.wakeLocked then upd s.rlock t false else s.rlock } t

-- context cancellation
def a90 (cfg : Cfg) (s : St) (t : Nat) : St :=
  let l := s.loc t
  finish { s with ctxDone := true } t

-- Server.listen: `case i := <-s.delSession: … delete(s.sessions, i)`
def a92 (cfg : Cfg) (s : St) (t : Nat) : St :=
  let l := s.loc t
  goto { s with delReq := s.delReq - 1, listed := false } t 92

-- eventer.listen
def a94 (cfg : Cfg) (s : St) (t : Nat) : St :=
  let l := s.loc t
  if s.ctxDone then setLoc s t { l with pc := 20, w := true }   -- s.Close()
  else if cfg.evReturns then finish s t else s

/-- one atomic action of thread `t` (assumed enabled) -/
def act (cfg : Cfg) (s : St) (t : Nat) : St :=
  match (s.loc t).pc with
  | 1 => a1 cfg s t
  | 2 => a2 cfg s t
  | 3 => a3 cfg s t
  | 4 => a4 cfg s t
  | 5 => a5 cfg s t
  | 6 => a6 cfg s t
  | 7 => a7 cfg s t
  | 8 => a8 cfg s t
  | 20 => a20 cfg s t
  | 21 => a21 cfg s t
  | 22 => a22 cfg s t
  | 23 => a23 cfg s t
  | 24 => a24 cfg s t
  | 25 => a25 cfg s t
  | 26 => a26 cfg s t
  | 27 => a27 cfg s t
  | 28 => a28 cfg s t
  | 40 => a40 cfg s t
  | 41 => a41 cfg s t
  | 42 => a42 cfg s t
  | 43 => a43 cfg s t
  | 44 => a44 cfg s t
  | 45 => a45 cfg s t
  | 46 => a46 cfg s t
  | 47 => a47 cfg s t
  | 48 => a48 cfg s t
  | 49 => a49 cfg s t
  | 50 => a50 cfg s t
  | 51 => a51 cfg s t
  | 52 => a52 cfg s t
  | 53 => a53 cfg s t
  | 54 => a54 cfg s t
  | 60 => a60 cfg s t
  | 61 => a61 cfg s t
  | 62 => a62 cfg s t
  | 63 => a63 cfg s t
  | 64 => a64 cfg s t
  | 65 => a65 cfg s t
  | 66 => a66 cfg s t
  | 70 => a70 cfg s t
  | 71 => a71 cfg s t
  | 72 => a72 cfg s t
  | 73 => a73 cfg s t
  | 80 => a80 cfg s t
  | 86 => a86 cfg s t
  | 87 => a87 cfg s t
  | 88 => a88 cfg s t
  | 89 => a89 cfg s t
  | 90 => a90 cfg s t
  | 92 => a92 cfg s t
  | 94 => a94 cfg s t
  | _ => s

/-- One schedule entry: thread `t` executes its next action (no-op when it does not exist, is
finished or is blocked). -/
def step (cfg : Cfg) (n : Nat) (s : St) (t : Nat) : St :=
  if t < n ∧ enabled cfg n s t = true then act cfg s t else s

def run (cfg : Cfg) (n : Nat) (s : St) (sched : List Nat) : St := sched.foldl (step cfg n) s

/-- where a thread of the given kind starts -/
def initLoc (cfg : Cfg) : Kind → Loc
  | .close w => { pc := 20, w := w }
  | .recvShutdown =>
    if cfg.client then { pc := 6 }
    else if cfg.ackLocked then { pc := 7, cont := 8 } else { pc := 1, cont := 4 }
  | .listen res => if cfg.client then { pc := 60, script := res } else { pc := 99, out := .ret }
  | .waitCh => { pc := 80 }
  | .send => { pc := 2, cont := 99 }
  | .wake => if cfg.client then { pc := 26 } else { pc := 99, out := .ret }
  | .chanWake => { pc := 86 }
  | .cancel => { pc := 90 }
  | .srvLoop => { pc := 92 }
  | .evLoop => if cfg.client then { pc := 94 } else { pc := 99, out := .ret }
  | .serve => { pc := 70 }

/-- a fresh, registered, live Session with `q` queued packets -/
def init (cfg : Cfg) (prog : List Kind) (hasRecv canRecv : Bool) (q : Nat) : St :=
  { hasRecv := hasRecv, canRecv := canRecv, sendLen := q,
    loc := fun t => match prog[t]? with | some k => initLoc cfg k | none => {} }

/-! ### well-formedness of a program (decidable) -/

def Kind.isListen : Kind → Bool
  | .listen _ => true
  | _ => false

def isListenAt (prog : List Kind) (t : Nat) : Bool :=
  match prog[t]? with | some k => k.isListen | none => false

/-- index of the first listen thread -/
def listenIdx (prog : List Kind) : Option Nat := (List.range prog.length).find? (isListenAt prog)

/-- a Session has at most one listen goroutine -/
def uniqueListen (prog : List Kind) : Bool :=
  (List.range prog.length).all (fun t => !isListenAt prog t || listenIdx prog == some t)

/-- … and a client Session has one -/
def hasListen (prog : List Kind) : Bool := (listenIdx prog).isSome

def hasKind (prog : List Kind) (k : Kind) : Bool := prog.contains k

/-! ### observations -/

def quiescent (cfg : Cfg) (n : Nat) (s : St) : Prop := ∀ t, t < n → enabled cfg n s t = false

/-- remaining-actions bound of one thread of a closing Session; `b` = the Shutdown flag -/
def rank (b : Bool) (pc : Nat) : Nat :=
  match pc with
  | 7 => 29 | 1 => 28 | 2 => 27 | 3 => 26 | 8 => 25 | 4 => 24 | 5 => 23 | 6 => 23
  | 20 => 22 | 21 => 21 | 22 => 3 | 23 => 2 | 24 => 1 | 25 => 20
  | 26 => 3 | 27 => 2 | 28 => 1
  | 60 => 25 | 61 => 24 | 62 => 23 | 63 => 22
  | 64 => if b then 21 else 28
  | 65 => if b then 20 else 26
  | 66 => if b then 20 else 26
  | 70 => 4 | 71 => 3 | 72 => 2 | 73 => 1
  | 80 => 1 | 86 => 4 | 87 => 3 | 88 => 2 | 89 => 1 | 90 => 1
  | 92 => 0
  | 94 => 23
  | 99 => 0
  | pc => if 40 ≤ pc ∧ pc ≤ 54 then 59 - pc else 0

def sumRank (b : Bool) (loc : Nat → Loc) : Nat → Nat
  | 0 => 0
  | n + 1 => sumRank b loc n + rank b (loc n).pc

/-- the variant: twice the remaining actions of the Session's threads plus the pending removals -/
def measure (n : Nat) (s : St) : Nat := 2 * sumRank s.shutdown s.loc n + s.delReq

/-! ### `step`, `enabled`, `validPc`, `removeReq`, `noReaders`, `isListenAt`, `init` on the forms of input the proofs meet; `run_ind` -/

variable {cfg : Cfg} {n : Nat} {s : St} {t : Nat}

theorem step_of_enabled (ht : t < n) (he : enabled cfg n s t = true) : step cfg n s t = act cfg s t :=
  if_pos ⟨ht, he⟩

theorem step_of_not_enabled (h : ¬(t < n ∧ enabled cfg n s t = true)) : step cfg n s t = s := if_neg h

theorem validPc_of_enabled (he : enabled cfg n s t = true) : validPc (s.loc t).pc = true := by
  unfold enabled at he
  split at he
  case h_8 => cases he  -- 99
  case h_9 => exact he
  all_goals (rename_i h; rw [h]; rfl)

theorem vp_6 : validPc 6 = true := by decide
theorem vp_7 : validPc 7 = true := by decide
theorem vp_70 : validPc 70 = true := by decide
theorem vp_80 : validPc 80 = true := by decide
theorem vp_86 : validPc 86 = true := by decide
theorem vp_90 : validPc 90 = true := by decide
theorem vp_94 : validPc 94 = true := by decide

theorem enabled_at_lock (h : (s.loc t).pc = 40 ∨ (s.loc t).pc = 7) :
    enabled cfg n s t = (s.lock.isNone && noReaders s n) := by
  unfold enabled
  rcases h with h | h <;> rw [h] <;> rfl

theorem enabled_at_done (h : (s.loc t).pc = 28 ∨ (s.loc t).pc = 80) : enabled cfg n s t = decide (s.chC > 0) := by
  unfold enabled
  rcases h with h | h <;> rw [h] <;> rfl

theorem enabled_at_rlock (h : (s.loc t).pc = 86) : enabled cfg n s t = (!cfg.wakeLocked || s.lock.isNone) := by
  unfold enabled
  rw [h]
  rfl

theorem enabled_at_srvLoop (h : (s.loc t).pc = 92) : enabled cfg n s t = decide (s.delReq > 0) := by
  unfold enabled
  rw [h]
  rfl

theorem enabled_at_evLoop (h : (s.loc t).pc = 94) : enabled cfg n s t = (s.ctxDone || decide (s.evC > 0)) := by
  unfold enabled
  rw [h]
  rfl

/-- the pcs at which a thread can block -/
abbrev blocking (pc : Nat) : Prop := pc = 28 ∨ pc = 80 ∨ pc = 40 ∨ pc = 7 ∨ pc = 86 ∨ pc = 92 ∨ pc = 94

theorem enabled_or_blocking (hv : validPc (s.loc t).pc = true) :
    enabled cfg n s t = true ∨ blocking (s.loc t).pc := by
  have h99 : (s.loc t).pc ≠ 99 := fun h => absurd (h ▸ hv) (by decide)
  unfold enabled
  split <;> simp_all [blocking]

theorem removeReq_le (s : St) : (removeReq s).delReq ≤ s.delReq + 1 := by
  show (if s.srvActive then s.delReq + 1 else s.delReq) ≤ _
  split <;> omega

theorem removeReq_pos (h : s.srvActive = true) : (removeReq s).delReq > 0 := by
  simp only [removeReq, h, ↓reduceIte]; omega

theorem noReaders_iff (s : St) (n : Nat) : noReaders s n = true ↔ ∀ u, u < n → s.rlock u = false := by
  simp [noReaders, List.all_eq_true]

theorem isListenAt_iff {prog : List Kind} {t : Nat} :
    isListenAt prog t = true ↔ ∃ r, prog[t]? = some (.listen r) := by
  unfold isListenAt
  cases prog[t]? with
  | none => simp
  | some k => cases k <;> simp [Kind.isListen]

theorem init_loc (cfg : Cfg) (prog : List Kind) (a b : Bool) (q t : Nat) :
    (init cfg prog a b q).loc t = match prog[t]? with | some k => initLoc cfg k | none => {} := rfl

theorem run_ind {P : St → Prop} (h : ∀ s t, t < n → enabled cfg n s t = true → P s → P (act cfg s t))
    (sched : List Nat) (hs : P s) : P (run cfg n s sched) :=
  List.foldlRecOn sched (step cfg n) hs fun s hs t _ => iteInduction (fun he => h s t he.1 he.2 hs) fun _ => hs

end XMT.Close
