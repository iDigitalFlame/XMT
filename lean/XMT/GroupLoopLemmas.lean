/-
  Lemmas about XMT/GroupLoop.lean (the connection loop composed with a multi-group profile): one turn
  is one call of the selector function (`turn_spec`), so the attempts of a session form a chain in which
  each is linked to the one before it by that call (`session_spec`); `Link.read` and the two chain lemmas
  (`plain_chain`, `chain_errs`) read selector contracts and the error budget off such a chain.
-/
import XMT.GroupLoop
import XMT.GroupLemmas
namespace XMT.GroupLoop
open XMT.Group

/-- every group names at least one host and no host is the empty string (`len(h) > 0` in listen) -/
def HostsNE (g : Group) : Prop := ∀ c ∈ g.entries, c.hosts ≠ [] ∧ [] ∉ c.hosts

instance (g : Group) : Decidable (HostsNE g) := by unfold HostsNE; infer_instance

/-- errors after an attempt that was entered with `errs` -/
def errsAfter (a : Conn) : Nat := if a.res = .ok then 0 else a.errs + 1

/-- the loop invariant: s.host / s.w / s.t are the active entry's own, the error counter is small -/
def Inv (st : St) : Prop :=
  st.g.WF ∧ st.errors ≤ maxErrors + 1 ∧
  ∃ c ∈ st.g.entries, st.g.cur = some c ∧ st.w = c.w ∧ st.t = c.t ∧ st.host ∈ c.hosts

/-- the loop stops ("Too many errors") exactly in these two situations -/
def GiveUp (cn : Conn) : Prop :=
  (cn.res = .fail ∧ cn.errs > maxErrors) ∨ (cn.res = .sessErr ∧ cn.errs + 1 > maxErrors)

theorem next_host {g : Group} (hh : HostsNE g) {c : Entry} (hc : c ∈ g.entries) (ds : List Nat) :
    ∃ h ds', c.next ds = .ok ((h, c.w, c.t), ds') ∧ h ∈ c.hosts ∧ 0 < h.length := by
  obtain ⟨h, ds', hn, hm | ⟨h0, _⟩⟩ := Entry.next_spec c ds
  · exact ⟨h, ds', hn, hm, List.length_pos_iff.mpr fun h0 => (hh c hc).2 (h0 ▸ hm)⟩
  · exact absurd h0 (hh c hc).1

theorem gNext_of_init {g g' : Group} {c : Entry} {ds ds' ds'' : List Nat} {x : Bytes × Nat × Nat}
    (hi : init g ds = .ok (g', ds')) (hc : g'.cur = some c) (hn : c.next ds' = .ok (x, ds'')) :
    gNext g ds = .ok (g', x, ds'') := by
  unfold gNext; simp only [hi, hc, hn]

theorem gConnect_cur {g : Group} {c : Entry} (ds : List Nat) (r : Res) (h : g.cur = some c) :
    gConnect g ds r = .ok (g, if c.conn / 2 == 0 then .fail else r, ds) := by
  unfold gConnect; simp only [init_cur ds h, h]

theorem errDec_le (n : Nat) : errDec n ≤ n := by
  unfold errDec; split <;> omega

/-- the `if s.p.Switch(e) { … }` block is exactly one call of `Group.switch`, and `Next` is consulted
iff it reported a change -/
theorem doSwitch_spec {st : St} (hinv : Inv st) (hh : HostsNE st.g) :
    ∃ b ds1 st1, switch st.g st.e st.ds = .ok (st1.g, b, ds1) ∧ doSwitch st = .ok (st1, b) ∧
      Sw st.g st1.g b ∧ Inv st1 ∧ st1.trace = st.trace ∧
      (b = false → st1.host = st.host ∧ st1.w = st.w ∧ st1.t = st.t ∧ st1.errors = st.errors) ∧
      (b = true → st1.errors = errDec st.errors) := by
  obtain ⟨hwf, herr, c, hm, hc, hw, ht, hho⟩ := hinv
  obtain ⟨g1, b, ds1, hs, hsw, _⟩ := switch_spec st.e st.ds hwf
  cases hsw with
  | stay =>
    exact ⟨_, _, { st with ds := ds1 }, hs, by unfold doSwitch; simp only [hs], .stay,
      ⟨hwf, herr, c, hm, hc, hw, ht, hho⟩, rfl, fun _ => ⟨rfl, rfl, rfl, rfl⟩, nofun⟩
  | move c1 hm1 hne =>
    obtain ⟨h, ds2, hn, hmem, hlen⟩ := next_host hh hm1 ds1
    refine ⟨_, _,
      { st with g := { st.g with cur := some c1 }, ds := ds2, host := h, w := c1.w, t := c1.t, errors := errDec st.errors },
      hs, ?_, .move c1 hm1 hne,
      ⟨wf_at hwf.1 hm1, Nat.le_trans (errDec_le _) herr, c1, hm1, rfl, rfl, rfl, hmem⟩, rfl, nofun, fun _ => rfl⟩
    unfold doSwitch
    simp only [hs, gNext_of_init (init_cur (g := { st.g with cur := some c1 }) ds1 rfl) rfl hn, if_pos hlen]

theorem account_spec {s : St} (r : Res) (h : s.errors ≤ maxErrors + 1) :
    ∃ n cont, account s r = ({ s with errors := n, e := r != .ok }, cont) ∧
      (cont = false ↔ (r = .fail ∧ s.errors > maxErrors) ∨ (r = .sessErr ∧ s.errors + 1 > maxErrors)) ∧
      (cont = true → n = (if r = .ok then 0 else s.errors + 1) ∧ n ≤ maxErrors + 1) := by
  -- all that is needed of `maxErrors`: the uint8 counter cannot wrap before the loop gives up
  have hm : maxErrors + 2 < 256 := by decide
  have e1 : (s.errors + 1) % 256 = s.errors + 1 := Nat.mod_eq_of_lt (by omega)
  cases r with
  | fail =>
    by_cases hle : s.errors ≤ maxErrors
    · exact ⟨s.errors + 1, true, by simp only [account, if_pos hle, e1]; rfl, by simp; omega, fun _ => ⟨rfl, by omega⟩⟩
    · exact ⟨s.errors, false, by simp only [account, if_neg hle]; rfl, by simp; omega, nofun⟩
  | sessErr =>
    refine ⟨s.errors + 1, !decide (s.errors + 1 > maxErrors), by simp only [account, e1]; rfl, by simp,
      fun hc => ⟨rfl, ?_⟩⟩
    simp at hc; omega
  | ok => exact ⟨0, true, rfl, by simp, fun _ => ⟨rfl, Nat.zero_le _⟩⟩

/-- One turn of the loop on a state that satisfies the invariant: first what the run needs to go on
(the invariant again, the loop's variables as the new attempt leaves them), then the turn as one call of
`Group.switch` (`Props.C17.loop_turn_is_switch`). -/
theorem turn_spec {st : St} (r : Res) (hinv : Inv st) (hh : HostsNE st.g) :
    ∃ g1 b ds1 st' cont cn,
      (Moved st.g st'.g ∧ cn.host = st'.host ∧ cn.w = st'.w ∧ cn.t = st'.t ∧
        (cont = true → st'.errors = errsAfter cn ∧ Inv st')) ∧
      switch st.g st.e st.ds = .ok (g1, b, ds1) ∧ turn st r = .ok (st', cont) ∧
      st'.g = g1 ∧ st'.trace = st.trace ++ [cn] ∧ cn.swArg = st.e ∧ cn.swRes = b ∧ cn.cur = g1.curPtr ∧
      st'.e = (cn.res != .ok) ∧
      (b = false → st'.host = st.host ∧ st'.w = st.w ∧ st'.t = st.t ∧ cn.errs = st.errors ∧ g1 = st.g) ∧
      (b = true → cn.errs = errDec st.errors ∧ g1.curPtr ≠ st.g.curPtr) ∧
      (∃ c ∈ st.g.entries, g1.cur = some c ∧ cn.host ∈ c.hosts ∧ cn.w = c.w ∧ cn.t = c.t) ∧
      (cont = false ↔ GiveUp cn) := by
  obtain ⟨b, ds1, st1, hs, hd, hsw, hinv1, htr1, hbf, hbt⟩ := doSwitch_spec hinv hh
  obtain ⟨hwf1, herr1, c, hm, hc, hw, ht, hho⟩ := hinv1
  let cn : Conn := { swArg := st.e, swRes := b, cur := st1.g.curPtr, host := st1.host, w := st1.w, t := st1.t,
                     errs := st1.errors, res := if c.conn / 2 == 0 then .fail else r }
  obtain ⟨n, cont, hacc, hstop, hgo⟩ := account_spec (s := { st1 with trace := st1.trace ++ [cn] }) cn.res herr1
  refine ⟨_, b, ds1, { st1 with trace := st1.trace ++ [cn], errors := n, e := cn.res != .ok }, cont, cn,
    ⟨hsw.moved, rfl, rfl, rfl, fun hc' => ?_⟩, hs, ?_, rfl, by rw [← htr1], rfl, rfl, rfl, rfl,
    fun hb => ?_, fun hb => ⟨hbt hb, hsw.iff.mp hb⟩, ⟨c, hsw.moved.entries ▸ hm, hc, hho, hw, ht⟩, hstop⟩
  · exact ⟨(hgo hc').1, hwf1, (hgo hc').2, c, hm, hc, hw, ht, hho⟩
  · unfold turn
    simp only [hd, gConnect_cur _ r hc]
    exact congrArg _ hacc
  · obtain ⟨h1, h2, h3, h4⟩ := hbf hb
    exact ⟨h1, h2, h3, h4, hsw.eq_of_false hb⟩

/-- `R` holds between every two consecutive elements -/
def Adj (R : Conn → Conn → Prop) : List Conn → Prop
  | [] => True
  | [_] => True
  | a :: b :: rest => R a b ∧ Adj R (b :: rest)

theorem Adj_tail {R : Conn → Conn → Prop} {x : Conn} {l : List Conn} (h : Adj R (x :: l)) : Adj R l := by
  cases l with
  | nil => trivial
  | cons y t => exact h.2

theorem Adj_suffix {R : Conn → Conn → Prop} (pre : List Conn) {s : List Conn} (h : Adj R (pre ++ s)) : Adj R s := by
  induction pre with
  | nil => exact h
  | cons x p ih => exact ih (Adj_tail h)

/-- What links two consecutive connection attempts `a`, `b` of a run on the group `g0`: the argument
of the Switch call between them is "`a` failed"; the two active entries are entries of `g0` related by
ONE call of the real selector function `Group.switch` with that argument (on some PRNG words); host,
wrapper and transform are kept iff Switch reported no change; a reported change forgives one error. -/
def Link (g0 : Group) (a b : Conn) : Prop :=
  b.swArg = (a.res != .ok) ∧
  (∃ ca cb ds ds', ca ∈ g0.entries ∧ cb ∈ g0.entries ∧ a.cur = some ca.ptr ∧ b.cur = some cb.ptr ∧
    switch { g0 with cur := some ca } b.swArg ds = .ok ({ g0 with cur := some cb }, b.swRes, ds')) ∧
  (b.swRes = false → b.cur = a.cur ∧ b.host = a.host ∧ b.w = a.w ∧ b.t = a.t ∧ b.errs = errsAfter a) ∧
  (b.swRes = true → b.cur ≠ a.cur ∧ b.errs = errDec (errsAfter a))

theorem Link.swArg_eq {g0 : Group} {a b : Conn} (h : Link g0 a b) : b.swArg = (a.res != .ok) := h.1

theorem Link.switched {g0 : Group} {a b : Conn} (h : Link g0 a b) :
    ∃ ca cb ds ds', ca ∈ g0.entries ∧ cb ∈ g0.entries ∧ a.cur = some ca.ptr ∧ b.cur = some cb.ptr ∧
      switch { g0 with cur := some ca } b.swArg ds = .ok ({ g0 with cur := some cb }, b.swRes, ds') := h.2.1

theorem Link.stay {g0 : Group} {a b : Conn} (h : Link g0 a b) (hb : b.swRes = false) :
    b.cur = a.cur ∧ b.host = a.host ∧ b.w = a.w ∧ b.t = a.t :=
  ⟨(h.2.2.1 hb).1, (h.2.2.1 hb).2.1, (h.2.2.1 hb).2.2.1, (h.2.2.1 hb).2.2.2.1⟩

theorem Link.stay_errs {g0 : Group} {a b : Conn} (h : Link g0 a b) (hb : b.swRes = false) :
    b.errs = errsAfter a := (h.2.2.1 hb).2.2.2.2

theorem Link.move_errs {g0 : Group} {a b : Conn} (h : Link g0 a b) (hb : b.swRes = true) :
    b.errs = errDec (errsAfter a) := (h.2.2.2 hb).2

/-- every recorded attempt was made with the own host / wrapper / transform of an entry of `g0` that
was the active one -/
def OwnConn (g0 : Group) (cn : Conn) : Prop :=
  ∃ c ∈ g0.entries, cn.cur = some c.ptr ∧ cn.host ∈ c.hosts ∧ cn.w = c.w ∧ cn.t = c.t

/-- the loop's variables are as the attempt `a` left them -/
def At (st : St) (a : Conn) : Prop :=
  a.cur = st.g.curPtr ∧ a.host = st.host ∧ a.w = st.w ∧ a.t = st.t ∧ st.e = (a.res != .ok) ∧
    st.errors = errsAfter a

/-- one turn, seen from the attempt before it -/
theorem turn_link {g0 : Group} {st : St} {a : Conn} (r : Res) (hinv : Inv st) (hh : HostsNE g0)
    (hm : Moved g0 st.g) (hat : At st a) :
    ∃ st' cont cn, turn st r = .ok (st', cont) ∧ st'.trace = st.trace ++ [cn] ∧ Moved g0 st'.g ∧
      Link g0 a cn ∧ OwnConn g0 cn ∧ (cont = false ↔ GiveUp cn) ∧ (cont = true → Inv st' ∧ At st' cn) := by
  obtain ⟨g1, b, ds1, st', cont, cn, ⟨hmv, hhost, hw, ht, hgo⟩, hsw, hturn, hg1, htr, harg, hres, hcur, hee, hbf, hbt,
    ⟨c, hcm, hcc, hchost, hcw, hct⟩, hstop⟩ := turn_spec r hinv fun c hc => hh c (hm.entries ▸ hc)
  subst hg1
  obtain ⟨la, lh, lw, lt, le, lerr⟩ := hat
  obtain ⟨_, _, ca, hcam, hcac, _⟩ := hinv
  have hca : a.cur = some ca.ptr := la.trans (Group.curPtr_of_cur hcac)
  have hc : cn.cur = some c.ptr := hcur.trans (Group.curPtr_of_cur hcc)
  rw [hm.entries] at hcam hcm
  refine ⟨st', cont, cn, hturn, htr, hm.trans hmv, ⟨by rw [harg, le], ⟨ca, c, st.ds, ds1, hcam, hcm, hca, hc, ?_⟩,
    fun hb => ?_, fun hb => ?_⟩, ⟨c, hcm, hc, hchost, hcw, hct⟩, hstop,
    fun hc' => ⟨(hgo hc').2, hcur, hhost, hw, ht, hee, (hgo hc').1⟩⟩
  · rw [harg, hres, ← hm.eq_of_cur hcac, ← (hm.trans hmv).eq_of_cur hcc]; exact hsw
  · obtain ⟨h1, h2, h3, h4, h5⟩ := hbf (hres ▸ hb)
    exact ⟨by rw [hcur, h5, la], by rw [hhost, h1, lh], by rw [hw, h2, lw], by rw [ht, h3, lt], by rw [h4, lerr]⟩
  · obtain ⟨h1, h2⟩ := hbt (hres ▸ hb)
    exact ⟨by rw [hcur, la]; exact h2, by rw [h1, lerr]⟩

theorem run_spec {g0 : Group} (hh : HostsNE g0) (script : List Res) {st : St} {a : Conn} (hinv : Inv st)
    (hm : Moved g0 st.g) (hat : At st a) :
    ∃ st' cont more, run script st = .ok (st', cont) ∧ st'.trace = st.trace ++ more ∧ Moved g0 st'.g ∧
      Adj (Link g0) (a :: more) ∧ (∀ cn ∈ more, OwnConn g0 cn) ∧ more.length ≤ script.length ∧
      (cont = true → more.length = script.length ∧ ∀ cn ∈ more, ¬ GiveUp cn) ∧
      (cont = false → ∃ init last, more = init ++ [last] ∧ GiveUp last ∧ ∀ cn ∈ init, ¬ GiveUp cn) := by
  induction script generalizing st a with
  | nil => exact ⟨st, true, [], rfl, by simp, hm, trivial, nofun, Nat.le_refl _, fun _ => ⟨rfl, nofun⟩, nofun⟩
  | cons r rs ih =>
    obtain ⟨st', cont, cn, hturn, htr, hm', hlink, hown, hstop, hgo⟩ := turn_link r hinv hh hm hat
    cases cont with
    | false =>
      exact ⟨st', false, [cn], by simp only [run, hturn], htr, hm', ⟨hlink, trivial⟩, by simpa using hown, by simp,
        nofun, fun _ => ⟨[], cn, rfl, hstop.mp rfl, nofun⟩⟩
    | true =>
      obtain ⟨st'', cont', more, hrun, htr', hm'', hadj, hown', hlen, hfull, hend⟩ :=
        ih (hgo rfl).1 hm' (hgo rfl).2
      have hng : ¬ GiveUp cn := fun h => nomatch hstop.mpr h
      refine ⟨st'', cont', cn :: more, by simp only [run, hturn]; exact hrun, by rw [htr', htr, List.append_assoc]; rfl,
        hm'', ⟨hlink, hadj⟩, List.forall_mem_cons.mpr ⟨hown, hown'⟩, Nat.succ_le_succ hlen,
        fun hc => ⟨congrArg (· + 1) (hfull hc).1, List.forall_mem_cons.mpr ⟨hng, (hfull hc).2⟩⟩, fun hc => ?_⟩
      obtain ⟨init, last, hmore, hg, hinit⟩ := hend hc
      exact ⟨cn :: init, last, by rw [hmore]; rfl, hg, List.forall_mem_cons.mpr ⟨hng, hinit⟩⟩

/-- the attempt that would have left the loop's variables as `connectContextInner` leaves them: a
success on the entry the registration was made on -/
def before (st : St) : Conn :=
  { swArg := false, swRes := false, cur := st.g.curPtr, host := st.host, w := st.w, t := st.t, errs := 0, res := .ok }

theorem start_spec {g : Group} (ds : List Nat) (hwf : g.WF) (hne : g.entries ≠ []) (hh : HostsNE g) :
    ∃ st, start g ds = .ok st ∧ (∃ ds', init g ds = .ok (st.g, ds')) ∧ Inv st ∧ Moved g st.g ∧ st.trace = [] ∧
      At st (before st) := by
  obtain ⟨g', ds', hi, hm, _, hset⟩ := init_spec ds hwf
  obtain ⟨c, hcm, hc⟩ := hm.cur_mem hwf (hset hne)
  obtain ⟨h, ds'', hn, hmem, _⟩ := next_host hh hcm ds'
  refine ⟨{ g := g', host := h, w := c.w, t := c.t, ds := ds'' }, ?_, ⟨ds', hi⟩,
    ⟨hm.wf hwf, Nat.zero_le _, c, hm.entries ▸ hcm, hc, rfl, rfl, hmem⟩, hm, rfl, rfl, rfl, rfl, rfl, rfl, rfl⟩
  unfold start
  simp only [gNext_of_init hi hc hn]

/-- The whole session: the attempts form a chain of Links that starts at `before` the first one. -/
theorem session_spec {g : Group} (hwf : g.WF) (hne : g.entries ≠ []) (hh : HostsNE g) (ds : List Nat)
    (script : List Res) :
    ∃ st0 st cont, (∃ ds', init g ds = .ok (st0.g, ds')) ∧ session g ds script = .ok (st, cont) ∧ Moved g st.g ∧
      Adj (Link g) (before st0 :: st.trace) ∧ (∀ cn ∈ st.trace, OwnConn g cn) ∧
      st.trace.length ≤ script.length ∧
      (cont = true → st.trace.length = script.length ∧ ∀ cn ∈ st.trace, ¬ GiveUp cn) ∧
      (cont = false → ∃ init last, st.trace = init ++ [last] ∧ GiveUp last ∧ ∀ cn ∈ init, ¬ GiveUp cn) := by
  obtain ⟨st0, hst, hi, hinv, hm, htr, hat⟩ := start_spec ds hwf hne hh
  obtain ⟨st, cont, more, hrun, hmore, h⟩ := run_spec hh script hinv hm hat
  rw [htr, List.nil_append] at hmore
  exact ⟨st0, st, cont, hi, by unfold session; simp only [hst]; exact hrun, hmore ▸ h⟩

/-- Reading a Link from the entry `c` the earlier attempt was made on (entries being distinct
allocations): whatever the selector function is shown to return on the group with the cursor on `c`,
the later attempt saw that result and was made on that cursor. -/
theorem Link.read {g : Group} (hnd : (g.entries.map (·.ptr)).Nodup) {a b : Conn} (h : Link g a b) {c : Entry}
    (hc : c ∈ g.entries) (ha : a.cur = some c.ptr) :
    ∃ ds, ∀ {g' r ds1}, switch { g with cur := some c } b.swArg ds = .ok (g', r, ds1) →
      b.swRes = r ∧ b.cur = g'.curPtr := by
  obtain ⟨ca, cb, ds, ds', hca, _, hac, hbc, hsw⟩ := h.switched
  cases eq_of_ptr_eq hnd hca hc (Option.some.inj (hac.symm.trans ha))
  refine ⟨ds, fun hr => ?_⟩
  rw [hr] at hsw
  simp only [Outcome.ok.injEq, Prod.mk.injEq] at hsw
  exact ⟨hsw.2.1.symm, by rw [hbc, hsw.1]; rfl⟩

theorem plain_chain {g : Group} (hnd : (g.entries.map (·.ptr)).Nodup) (hp : Plain g.sel) :
    ∀ (l : List Conn) (a : Conn) (k : Nat) (c : Entry), g.entries[k]? = some c → a.cur = some c.ptr →
      Adj (Link g) (a :: l) → ∀ i cn, l[i]? = some cn →
        cn.cur = (g.entries[(k + 1 + i) % g.entries.length]?).map (·.ptr) ∧
        cn.swRes = decide (g.entries.length ≠ 1)
  | [], _, _, _, _, _, _, _, _, hi => nomatch hi
  | b :: t, a, k, c, hk, ha, hadj, i, cn, hi => by
    have hc := List.mem_of_getElem? hk
    obtain ⟨ds, rd⟩ := hadj.1.read hnd hc ha
    obtain ⟨hres, hcur⟩ := rd (plain_step b.swArg ds hnd hp hk rfl)
    cases i with
    | zero => cases Option.some.inj hi; exact ⟨hcur, hres⟩
    | succ j =>
      have hlt : (k + 1) % g.entries.length < g.entries.length := Nat.mod_lt _ (by have := lt_of_getElem? hk; omega)
      have h1 := List.getElem?_eq_getElem hlt
      have := plain_chain hnd hp t b _ _ h1 (hcur.trans (congrArg (Option.map Entry.ptr) h1)) (Adj_tail hadj) j cn hi
      rwa [Nat.add_assoc, Nat.mod_add_mod, Nat.add_comm 1 j] at this

theorem errs_le_of_not_giveUp {z : Conn} (h : ¬ GiveUp z) (hr : z.res ≠ .ok) : z.errs ≤ maxErrors := by
  cases hres : z.res with
  | ok => exact absurd hres hr
  | fail => exact Nat.le_of_not_lt fun hlt => h (.inl ⟨hres, hlt⟩)
  | sessErr => exact Nat.le_of_succ_le (Nat.le_of_not_lt fun hlt => h (.inr ⟨hres, hlt⟩))

theorem Link.errs_succ {g0 : Group} {a b : Conn} (h : Link g0 a b) (hns : b.swRes = false) (hf : a.res ≠ .ok) :
    b.errs = a.errs + 1 := by
  rw [h.stay_errs hns, errsAfter, if_neg hf]

theorem chain_errs {g0 : Group} {l : List Conn} {a : Conn} (hadj : Adj (Link g0) (a :: l))
    (hns : ∀ c ∈ l, c.swRes = false) (hfail : ∀ c ∈ a :: l, c.res ≠ .ok) :
    (∀ i c, l[i]? = some c → c.errs = a.errs + i + 1) ∧
    ((∀ c ∈ a :: l, ¬ GiveUp c) → a.errs + l.length ≤ maxErrors) := by
  induction l generalizing a with
  | nil => exact ⟨nofun, fun hng => errs_le_of_not_giveUp (hng a List.mem_cons_self) (hfail a List.mem_cons_self)⟩
  | cons b t ih =>
    have hb := hadj.1.errs_succ (hns b List.mem_cons_self) (hfail a List.mem_cons_self)
    obtain ⟨ih1, ih2⟩ := ih hadj.2 (fun c hc => hns c (List.mem_cons_of_mem _ hc))
      (fun c hc => hfail c (List.mem_cons_of_mem _ hc))
    refine ⟨fun i c h => ?_, fun hng => ?_⟩
    · cases i with
      | zero => cases Option.some.inj h; exact hb
      | succ j => have := ih1 j c h; omega
    · have := ih2 fun c hc => hng c (List.mem_cons_of_mem _ hc)
      rw [List.length_cons]; omega

end XMT.GroupLoop
