/-
  XMT.BatchDrawDrain — successive transmissions with Job draws until the queue drains lose nothing,
  whatever fragment group the peer asked to abandon: `drainD_spec`, call by call from `nextD_stamped`
  (the call is a draw-free call on the pre-stamped session) and the draw-free `nextM_spec`.
-/
import XMT.BatchDrawSim
namespace XMT.Batch

section
variable (P F : Nat) (w : Nat → Nat)

/-- successive transmissions with Job draws -/
def drainD (i : Bytes) : Nat → St → Nat → List Pkt
  | 0, _, _ => []
  | fuel + 1, st, k =>
    match (nextD w P F st i k).1 with
    | none => []
    | some o => o :: drainD i fuel (nextD w P F st i k).2.1 (nextD w P F st i k).2.2

/-- **Draining with Job draws loses nothing**: for every word stream and whatever fragment group
the peer asked to abandon, what the peer observes over the successive transmissions is — keep-alives
and tag lists aside — a list `L` such that a prefix of packets of the abandoned group followed by `L`
is the queued sequence, packet for packet, in which only packets that needed a Job may differ, and
only in that their Job is the low 16 bits of a drawn word. -/
theorem drainD_spec (hP : P < Facts.fragMax) (i : Bytes) :
    ∀ (fuel : Nat) (st : St) (k : Nat), (content st).length < fuel → (∀ a ∈ content st, QWF a) →
      ∃ dropped L, LR w (content st) (dropped ++ L) ∧
        (∀ d ∈ dropped, 0 < st.last ∧ Flag.group d.flags = st.last) ∧
        ∃ obs, observe (drainD P F w i fuel st k) = .ok obs ∧ (keepF obs).map core = (keepF L).map core := by
  intro fuel
  induction fuel with
  | zero => intro st k h; omega
  | succ fuel ih =>
    intro st k hlen hq
    obtain ⟨st₁, k', hst, hl₁, he⟩ := nextD_stamped w P F st i k
    have hLR := hst.lr
    have hq₁ := hLR.qwf hq
    unfold drainD
    rw [he, ← hl₁]
    rcases nextM_spec mergeTags P F hP i st₁ hq₁ with ⟨h0, hn⟩ | ⟨n, q, hc, o, dr, pre, _, h⟩
    · rw [nextM_mergeTags] at hn
      rw [hn]; exact ⟨[], [], by rw [h0] at hLR; exact hLR, by simp, [], rfl, rfl⟩
    · rw [nextM_mergeTags, ← hc] at h
      obtain ⟨hsuf, hlt⟩ := h.rest
      obtain ⟨obs, hu, hk⟩ := h.obs
      obtain ⟨dr2, L', hLR', h2, obs2, ho2, hk2⟩ := ih (next P F st₁ i).2 k'
        (by have := hLR.length; omega) fun a ha => hq₁ a (hsuf.subset ha)
      obtain rfl := dropped_nil h.cleared h2
      rw [h.out]
      refine ⟨dr, pre ++ L', ?_, h.skipped, obs ++ obs2, observe_cons_ok hu ho2, keepF_core_append hk hk2⟩
      rw [← List.append_assoc]; exact hLR.trans (h.split ▸ (LR.refl w _).append hLR')

end
end XMT.Batch
