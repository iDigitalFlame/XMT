/-
  XMT.CfgNextCases — what `next` returns on each concrete tag: the pure view `nextArmV` evaluated at
  every case label (`rfl`, the tag constants being numerals); the clause `return i + 1` once for all
  its labels (`nextArmV_stride1`).
-/
import XMT.CfgTotal
namespace XMT.Cfg

theorem nextArmV_Sleep (c : Bytes) (i : Nat) :
    nextArmV c i tSleep = (some (i + 9)) := rfl

theorem nextArmV_KillDate (c : Bytes) (i : Nat) :
    nextArmV c i tKillDate = (some (i + 9)) := rfl

theorem nextArmV_CBK (c : Bytes) (i : Nat) :
    nextArmV c i tCBK = (some (i + 6)) := rfl

theorem nextArmV_WorkHours (c : Bytes) (i : Nat) :
    nextArmV c i tWorkHours = (some (i + 6)) := rfl

theorem nextArmV_KeyPin (c : Bytes) (i : Nat) :
    nextArmV c i tKeyPin = (some (i + 5)) := rfl

theorem nextArmV_IP (c : Bytes) (i : Nat) :
    nextArmV c i tIP = (some (i + 2)) := rfl

theorem nextArmV_B64Shift (c : Bytes) (i : Nat) :
    nextArmV c i tB64Shift = (some (i + 2)) := rfl

theorem nextArmV_Jitter (c : Bytes) (i : Nat) :
    nextArmV c i tJitter = (some (i + 2)) := rfl

theorem nextArmV_Weight (c : Bytes) (i : Nat) :
    nextArmV c i tWeight = (some (i + 2)) := rfl

theorem nextArmV_TLSx (c : Bytes) (i : Nat) :
    nextArmV c i tTLSx = (some (i + 2)) := rfl

theorem nextArmV_stride1 (c : Bytes) (i : Nat) {t : Nat} (h : stride1.contains t = true) :
    nextArmV c i t = some (i + 1) := by
  unfold nextArmV; rw [if_pos h]

theorem nextArmV_Separator (c : Bytes) (i : Nat) :
    nextArmV c i tSeparator = (some (i + 1)) := nextArmV_stride1 c i rfl

theorem nextArmV_WC2 (c : Bytes) (i : Nat) : nextArmV c i tWC2 = nextWC2V c i := rfl

theorem nextArmV_XOR (c : Bytes) (i : Nat) : nextArmV c i tXOR = nextXorHostV c i := rfl

theorem nextArmV_Host (c : Bytes) (i : Nat) : nextArmV c i tHost = nextXorHostV c i := rfl

theorem nextArmV_AES (c : Bytes) (i : Nat) : nextArmV c i tAES = nextAESV c i := rfl

theorem nextArmV_MuTLS (c : Bytes) (i : Nat) : nextArmV c i tMuTLS = nextMuTLSV c i := rfl

theorem nextArmV_TLSxCA (c : Bytes) (i : Nat) : nextArmV c i tTLSxCA = nextTLSxCAV c i := rfl

theorem nextArmV_TLSCert (c : Bytes) (i : Nat) : nextArmV c i tTLSCert = nextTLSCertV c i := rfl

theorem nextArmV_DNS (c : Bytes) (i : Nat) : nextArmV c i tDNS = nextDNSArmV c i := rfl

/-- every setting that is a bare `cBit` constant is one of `next`'s `return i + 1` labels -/
theorem nextArmV_flag (c : Bytes) (i : Nat) {tag : Nat} (h : tag ∈ selTags ++ connTags ++ wrapTags ++ [tB64T]) :
    nextArmV c i tag = some (i + 1) :=
  nextArmV_stride1 c i ((by decide : ∀ t ∈ selTags ++ connTags ++ wrapTags ++ [tB64T], stride1.contains t = true) tag h)

end XMT.Cfg
