/-
  Concrete channel / poll witnesses over the toy curve (property C06 extension): executable checks
  whose results the property theorems state and prove by `decide`.
-/
import XMT.KeysConnLemmas
import XMT.KeysToy
namespace XMT.Keys
open XMT

def wS : Bytes := zeros 65 ++ [3]
def wA : Bytes := zeros 65 ++ [5]
def wB : Bytes := zeros 65 ++ [7]

/-- client and server-side Session keys after `connect` (toy curve, server scalar `wS`, client `wA`) -/
def wPair : Option (Client × KeyPair) :=
  match (run toy (init toy wS) [.connect wA [9, 9] .ok]) with
  | ⟨some cl, ⟨_, some sk⟩, _⟩ => some (cl, sk)
  | _ => none

/-- a channel opened by the poll `send` (reply `[]`) of that pair, then `evs`; result: was the
channel `ChanGood` when it started, do the two SESSIONS agree at the end, does the conn's copy equal
the Session's key at the end, which `KeyCrypt` pairs agreed. -/
def chanWitness (refresh : Bool) (send : Send) (evs : List ChanEv) : Option (Bool × Bool × Bool × List Bool) :=
  wPair.bind fun p => (chanOpen toy refresh p.1 p.2 send []).map fun s0 =>
    let s := chanRun toy s0 evs
    (decide (ChanGood s0), decide (s.cl.keys.share = s.sess.share),
     decide (s.conn.keys.share = s.sess.share), s.uses.map (fun u => decide u.Agree))

/-- the re-key poll of that pair with reply `reply`: which `KeyCrypt` pairs agree -/
def pollWitness (live : Bool) (tags : List Nat) (reply : Bytes) : Option (List Bool) :=
  wPair.map fun p =>
    (pollUses toy live tags p.1 { keys := KeyPair.zero, sess := some p.2 } (.rekey wB) reply .ok).map
      (fun u => decide u.Agree)

end XMT.Keys
