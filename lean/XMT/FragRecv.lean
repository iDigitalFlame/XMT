/-
  XMT.FragRecv — one group at the receiver (`cluster.add` / `cluster.done` / the per-group part of
  `receive`).  The state after the arrivals `A` is a function `St m A` of the arrivals alone; nothing
  looks at positions before the `m`-th arrival, so completion is by count: fragment 0 first, then any
  fragments that `Belongs` — fewer than `m` are stored (`feed_incomplete`), the `m`-th hands on
  `assemble` of what was collected (`feed_complete`), a repetition counting like any other fragment.
  The lemmas are about arbitrary packets; the fragments of `split` are put in at the end.
-/
import XMT.FragLemmas
namespace XMT.Frag
open XMT.Flag

def nonEmpty (f : Pkt) : Bool := !f.payload.isEmpty

/-- the cluster after the fragments `A` of one group have arrived (in that order) -/
def St (m : Nat) (A : List Pkt) : Cluster :=
  { data := A.filter nonEmpty, max := m - 1, e := (A.filter (fun f => f.payload.isEmpty)).length,
    c := Facts.fragMaxMisses }

/-- what `done` hands on once every fragment is there -/
def assemble (L : List Pkt) : Option Pkt :=
  match sortByPos (L.filter nonEmpty) with
  | [] => none
  | n :: rest => some { (rest.foldl addTo n) with flags := Flag.clear (rest.foldl addTo n).flags }

/-- feed the fragments of one group to its reassembly state -/
def feedGroup (c : Option Cluster) : List Pkt → Option Cluster × List Out
  | [] => (c, [])
  | n :: ns =>
    let r := recvGroup c n
    let rs := feedGroup r.1 ns
    (rs.1, r.2 :: rs.2)

theorem feedGroup_append (c : Option Cluster) (A B : List Pkt) :
    feedGroup c (A ++ B) =
      ((feedGroup (feedGroup c A).1 B).1, (feedGroup c A).2 ++ (feedGroup (feedGroup c A).1 B).2) := by
  induction A generalizing c with
  | nil => rfl
  | cons a A ih => simp only [List.cons_append, feedGroup, ih]

theorem recvGroup_none_late (n : Pkt) (h : 0 < position n.flags) :
    recvGroup none n = (none, .dropReply) :=
  if_pos h

theorem feedGroup_none_late : ∀ (L : List Pkt), (∀ n ∈ L, 0 < position n.flags) →
    feedGroup none L = (none, List.replicate L.length Out.dropReply)
  | [], _ => rfl
  | n :: L, h => by
    rw [feedGroup, recvGroup_none_late n (h n List.mem_cons_self),
      feedGroup_none_late L fun x hx => h x (List.mem_cons_of_mem _ hx)]
    rfl

/-- `cluster.add` refuses a fragment iff a first stored fragment exists and does not `Belongs` -/
theorem Cluster.add_eq (c : Cluster) (q : Pkt) : c.add q =
    if c.data.head?.all (belongs · q) then
      some (if q.payload.isEmpty
        then { c with c := Facts.fragMaxMisses, max := (len q.flags + 2^16 - 1) % 2^16, e := (c.e + 1) % 2^16 }
        else { c with c := Facts.fragMaxMisses, max := (len q.flags + 2^16 - 1) % 2^16, data := c.data ++ [q] })
    else none := by
  obtain ⟨data, mx, e, k⟩ := c
  cases data with
  | nil =>
    simp only [Cluster.add, List.head?_nil, Option.all_none, if_true]
    split <;> rfl
  | cons d0 ds =>
    simp only [Cluster.add, List.head?_cons, Option.all_some]
    cases belongs d0 q
    · rfl
    · simp only [not_true_eq_false, if_false, if_true]
      split <;> rfl

theorem Cluster.add_some {c c' : Cluster} {q : Pkt} (h : c.add q = some c') :
    c'.c = Facts.fragMaxMisses ∧ c'.data.length ≤ c.data.length + 1 := by
  rw [Cluster.add_eq] at h
  split at h
  · cases Option.some.inj h
    split
    · exact ⟨rfl, Nat.le_succ _⟩
    · exact ⟨rfl, by rw [List.length_append]; exact Nat.le_refl _⟩
  · cases h

/-- a group without state: a fragment with position 0 is taken as by a fresh cluster -/
theorem recvGroup_none (n : Pkt) : recvGroup none n =
    if position n.flags > 0 then (none, .dropReply) else recvGroup (some Cluster.new) n := rfl

/-- what `receive` can leave behind for a group: nothing (dropped or delivered); the old state (a new
one for a group without state) after a refusal by `cluster.add`; or what `cluster.add` returned -/
theorem recvGroup_cases (c : Option Cluster) (n : Pkt) :
    (recvGroup c n).1 = none ∨
    ((recvGroup c n).2 = .errMismatch ∧ (recvGroup c n).1 = some (c.getD Cluster.new)) ∨
    ∃ c1, (c.getD Cluster.new).add n = some c1 ∧ recvGroup c n = (some c1, .stored) := by
  have hsome : ∀ c0 : Cluster, (recvGroup (some c0) n).1 = none ∨
      ((recvGroup (some c0) n).2 = .errMismatch ∧ (recvGroup (some c0) n).1 = some c0) ∨
      ∃ c1, c0.add n = some c1 ∧ recvGroup (some c0) n = (some c1, .stored) := by
    intro c0
    cases ha : c0.add n with
    | none => exact .inr (.inl (by simp only [recvGroup, ha, and_self]))
    | some c1 =>
      cases hd : c1.done with
      | some v => exact .inl (by simp only [recvGroup, ha, hd])
      | none => exact .inr (.inr ⟨c1, rfl, by simp only [recvGroup, ha, hd]⟩)
  cases c with
  | some c0 => exact hsome c0
  | none =>
    rw [recvGroup_none]
    split
    · exact .inl rfl
    · exact hsome Cluster.new

theorem insertByPos_ne (q : Pkt) (l : List Pkt) : insertByPos q l ≠ [] := by
  cases l with
  | nil => exact List.cons_ne_nil _ _
  | cons a l => unfold insertByPos; split <;> exact List.cons_ne_nil _ _

theorem sortByPos_ne (l : List Pkt) (h : l ≠ []) : sortByPos l ≠ [] := by
  cases l with
  | nil => exact absurd rfl h
  | cons a l => exact insertByPos_ne _ _

/-- `cluster.done`: without fragments the sort yields nothing, which covers the emptiness guard -/
theorem Cluster.done_eq (c : Cluster) : c.done =
    if (c.data.length % 2^16 + c.e) % 2^16 > c.max then
      (match sortByPos c.data with
       | [] => none
       | n :: rest => some { (rest.foldl addTo n) with flags := Flag.clear (rest.foldl addTo n).flags })
    else none := by
  obtain ⟨data, mx, e, k⟩ := c
  cases data with
  | nil => simp only [Cluster.done, sortByPos]; split <;> rfl
  | cons d ds => rfl

theorem St_count (m : Nat) (A : List Pkt) : (St m A).data.length + (St m A).e = A.length := by
  induction A with
  | nil => rfl
  | cons a A ih =>
    cases h : a.payload.isEmpty <;> simp only [St, nonEmpty, List.filter_cons, h] at ih ⊢ <;>
      simp only [Bool.not_true, Bool.not_false, if_true, if_false, Bool.false_eq_true, List.length_cons] <;>
      omega

theorem St_head {d0 : Pkt} (h0 : nonEmpty d0 = true) (m : Nat) (A : List Pkt) :
    (St m (d0 :: A)).data.head? = some d0 :=
  congrArg List.head? (List.filter_cons_of_pos h0)

theorem St_snoc (m : Nat) (A : List Pkt) (q : Pkt) : St m (A ++ [q]) =
    if q.payload.isEmpty then { St m A with e := (St m A).e + 1 }
    else { St m A with data := (St m A).data ++ [q] } := by
  cases h : q.payload.isEmpty <;> simp [St, nonEmpty, List.filter_append, h]

section
variable {m : Nat} (hm : 2 ≤ m) (hm16 : m < 2^16)
include hm hm16

theorem St_add (A : List Pkt) (q : Pkt) (hb : (St m A).data.head?.all (belongs · q) = true)
    (hl : len q.flags = m) (hA : A.length < m) : (St m A).add q = some (St m (A ++ [q])) := by
  have hc := St_count m A
  have h1 : (m + 2^16 - 1) % 2^16 = m - 1 := by omega
  have h2 : ((St m A).e + 1) % 2^16 = (St m A).e + 1 := by omega
  rw [Cluster.add_eq, if_pos hb, St_snoc, hl, h1, h2]
  rfl

theorem St_done (A : List Pkt) (hA : A.length ≤ m) :
    (St m A).done = if A.length = m then assemble A else none := by
  have hc := St_count m A
  have hcond : ((St m A).data.length % 2^16 + (St m A).e) % 2^16 > (St m A).max ↔ A.length = m := by
    show _ > m - 1 ↔ _; omega
  simp only [Cluster.done_eq, hcond]
  rfl

/-- fragment 0 of a group without state starts the state -/
theorem recvGroup_first (q : Pkt) (hp : position q.flags = 0) (hl : len q.flags = m) :
    recvGroup none q = (some (St m [q]), .stored) := by
  have ha : Cluster.new.add q = (St m []).add q := by rw [Cluster.add_eq, Cluster.add_eq]; rfl
  have hd := St_done hm hm16 [q] (by simp only [List.length_singleton]; omega)
  rw [if_neg (by simp only [List.length_singleton]; omega)] at hd
  simp only [recvGroup, hp, Nat.lt_irrefl, if_false, ha,
    St_add hm hm16 [] q rfl hl (by simp only [List.length_nil]; omega), List.nil_append, hd]

variable {d0 : Pkt} (h0 : nonEmpty d0 = true)
include h0

/-- a further fragment on the state of a group: stored, or — as the `m`-th — handed on assembled -/
theorem recvGroup_St (A : List Pkt) (q : Pkt) (hb : belongs d0 q = true) (hl : len q.flags = m)
    (hA : A.length + 1 < m) :
    recvGroup (some (St m (d0 :: A))) q =
      match (if A.length + 2 = m then assemble (d0 :: A ++ [q]) else none) with
      | some v => (none, .deliver v)
      | none => (some (St m (d0 :: A ++ [q])), .stored) := by
  have hhead : (St m (d0 :: A)).data.head?.all (belongs · q) = true := by rw [St_head h0]; exact hb
  have hd := St_done hm hm16 (d0 :: A ++ [q])
    (by simp only [List.length_append, List.length_cons, List.length_nil]; omega)
  simp only [List.length_append, List.length_cons, List.length_nil] at hd
  simp only [recvGroup, St_add hm hm16 (d0 :: A) q hhead hl hA, hd]
  rfl

omit hm hm16 in
theorem assemble_some (B : List Pkt) : ∃ v, assemble (d0 :: B) = some v := by
  unfold assemble
  rw [List.filter_cons_of_pos h0, sortByPos]
  cases h : insertByPos d0 (sortByPos (B.filter nonEmpty)) with
  | nil => exact absurd h (insertByPos_ne _ _)
  | cons n rest => exact ⟨_, rfl⟩

theorem feed_stored : ∀ (B A : List Pkt), (∀ q ∈ B, belongs d0 q = true ∧ len q.flags = m) →
    A.length + B.length + 1 < m →
    feedGroup (some (St m (d0 :: A))) B = (some (St m (d0 :: A ++ B)), List.replicate B.length .stored)
  | [], A, _, _ => by rw [List.append_nil]; rfl
  | q :: B, A, hB, hlen => by
    have hq := hB q List.mem_cons_self
    simp only [List.length_cons] at hlen
    rw [feedGroup, recvGroup_St hm hm16 h0 A q hq.1 hq.2 (by omega), if_neg (by omega)]
    simp only
    rw [List.cons_append, feed_stored B (A ++ [q]) (fun x hx => hB x (List.mem_cons_of_mem _ hx))
      (by simp only [List.length_append, List.length_singleton]; omega)]
    simp only [List.cons_append, List.append_assoc, List.nil_append, List.length_cons, List.replicate_succ]

variable (hp : position d0.flags = 0) (hl : len d0.flags = m)
include hp hl

theorem feed_incomplete (B : List Pkt) (hB : ∀ q ∈ B, belongs d0 q = true ∧ len q.flags = m)
    (hlen : B.length + 1 < m) :
    feedGroup none (d0 :: B) = (some (St m (d0 :: B)), List.replicate (B.length + 1) .stored) := by
  rw [feedGroup, recvGroup_first hm hm16 d0 hp hl]
  simp only
  rw [feed_stored hm hm16 h0 B [] hB (by simp only [List.length_nil]; omega)]
  rfl

theorem feed_complete (B : List Pkt) (hB : ∀ q ∈ B, belongs d0 q = true ∧ len q.flags = m)
    (hlen : B.length + 1 = m) :
    ∃ v, assemble (d0 :: B) = some v ∧
      feedGroup none (d0 :: B) = (none, List.replicate (m - 1) .stored ++ [.deliver v]) := by
  obtain ⟨v, hv⟩ := assemble_some h0 B
  refine ⟨v, hv, ?_⟩
  rcases List.eq_nil_or_concat B with rfl | ⟨B', q, rfl⟩
  · simp only [List.length_nil] at hlen; omega
  rw [List.concat_eq_append] at hv hB hlen ⊢
  simp only [List.length_append, List.length_singleton] at hlen
  have hq := hB q (List.mem_append_right _ (List.mem_singleton_self q))
  rw [← List.cons_append, feedGroup_append,
    feed_incomplete hm hm16 h0 hp hl B' (fun x hx => hB x (List.mem_append_left _ hx)) (by omega)]
  simp only [feedGroup]
  rw [recvGroup_St hm hm16 h0 B' q hq.1 hq.2 (by omega), if_pos (by omega), List.cons_append, hv,
    show m - 1 = B'.length + 1 by omega]

end

section
variable {F : Nat} {p : Pkt} {g m : Nat} (C : Ctx F p g m)
include C

theorem fr_fits (R : List Nat) (hR : ∀ i ∈ R, i < m) :
    ∀ q ∈ R.map (fr F p g m), belongs (fr F p g m 0) q = true ∧ len q.flags = m := by
  intro q hq
  obtain ⟨i, hi, rfl⟩ := List.mem_map.mp hq
  have hm2 := C.m2
  exact ⟨belongs_fr C 0 i (by omega) (hR i hi), fr_len C i (hR i hi)⟩

theorem fr_late (L : List Nat) (hL : ∀ i ∈ L, 0 < i ∧ i < m) :
    ∀ n ∈ L.map (fr F p g m), 0 < position n.flags := by
  intro n hn
  obtain ⟨i, hi, rfl⟩ := List.mem_map.mp hn
  rw [fr_position C i (hL i hi).2]
  exact (hL i hi).1

theorem fr_zero : nonEmpty (fr F p g m 0) = true ∧ position (fr F p g m 0).flags = 0 ∧
    len (fr F p g m 0).flags = m := by
  have hm2 := C.m2
  exact ⟨win0_ne C, fr_position C 0 (by omega), fr_len C 0 (by omega)⟩

/-- `feed_complete` for the fragments of `split`: fragment 0, then any `m-1` positions below `m` -/
theorem feed_any_positions (R : List Nat) (hRm : ∀ i ∈ R, i < m) (hlen : R.length + 1 = m) :
    ∃ v, assemble ((0 :: R).map (fr F p g m)) = some v ∧
      feedGroup none ((0 :: R).map (fr F p g m)) =
        (none, List.replicate (m - 1) Out.stored ++ [.deliver v]) := by
  obtain ⟨h0, p0, l0⟩ := fr_zero C
  exact feed_complete C.m2 C.m16 h0 p0 l0 _ (fr_fits C R hRm)
    (by rw [List.length_map]; exact hlen)

end

/-! ### the concrete witness of a repeated fragment (F = 4, payload of 10 bytes ⇒ Size() = 57 ⇒
15 fragments, 3 of them non-empty: positions 0, 1, 2; positions 3 … 14 are the empty trailing
fragments) -/

def dupDemo : Pkt := { id := 0x20, job := 77, flags := 0, tags := [],
                       dev := 1 :: List.replicate 31 0, payload := [1,2,3,4,5,6,7,8,9,10] }

/-- arrival order `0, 1, 1, 3, 4, …, 14, 2`: fragment 1 arrives twice while fragment 2 is still on
its way; all 15 fragments do arrive. -/
def dupArrivals : List Nat := [0, 1, 1] ++ (List.range 15).drop 3 ++ [2]

end XMT.Frag
