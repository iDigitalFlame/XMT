/-
  Lemmas for XMT.Packet: the writes of a payload put together again (`pieces_flatten`); the nested
  (stream) form read back through any lawful reader of the typed codec (`unmarshalStream_ok`;
  `unmarshalStream_chunk` for the Chunk reader); what that needs of the device-ID read (`DevLawful`).
-/
import XMT.Packet
import XMT.CodecRoundtrip
namespace XMT.Packet
open XMT.Codec

/-- obligations on the regenerated constants -/
structure ConstOK : Prop where
  tags16 : Facts.packetMaxTags < 2^16
  idPos : 0 < Facts.idSize

theorem constOK : ConstOK := by constructor <;> decide

theorem tagBytes_cons (t : Nat) (ts : List Nat) : tagBytes (t :: ts) = be32 t ++ tagBytes ts :=
  List.flatMap_cons

/-- the writes `Chunk.WriteTo` makes are the buffer, whatever the piece size -/
theorem pieces_flatten (n : Nat) (b : Bytes) : (pieces n b).flatten = b := by
  induction b using pieces.induct n with
  | case1 b h hb => rw [pieces, dif_pos h, if_pos hb]; simpa using hb
  | case2 b h hb => rw [pieces, dif_pos h, if_neg hb]; simp
  | case3 b h ih => rw [pieces, dif_neg h]; simp [ih]

section
variable {S : Type} {P : Prim S} {abs : S → Bytes} {inv : S → Prop}

/-- what the device-ID read of a reader implementation must satisfy -/
def DevLawful (abs : S → Bytes) (inv : S → Prop) (dr : S → Except PErr (Bytes × S)) : Prop :=
  ∀ d, d.length = Facts.idSize → Reads abs inv dr d d

theorem devReadChunk_lawful : DevLawful id (fun _ => True) devReadChunk := by
  rintro d hd _ r _ rfl
  refine ⟨r, ?_, rfl, trivial⟩
  rw [devReadChunk, if_pos (by simp [hd]), ← hd]
  simp

/-- `io.ReadFull` of the next `k` bytes when they are there -/
theorem readExact_ok (d : Bytes) (k : Nat) (hk : d.length = k) :
    Reads List.flatten NoEmpty (readExact k) d d := by
  intro s r hi h
  obtain ⟨s', e, a, i⟩ := readFull_cuts.full k d hi h hk
  exact ⟨s', by simp only [readExact, e, hk, if_true], a, i⟩

theorem devReadStream_lawful : DevLawful List.flatten NoEmpty devReadStream :=
  fun d hd => readExact_ok d _ hd

theorem readTagsS_ok (L : Lawful P abs inv) (tags : List Nat) (ht : ∀ t ∈ tags, 0 < t ∧ t < 2^32) :
    Reads abs inv (readTagsS P tags.length) (tagBytes tags) tags := by
  induction tags with
  | nil => exact Reads.ret _
  | cons t ts ih =>
    intro s r hi h
    rw [tagBytes_cons, List.append_assoc] at h
    have ht1 := ht t List.mem_cons_self
    obtain ⟨s1, e1, a1, i1⟩ := L.reads_u32 t ht1.2 s _ hi h
    obtain ⟨s2, e2, a2, i2⟩ := ih (fun x hx => ht x (List.mem_cons_of_mem _ hx)) s1 r i1 a1
    exact ⟨s2, by simp only [List.length_cons, readTagsS, e1, if_neg (Nat.ne_of_gt ht1.1), e2], a2, i2⟩

theorem unmarshalStream_ok (L : Lawful P abs inv) {dr : S → Except PErr (Bytes × S)}
    (D : DevLawful abs inv dr) (p : Packet) (hp : WF p) :
    Reads abs inv (unmarshalStream P dr) (marshalStream p) p := by
  intro s r hi h
  obtain ⟨hjob, hflags, hnt, htags, hdl, hdz, hpay⟩ := hp
  have hnt16 : p.tags.length < 2^16 := Nat.lt_of_le_of_lt hnt constOK.tags16
  rw [marshalStream, Nat.mod_eq_of_lt hnt16, List.take_of_length_le hnt] at h
  simp only [List.cons_append, List.nil_append, List.append_assoc] at h
  obtain ⟨s1, e1, a1, i1⟩ := L.u8_ok s _ _ hi h
  obtain ⟨s2, e2, a2, i2⟩ := L.reads_u16 p.job hjob s1 _ i1 a1
  obtain ⟨s3, e3, a3, i3⟩ := L.reads_u16 p.tags.length hnt16 s2 _ i2 a2
  obtain ⟨s4, e4, a4, i4⟩ := L.reads_u64 p.flags hflags s3 _ i3 a3
  obtain ⟨s5, e5, a5, i5⟩ := D p.dev hdl s4 _ i4 a4
  obtain ⟨s6, e6, a6, i6⟩ := readTagsS_ok L p.tags htags s5 _ i5 a5
  obtain ⟨s7, e7, a7, i7⟩ := decBytes_ok L p.payload hpay s6 _ i6 a6
  refine ⟨s7, ?_, a7, i7⟩
  simp only [unmarshalStream, e1, e2, e3, e4, e5, if_neg hdz, Nat.min_eq_left hnt, e6, e7,
    Nat.sub_self, List.replicate_zero, List.append_nil]

end

/-- the nested form read by the Chunk reader, as a batch is unpacked -/
theorem unmarshalStream_chunk (p : Packet) (hp : WF p) (rest : Bytes) :
    unmarshalStream chunkPrim devReadChunk (marshalStream p ++ rest) = .ok (p, rest) :=
  (unmarshalStream_ok chunk_lawful devReadChunk_lawful p hp).chunk rest

end XMT.Packet
