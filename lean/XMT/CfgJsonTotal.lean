/-
  XMT.CfgJsonTotal — totality of the MarshalJSON / String outcome models (lemmas for Props/C09).
  MarshalJSON's arms are build's with the value forgotten (`jX = erase bX`, by the monad laws alone:
  MarshalJSON takes the same slices), so they are safe because build's are.  String cannot even return
  an error: its outcome is `ok` for every byte string (`stringOutcome_ok`).
-/
import XMT.CfgEquiv
import XMT.CfgJson
namespace XMT.Cfg

section
variable (c : Bytes) (i n : Nat)

theorem jWC2Hdr_eq : ∀ f v z j acc, jWC2Hdr c i n f v z j = erase (bWC2Hdr c i n f v z j acc) := by
  intro f
  induction f with
  | zero => intro v z j acc; rfl
  | succ f ih =>
    intro v z j acc
    unfold jWC2Hdr bWC2Hdr
    simp only [erase_ite, erase_inv, erase_bind, ← ih]; rfl

theorem jDNS_eq : ∀ x v e acc, jDNS c i n x v e = erase (bDNS c i n x v e acc) := by
  intro x
  induction x with
  | zero => intro v e acc; rfl
  | succ x ih =>
    intro v e acc
    unfold jDNS bDNS
    simp only [erase_ite, erase_inv, erase_bind, ← ih]; rfl

theorem jHost_eq : jHost c i n = erase (bHost c i n) := by
  unfold jHost bHost
  simp only [erase_ite, erase_inv, erase_bind]; rfl

theorem jXOR_eq : jXOR c i n = erase (bXOR c i n) := by
  unfold jXOR bXOR
  simp only [erase_ite, erase_inv, erase_bind]; rfl

/-- build's `if h > 0` is MarshalJSON's `if h == 0` with the branches swapped -/
theorem jWC2_eq : jWC2 c i n = erase (bWC2 c i n) := by
  unfold jWC2 bWC2
  simp only [erase_ite, erase_inv, erase_bind, erase_pure, gt_iff_lt, Nat.pos_iff_ne_zero, ne_eq, ite_not,
    jWC2Hdr_eq c i n _ _ _ _ []]
  rfl

theorem jMuTLS_eq : jMuTLS c i n = erase (bMuTLS allTrue c i n) := by
  unfold jMuTLS bMuTLS
  simp only [erase_ite, erase_inv, erase_bind]; rfl

theorem jTLSxCA_eq : jTLSxCA c i n = erase (bTLSxCA allTrue c i n) := by
  unfold jTLSxCA bTLSxCA
  simp only [erase_ite, erase_inv, erase_bind]; rfl

theorem jTLSCert_eq : jTLSCert c i n = erase (bTLSCert allTrue c i n) := by
  unfold jTLSCert bTLSCert
  simp only [erase_ite, erase_inv, erase_bind]; rfl

theorem jDNSArm_eq : jDNSArm c i n = erase (bDNSArm c i n) := by
  unfold jDNSArm bDNSArm
  simp only [erase_ite, erase_inv, erase_bind, erase_pure, jDNS_eq c i n _ _ _ []]; rfl

end

/-- work hours and CBK: five bytes read, none checked (build checks the hours' ranges) -/
theorem jFive_safe (l : String) (c : Bytes) (i n : Nat) (hn : n ≤ c.length) : Safe (jFive l c i n) := by
  unfold jFive
  refine safe_guard fun h => ?_
  rw [rd_ok (by omega : i + 1 < c.length), rd_ok (by omega : i + 2 < c.length),
    rd_ok (by omega : i + 3 < c.length), rd_ok (by omega : i + 4 < c.length),
    rd_ok (by omega : i + 5 < c.length)]
  trivial

/-- AES: both slices taken, no size rule (build has the constructors') -/
theorem jAES_safe (c : Bytes) (i n : Nat) (hn : n ≤ c.length) : Safe (jAES c i n) := by
  unfold jAES
  refine safe_guard fun h => ?_
  rw [rd_ok (by omega : i + 1 < c.length), rd_ok (by omega : i + 2 < c.length)]
  simp only [ok_bind]
  refine safe_guard fun _ => ?_
  rw [slice_ok (by omega) (by omega), slice_ok (by omega) (by omega)]
  trivial

/-- Every arm of MarshalJSON's switch is safe: the arms with a function of their own are build's with
the value forgotten, the inline ones read behind their guard. -/
theorem jcase_safe (c : Bytes) (i n x : Nat) (hn : n ≤ c.length) : Safe (jcase c i n x) := by
  simp only [jcase, apply_ite Safe, safe_bind_pure, jHost_eq, jWC2_eq, jMuTLS_eq, jTLSxCA_eq, jTLSCert_eq, jXOR_eq,
    jDNSArm_eq, safe_erase, (host_agree hn).safe_right, (wc2_agree hn).safe_right, (muTLS_agree hn).safe_right,
    (tlsxCA_agree hn).safe_right, (tlsCert_agree hn).safe_right, (xor_agree hn).safe_right,
    (dnsArm_agree hn).safe_right, jFive_safe _ c i n hn, jAES_safe c i n hn, safe_inv, safe_pure,
    safe_ite_guard i 1 n fun _ => rd_safe (c := c) (k := i + 1) (by omega),
    safe_ite_guard i 4 n fun _ => safe_of_ok (rd32_ok c i (by omega)),
    safe_ite_guard i 8 n fun _ => safe_of_ok (rd64_ok c i (by omega)), ite_self]

theorem jloop_safe (c : Bytes) : ∀ f i n, 1 ≤ f → (n < c.length → c.length + 1 ≤ f + n) → n ≤ i →
    (n < c.length → i < c.length) → Safe (jloop c f i n) := by
  intro f
  induction f with
  | zero => intro i n h; omega
  | succ f ih =>
    intro i n _ hf hni hi
    unfold jloop
    refine safe_ite (fun hlt => ?_) fun _ => trivial
    have hb := clamp_bounds c i (nextV c i) (hi hlt)
    rw [rd_ok (hi hlt), next_eq c i (hi hlt)]
    simp only [ok_bind]
    refine safe_guard fun _ => ?_
    refine safe_ite (fun _ => safe_ite (fun _ => trivial) fun _ => ?_) fun _ => safe_ite (fun _ => ?_) fun _ => ?_
    · apply ih <;> omega
    · apply ih <;> omega
    · rw [rd_ok (by omega)]
      simp only [ok_bind]
      refine safe_bind (jcase_safe c i _ _ hb.2) fun _ => ?_
      apply ih <;> omega

/-- `String()` has no error result and its loop no `return err`: once the loop is seen not to fault
(every step moves forward, `nextV_gt`) there is nothing left for it but to return. -/
theorem sloop_ok (c : Bytes) : ∀ f i, 1 ≤ f → (i < c.length → c.length + 1 ≤ f + i) →
    sloop c f i = .ok () := by
  intro f
  induction f with
  | zero => intro i h; omega
  | succ f ih =>
    intro i _ hf
    unfold sloop
    split
    · rename_i hlt
      rw [next_eq c i hlt]
      simp only [ok_bind]
      cases hr : nextV c i with
      | none => rfl
      | some i' =>
        have := nextV_gt hr
        simp only
        split
        · rfl
        · rw [rd_ok (by omega)]
          apply ih <;> omega
    · rfl

theorem stringOutcome_ok (c : Bytes) : stringOutcome c = .ok () := by
  unfold stringOutcome
  split
  · rfl
  · rw [rd_ok (by omega)]
    simp only [ok_bind]
    split
    · rfl
    · apply sloop_ok <;> omega

end XMT.Cfg
