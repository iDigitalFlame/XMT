/-
  XMT.StateAccShape — the access lists of the access-level model XMT.StateAcc, to be compared with
  the lists regenerated from c2/state.go (Facts.c13AccessLists).

  `accessLists` is the model's table: for every method of `*state` the flattened sequence of
  shared-memory accesses in source order (calls of other methods on the receiver inlined):
  1 = atomic load, 3 = compare-and-swap, 4 / 5 = `for {` / `}` of a retry loop.
  `trace` is what an access program `Meth` really performs when it runs alone from a word `w`
  (a read-modify-write primitive is one pass of its loop: load, compare-and-swap unless it
  returns early).  `trace_sublist` proves, for EVERY call and EVERY word, that the program's
  trace is a sublist of its row (it follows one path through the source); the example after
  `model_accesses_follow_source` in Props/C13 reaches one row of each shape in full, up to the
  three loads of `SetChannel` that exist only under `bugtrack.Enabled`.  So a change of the number
  or order of the accesses of a method in state.go changes the regenerated fact and breaks the
  `decide` tie `access_lists_match_source`.
-/
import XMT.StateAcc
namespace XMT.StateAccShape
open XMT.State XMT.StateConc XMT.StateAcc

def accessLists : List (String × List Nat) :=
  [("CanRecv", [1]), ("Channel", [1]), ("ChannelCanStart", [1]),
   ("ChannelCanStop", [1, 1, 4, 1, 3, 5, 1, 1]), ("ChannelProxy", [1]), ("ChannelUpdated", [1]),
   ("ChannelValue", [1]), ("Closed", [1]), ("Closing", [1]), ("Last", [1]), ("Moving", [1]),
   ("Ready", [1]), ("RecvClosed", [1]), ("Replacing", [1]), ("Seen", [1]), ("SendClosed", [1]),
   ("Set", [4, 1, 3, 5]),
   -- if e { ChannelValue; Set } else { Channel, ChannelProxy, ChannelValue; (the same three again as
   -- arguments of the bugtrack message, compiled out unless bugtrack.Enabled); Unset }; Set
   ("SetChannel", [1, 4, 1, 3, 5, 1, 1, 1, 1, 1, 1, 4, 1, 3, 5, 4, 1, 3, 5]),
   ("SetLast", [4, 1, 3, 5]), ("Shutdown", [1]), ("ShutdownWait", [1]), ("Tag", [4, 1, 3, 5]),
   ("Unset", [4, 1, 3, 5]), ("WakeClosed", [1]), ("trySet", [4, 1, 3, 5]), ("tryUnset", [4, 1, 3, 5])]

/-- the state.go method(s) a model call stands for -/
def Call.fns : Call → List String
  | .prim (.set _) => ["Set"]
  | .prim (.unset _) => ["Unset"]
  | .prim (.setLast _) => ["SetLast"]
  | .prim (.tryUnset _) => ["tryUnset"]
  | .prim (.trySet _) => ["trySet"]
  | .last => ["Last"]
  | .simple _ => ["Seen", "Moving", "Closed", "Channel", "Replacing", "ShutdownWait", "ChannelValue", "ChannelProxy", "ChannelUpdated"]
  | .dom _ => ["Closing", "Shutdown", "RecvClosed", "SendClosed", "WakeClosed"]
  | .ready => ["Ready"]
  | .canRecv => ["CanRecv"]
  | .canStart => ["ChannelCanStart"]
  | .canStop => ["ChannelCanStop"]
  | .setChannel _ => ["SetChannel"]
  | .tag => ["Tag"]
  -- the programs before the repair stand for no method of the current source
  | .origReady => []
  | .origTag => []

def row (name : String) : Option (List Nat) := (accessLists.find? fun p => p.1 == name).map (·.2)

/-- accesses performed by a method that runs alone from word `w` (9 = out of fuel) -/
def trace : Nat → Meth → Nat → List Nat
  | _, .ret _, _ => []
  | 0, _, _ => [9]
  | n + 1, .load k, w => 1 :: trace n (k w) w
  | n + 1, .rmw op k, w =>
    (if op.early w then [4, 1, 5] else [4, 1, 3, 5]) ++ trace n (k (op.ret w)) (op.apply w)

/-- the trace `t` follows one path through the source of method `name` -/
def within (t : List Nat) (name : String) : Bool :=
  match row name with
  | some r => decide (t.Sublist r)
  | none => false

theorem trace_sublist (c : Call) (w : Nat) : (Call.fns c).all (within (trace 8 c.meth w)) = true := by
  cases c with
  | prim op => cases op <;> (simp only [Call.fns, Call.meth, trace]; split <;> decide)
  | tag => simp only [Call.fns, Call.meth, trace]; split <;> decide
  -- one load (or no source method at all): the trace is `[1]` whatever the word
  | last | simple m | dom m | ready | canRecv | canStart | origReady | origTag => rfl
  -- the loads that decide the path all read `w`; once their values are fixed the trace is a closed list
  | setChannel e =>
    cases e
    · cases h : has w stChannel <;> cases h2 : has w stChannelProxy <;> cases h3 : has w stChannelValue <;>
        simp only [Call.fns, Call.meth, trace, flagM, h, h2, h3, Bool.not_true, Bool.not_false, Bool.false_eq_true,
          ↓reduceIte] <;> rfl
    · simp only [Call.fns, Call.meth, trace, flagM]
      cases has w stChannelValue <;> rfl
  | canStop =>
    simp only [Call.fns, Call.meth, trace, flagM, dom1M]
    cases (has w stClosed || has w stClosing)
    · simp only [Bool.false_eq_true, ↓reduceIte, trace]
      cases has w stChannel
      · rfl
      · -- the test-and-clear: with or without its compare-and-swap, then one more load either way
        simp only [Bool.not_true, Bool.false_eq_true, ↓reduceIte, trace]
        cases (Op.tryUnset stChannelUpdated).ret w <;> split <;> rfl
    · rfl

end XMT.StateAccShape
