/-
  XMT.JobInv — the invariant of the repaired Job life cycle (`stepF`) and what every atomic action of
  every thread does (`StepOK`: the invariant is kept, every Job only moves forward, the table changes by
  at most one insert or delete with `count` following): a frame lemma for a step that writes one Job object and the locals of one
  thread (`inv_frame`, which concludes `Good`), the five shapes the steps of the model have as its corollaries
  (`inv_frame_loc`, with `inv_frame_finish` and `inv_frame_goto` as its two common cases, `inv_frame_job`,
  `inv_frame_take`, `inv_frame_pending`, `inv_frame_insert`; each concludes `StepOK`), and one lemma per thread
  kind that follows the branching of its code (`stepOK_taskF` … `stepOK_fragF`). The run theorems (`good_runF`,
  `good_of_prefix`, `countIs_runF`) are inductions along the schedule (`foldl_invariant`, `countIs_foldl`). The clauses of `JobOK`,
  `OwnsJ`, `TabOK`, `JobLe` and `Mono` have names (`JobOK.of_closed`, `OwnsJ.open_of_le5`, `TabOK.free`,
  `JobLe.frozen`, `Mono.jobLe`, …); what the invariant says to one who has a state satisfying it is `Inv.owned`,
  `Inv.live_open`, `Inv.quiescent`, `Good.final`, `JobOK.closes_le_one`. XMT/JobSubInv.lean and
  XMT/JobSubStep.lean are built the same way for the sub-step model.
-/
import XMT.JobCount
namespace XMT.Job

/-- Consistency of one Job object with its ghost fields. -/
def JobOK (j : JobSt) : Prop :=
  (j.closed = false → j.closes = 0 ∧ j.first = none) ∧
  (j.closed = true → j.closes = 1 ∧ ∃ e, j.first = some e ∧ j.status = e.status)

section
variable {j : JobSt} (h : JobOK j)
include h
theorem JobOK.of_open (c : j.closed = false) : j.closes = 0 ∧ j.first = none := h.1 c
theorem JobOK.of_closed (c : j.closed = true) : j.closes = 1 ∧ ∃ e, j.first = some e ∧ j.status = e.status := h.2 c
end

theorem JobOK.closes_le_one {j : JobSt} (h : JobOK j) : j.closes ≤ 1 ∧ (j.closed = true ↔ j.closes = 1) := by
  cases e : j.closed with
  | false => rw [(h.of_open e).1]; exact ⟨Nat.zero_le 1, iff_of_false nofun nofun⟩
  | true => rw [(h.of_closed e).1]; exact ⟨Nat.le_refl 1, iff_of_true rfl rfl⟩

theorem jobOK_open {j : JobSt} (c : j.closed = false) (h : j.closes = 0 ∧ j.first = none) : JobOK j :=
  ⟨fun _ => h, fun e => nomatch c.symm.trans e⟩

theorem closeDone_ok {j : JobSt} (ok : JobOK j) (hn : j.doneNil = false) (hc : j.closed = false) (e : Ev) :
    closeDone j e = .ok { j with closed := true, closes := 1, first := some e } := by
  unfold closeDone
  rw [hn, hc, (ok.of_open hc).1, (ok.of_open hc).2]
  rfl

/-- What a handle-thread `t` between its removal of the Job (pc 2) and its last store (pc 6)
knows about the Job in its local `j`. -/
def OwnsJ (j : JobSt) (t pc id : Nat) (ef : Bool) : Prop :=
  j.owner = some t ∧ j.id = id ∧
  (pc ≤ 5 → j.closed = false ∧ j.doneNil = false) ∧
  (pc = 3 → ef = true) ∧
  (pc = 4 ∨ pc = 5 → j.status = (evOf ef).status) ∧
  (pc = 6 → j.closed = true)

section
variable {j : JobSt} {t pc i : Nat} {ef : Bool} (h : OwnsJ j t pc i ef)
include h
theorem OwnsJ.owner : j.owner = some t := h.1
theorem OwnsJ.id : j.id = i := h.2.1
theorem OwnsJ.open_of_le5 (p : pc ≤ 5) : j.closed = false ∧ j.doneNil = false := h.2.2.1 p
theorem OwnsJ.flagged_at3 (p : pc = 3) : ef = true := h.2.2.2.1 p
theorem OwnsJ.status_at45 (p : pc = 4 ∨ pc = 5) : j.status = (evOf ef).status := h.2.2.2.2.1 p
theorem OwnsJ.closed_at6 (p : pc = 6) : j.closed = true := h.2.2.2.2.2 p
end

/-- entry `i ↦ r` of the pending table is sound -/
def TabOK (s : St) (i r : Nat) : Prop :=
  r < s.nJobs ∧ (s.jobs r).id = i ∧ (s.jobs r).closed = false ∧ (s.jobs r).doneNil = false ∧
  (s.jobs r).owner = none

section
variable {s : St} {i r : Nat} (h : TabOK s i r)
include h
theorem TabOK.lt : r < s.nJobs := h.1
theorem TabOK.id : (s.jobs r).id = i := h.2.1
theorem TabOK.isOpen : (s.jobs r).closed = false := h.2.2.1
theorem TabOK.notNil : (s.jobs r).doneNil = false := h.2.2.2.1
theorem TabOK.free : (s.jobs r).owner = none := h.2.2.2.2
end

/-- thread-local knowledge of a handle-thread with local state `l` -/
def OwnOK (s : St) (t id : Nat) (ef : Bool) (l : Loc) : Prop :=
  2 ≤ l.pc → l.pc ≤ 6 → l.ref ≠ none ∧ ∀ r, l.ref = some r → r < s.nJobs ∧ OwnsJ (s.jobs r) t l.pc id ef

/-- thread t is a handle-thread -/
def isResult (prog : List Kind) (t : Nat) : Bool :=
  match prog[t]? with
  | some (.result ..) => true
  | _ => false

/-- Liveness bookkeeping of Job r: it is pending under its own number, or finished, or a
handle-thread that has taken it out of the table is on its way to close it. -/
def Kjob (prog : List Kind) (s : St) (r : Nat) : Prop :=
  s.table (s.jobs r).id = some r ∨ (s.jobs r).closed = true ∨
  ((s.jobs r).owner ≠ none ∧ ∀ t, (s.jobs r).owner = some t →
    isResult prog t = true ∧ 2 ≤ (s.loc t).pc ∧ (s.loc t).pc ≤ 5 ∧ (s.loc t).ref = some r)

/-- What may happen to one Job object in a step: its number is fixed, closes only grow, a closed
channel stays closed, the first finishing event is never replaced and a finished Job's Status,
Result and Error are frozen. -/
def JobLe (a b : JobSt) : Prop :=
  a.id = b.id ∧ a.closes ≤ b.closes ∧ (a.closed = true → b.closed = true) ∧
  (∀ e, a.first = some e → b.first = some e) ∧
  (a.closed = true → b.status = a.status ∧ b.result = a.result ∧ b.err = a.err)

section
variable {a b : JobSt} (h : JobLe a b)
include h
theorem JobLe.id : a.id = b.id := h.1
theorem JobLe.closed (c : a.closed = true) : b.closed = true := h.2.2.1 c
theorem JobLe.first {e : Ev} (f : a.first = some e) : b.first = some e := h.2.2.2.1 e f
theorem JobLe.frozen (c : a.closed = true) : b.status = a.status ∧ b.result = a.result ∧ b.err = a.err :=
  h.2.2.2.2 c
end

theorem jobLe_refl (a : JobSt) : JobLe a a :=
  ⟨rfl, Nat.le_refl _, id, fun _ => id, fun _ => ⟨rfl, rfl, rfl⟩⟩

theorem jobLe_trans {a b c : JobSt} (h1 : JobLe a b) (h2 : JobLe b c) : JobLe a c := by
  obtain ⟨a1, a2, a3, a4, a5⟩ := h1
  obtain ⟨b1, b2, b3, b4, b5⟩ := h2
  refine ⟨a1.trans b1, Nat.le_trans a2 b2, fun h => b3 (a3 h), fun e h => b4 e (a4 e h), fun h => ?_⟩
  obtain ⟨x1, x2, x3⟩ := a5 h
  obtain ⟨y1, y2, y3⟩ := b5 (a3 h)
  exact ⟨y1.trans x1, y2.trans x2, y3.trans x3⟩

/-- While its channel is open a consistent Job has no close and no first event on record, so any
write that keeps its number moves it forward. -/
theorem jobLe_of_open {a b : JobSt} (ok : JobOK a) (c : a.closed = false) (hi : a.id = b.id) : JobLe a b :=
  ⟨hi, (ok.of_open c).1 ▸ Nat.zero_le _, fun h => (nomatch c.symm.trans h),
    fun _ h => (nomatch (ok.of_open c).2.symm.trans h), fun h => (nomatch c.symm.trans h)⟩

/-- `JobLe` keeps the first event of a closed Job and freezes its fields; that the close counter is still 1
is `JobOK` of the later Job. -/
theorem JobLe.final {a b : JobSt} (le : JobLe a b) (oa : JobOK a) (ob : JobOK b) (hc : a.closed = true) :
    b.closed = true ∧ b.closes = 1 ∧ b.first = a.first ∧ b.status = a.status ∧ b.result = a.result ∧
    b.err = a.err ∧ b.id = a.id := by
  obtain ⟨fs, fr, fe⟩ := le.frozen hc
  obtain ⟨e, he, _⟩ := (oa.of_closed hc).2
  exact ⟨le.closed hc, (ob.of_closed (le.closed hc)).1, he ▸ le.first he, fs, fr, fe, le.id.symm⟩

def Mono (s s' : St) : Prop := s.nJobs ≤ s'.nJobs ∧ ∀ r, r < s.nJobs → JobLe (s.jobs r) (s'.jobs r)

theorem Mono.nJobs_le {s s' : St} (h : Mono s s') : s.nJobs ≤ s'.nJobs := h.1
theorem Mono.jobLe {s s' : St} (h : Mono s s') {r : Nat} (hr : r < s.nJobs) : JobLe (s.jobs r) (s'.jobs r) := h.2 r hr

theorem mono_refl (s : St) : Mono s s := ⟨Nat.le_refl _, fun _ _ => jobLe_refl _⟩

theorem mono_trans {a b c : St} (h1 : Mono a b) (h2 : Mono b c) : Mono a c :=
  ⟨Nat.le_trans h1.nJobs_le h2.nJobs_le,
    fun _ hr => jobLe_trans (h1.jobLe hr) (h2.jobLe (Nat.lt_of_lt_of_le hr h1.nJobs_le))⟩

structure Inv (prog : List Kind) (s : St) : Prop where
  noLock : s.lockHeld = false
  noPanic : ∀ t, (s.loc t).out ≠ .panicClosed ∧ (s.loc t).out ≠ .panicNil
  tab : ∀ i r, s.table i = some r → TabOK s i r
  jobs : ∀ r, r < s.nJobs → JobOK (s.jobs r)
  outJob : ∀ t r, (s.loc t).out = .job r → r < s.nJobs
  own : ∀ t id ef tag, prog[t]? = some (.result id ef tag) → OwnOK s t id ef (s.loc t)
  live : ∀ r, r < s.nJobs → Kjob prog s r

/-- a step relation: the invariant holds afterwards and every Job object only moved forward -/
def Good (prog : List Kind) (s s' : St) : Prop := Inv prog s' ∧ Mono s s'

theorem good_refl {prog : List Kind} {s : St} (h : Inv prog s) : Good prog s s := ⟨h, mono_refl s⟩

/-- what a single action does: the invariant holds afterwards, every Job has only moved forward, and
the table changed by at most one insert or delete, `count` following it -/
def StepOK (prog : List Kind) (s s' : St) : Prop := Good prog s s' ∧ TabStep s.table s.count s'.table s'.count

theorem StepOK.good {prog : List Kind} {s s' : St} (h : StepOK prog s s') : Good prog s s' := h.1
theorem StepOK.tabStep {prog : List Kind} {s s' : St} (h : StepOK prog s s') :
    TabStep s.table s.count s'.table s'.count := h.2

theorem stepOK_refl {prog : List Kind} {s : St} (h : Inv prog s) : StepOK prog s s :=
  ⟨good_refl h, tabStep_refl _ _⟩

theorem inv_init (prog : List Kind) : Inv prog {} := by
  constructor <;> simp [OwnOK]

section
variable {prog : List Kind} {s : St}

theorem isResult_of {t id : Nat} {ef : Bool} {tag : Nat}
    (hk : prog[t]? = some (.result id ef tag)) : isResult prog t = true := by rw [isResult, hk]

theorem isResult_lt {t : Nat} (h : isResult prog t = true) : t < prog.length := by
  unfold isResult at h
  cases e : prog[t]? with
  | none => rw [e] at h; cases h
  | some k => exact (List.getElem?_eq_some_iff.mp e).1

/-- what a thread may have returned while there are `n` Job objects -/
abbrev OutOK (n : Nat) (o : Out) : Prop := o ≠ .panicClosed ∧ o ≠ .panicNil ∧ ∀ r, o = .job r → r < n

theorem Inv.outOK (h : Inv prog s) (t : Nat) : OutOK s.nJobs (s.loc t).out :=
  ⟨(h.noPanic t).1, (h.noPanic t).2, h.outJob t⟩

/-- the `own` clause with the Job named: the one a handle-thread holds between its lookup and its last store -/
theorem Inv.owned (h : Inv prog s) {t id : Nat} {ef : Bool} {tag : Nat} (hk : prog[t]? = some (.result id ef tag))
    (h2 : 2 ≤ (s.loc t).pc) (h6 : (s.loc t).pc ≤ 6) :
    ∃ r, (s.loc t).ref = some r ∧ r < s.nJobs ∧ OwnsJ (s.jobs r) t (s.loc t).pc id ef := by
  obtain ⟨hn, hr⟩ := h.own t id ef tag hk h2 h6
  obtain ⟨r, e⟩ := Option.ne_none_iff_exists'.1 hn
  exact ⟨r, e, hr r e⟩

/-- the `live` clause for a Job whose channel is open -/
theorem Inv.live_open (h : Inv prog s) {r : Nat} (hr : r < s.nJobs) (hc : (s.jobs r).closed = false) :
    s.table (s.jobs r).id = some r ∨
    ∃ t, (s.jobs r).owner = some t ∧ isResult prog t = true ∧ 2 ≤ (s.loc t).pc ∧ (s.loc t).pc ≤ 5 ∧
      (s.loc t).ref = some r := by
  rcases h.live r hr with a | a | ⟨hn, a⟩
  · exact Or.inl a
  · exact nomatch hc.symm.trans a
  · obtain ⟨t, e⟩ := Option.ne_none_iff_exists'.1 hn
    exact Or.inr ⟨t, e, a t e⟩

theorem Inv.quiescent (h : Inv prog s) (hq : ∀ t, t < prog.length → (s.loc t).pc = fin) {r : Nat} (hr : r < s.nJobs) :
    s.table (s.jobs r).id = some r ∨ (s.jobs r).closed = true := by
  cases hc : (s.jobs r).closed with
  | true => exact Or.inr rfl
  | false =>
    rcases h.live_open hr hc with a | ⟨t, _, hres, _, h5, _⟩
    · exact Or.inl a
    · rw [hq t (isResult_lt hres)] at h5; exact absurd h5 (by decide)

theorem Good.final {s' : St} (hi : Inv prog s) (g : Good prog s s') {r : Nat} (hr : r < s.nJobs)
    (hc : (s.jobs r).closed = true) :
    (s'.jobs r).closed = true ∧ (s'.jobs r).closes = 1 ∧ (s'.jobs r).first = (s.jobs r).first ∧
    (s'.jobs r).status = (s.jobs r).status ∧ (s'.jobs r).result = (s.jobs r).result ∧
    (s'.jobs r).err = (s.jobs r).err ∧ (s'.jobs r).id = (s.jobs r).id :=
  (g.2.jobLe hr).final (hi.jobs r hr) (g.1.jobs r (Nat.lt_of_lt_of_le hr g.2.nJobs_le)) hc

/-- thread `t` holds no Job: it is no handle-thread, or one that has not yet looked its Job up -/
abbrev Idle (prog : List Kind) (s : St) (t : Nat) : Prop := ¬(isResult prog t = true ∧ 2 ≤ (s.loc t).pc)

/-- Frame lemma. A step writes one Job object `r` (possibly a new one) and the locals of the thread `t`
that takes it, and changes only table entries that point to `r`. It preserves the invariant if no
other handle-thread holds `r`, the new `r` is consistent, moved forward and accounted for (pending,
finished, or in the hands of `t`), and `t` knows afterwards what it must know. -/
theorem inv_frame {s' : St} {t r : Nat} {l' : Loc} {j' : JobSt} (h : Inv prog s)
    (h1 : s'.lockHeld = false) (hl : s'.loc = upd s.loc t l') (hj : s'.jobs = upd s.jobs r j')
    (hn : s.nJobs ≤ s'.nJobs) (hnew : ∀ r', r' < s'.nJobs → r' ≠ r → r' < s.nJobs)
    (ht : ∀ i r', r' ≠ r → (s'.table i = some r' ↔ s.table i = some r'))
    (hold : r < s.nJobs → JobLe (s.jobs r) j' ∧ ∀ t', (s.jobs r).owner = some t' → t' = t)
    (hok : r < s'.nJobs → JobOK j' ∧ (s'.table j'.id = some r ∨ j'.closed = true ∨
      (j'.owner = some t ∧ isResult prog t = true ∧ 2 ≤ l'.pc ∧ l'.pc ≤ 5 ∧ l'.ref = some r)))
    (htab : ∀ i, s'.table i = some r →
      r < s'.nJobs ∧ j'.id = i ∧ j'.closed = false ∧ j'.doneNil = false ∧ j'.owner = none)
    (hout : OutOK s'.nJobs l'.out)
    (hown : ∀ id ef tag, prog[t]? = some (.result id ef tag) → 2 ≤ l'.pc → l'.pc ≤ 6 →
      l'.ref = some r ∧ r < s'.nJobs ∧ OwnsJ j' t l'.pc id ef)
    (hlive : ∀ r', r' ≠ r → isResult prog t = true → 2 ≤ (s.loc t).pc → (s.loc t).pc ≤ 5 →
      (s.loc t).ref = some r' → 2 ≤ l'.pc ∧ l'.pc ≤ 5 ∧ l'.ref = some r') :
    Good prog s s' := by
  have lt : s'.loc t = l' := hl ▸ upd_same ..
  have lo : ∀ t', t' ≠ t → s'.loc t' = s.loc t' := fun t' n => hl ▸ upd_other _ _ _ _ n
  have jr : s'.jobs r = j' := hj ▸ upd_same ..
  have jo : ∀ r', r' ≠ r → s'.jobs r' = s.jobs r' := fun r' n => hj ▸ upd_other _ _ _ _ n
  refine ⟨⟨h1, ?noPanic, ?tab, ?jobs, ?outJob, ?own, ?live⟩, hn, ?mono⟩
  case noPanic =>
    intro t'
    by_cases e : t' = t
    · subst e; rw [lt]; exact ⟨hout.1, hout.2.1⟩
    · rw [lo t' e]; exact h.noPanic t'
  case outJob =>
    intro t' r'
    by_cases e : t' = t
    · subst e; rw [lt]; exact hout.2.2 r'
    · rw [lo t' e]; exact fun a => Nat.lt_of_lt_of_le (h.outJob t' r' a) hn
  case tab =>
    intro i r' a
    unfold TabOK
    by_cases n : r' = r
    · subst n; rw [jr]; exact htab i a
    · have tk := h.tab i r' ((ht i r' n).1 a)
      rw [jo r' n]; exact ⟨Nat.lt_of_lt_of_le tk.lt hn, tk.2⟩
  case jobs =>
    intro r' hr'
    by_cases n : r' = r
    · subst n; rw [jr]; exact (hok hr').1
    · rw [jo r' n]; exact h.jobs r' (hnew r' hr' n)
  case mono =>
    intro r' hr'
    by_cases n : r' = r
    · subst n; rw [jr]; exact (hold hr').1
    · rw [jo r' n]; exact jobLe_refl _
  case own =>
    intro t' id ef tag hk
    by_cases e : t' = t
    · subst e; rw [lt]
      intro ha hb
      obtain ⟨a, b, c⟩ := hown id ef tag hk ha hb
      refine ⟨a ▸ nofun, fun r0 e0 => ?_⟩
      cases a.symm.trans e0
      rw [jr]; exact ⟨b, c⟩
    · rw [lo t' e]
      intro ha hb
      obtain ⟨hne, hr⟩ := h.own t' id ef tag hk ha hb
      refine ⟨hne, fun r' e' => ?_⟩
      obtain ⟨hlt, ow⟩ := hr r' e'
      have n : r' ≠ r := by rintro rfl; exact e ((hold hlt).2 t' ow.1)
      rw [jo r' n]; exact ⟨Nat.lt_of_lt_of_le hlt hn, ow⟩
  case live =>
    intro r' hr'
    unfold Kjob
    by_cases n : r' = r
    · subst n; rw [jr]
      rcases (hok hr').2 with a | a | ⟨a, b⟩
      · exact Or.inl a
      · exact Or.inr (Or.inl a)
      · refine Or.inr (Or.inr ⟨a ▸ nofun, fun t0 e0 => ?_⟩)
        cases a.symm.trans e0
        rw [lt]; exact b
    · rw [jo r' n]
      rcases h.live r' (hnew r' hr' n) with a | a | ⟨a, b⟩
      · exact Or.inl ((ht _ r' n).2 a)
      · exact Or.inr (Or.inl a)
      · refine Or.inr (Or.inr ⟨a, fun t0 e0 => ?_⟩)
        obtain ⟨b1, b2, b3, b4⟩ := b t0 e0
        by_cases e : t0 = t
        · subst e; rw [lt]; exact ⟨b1, hlive r' n b1 b2 b3 b4⟩
        · rw [lo t0 e]; exact ⟨b1, b2, b3, b4⟩

/-- Only the locals of `t` change, and `t` holds no Job before or after: any thread other than a
handle-thread, and a handle-thread before its lookup (`hpc`: it does not move to a pc at which it would hold one). -/
theorem inv_frame_loc (h : Inv prog s) {t : Nat} {l' : Loc} (hi : Idle prog s t)
    (hpc : isResult prog t = true → l'.pc < 2 ∨ 6 < l'.pc)
    (hout : OutOK s.nJobs l'.out) : StepOK prog s (setLoc s t l') :=
  -- no Job is written: the frame lemma is used with the Job object that does not exist yet
  have n := Nat.lt_irrefl s.nJobs
  ⟨inv_frame h h.noLock rfl (upd_self s.jobs s.nJobs).symm (Nat.le_refl _) (fun _ a _ => a) (fun _ _ _ => Iff.rfl)
    (hold := fun a => absurd a n) (hok := fun a => absurd a n) (htab := fun i a => absurd (h.tab i _ a).lt n)
    (hout := hout) (hown := fun _ _ _ hk h2 h6 => by have := hpc (isResult_of hk); omega)
    (hlive := fun _ _ a b _ _ => absurd ⟨a, b⟩ hi),
    tabStep_refl _ _⟩

theorem inv_frame_finish (h : Inv prog s) {t : Nat} {o : Out} (hi : Idle prog s t) (ho : o.isPanic = false)
    (hj : ∀ r, o ≠ .job r) : StepOK prog s (finish s t o) :=
  have ⟨a, b⟩ := Out.isPanic_eq_false.1 ho
  inv_frame_loc h hi (fun _ => Or.inr (show 6 < fin by decide)) ⟨a, b, fun r e => absurd e (hj r)⟩

/-- the move to pc 1 (`goto s t 1`; Task also stores the number it drew) -/
theorem inv_frame_goto (h : Inv prog s) {t n : Nat} (hi : Idle prog s t) :
    StepOK prog s (setLoc s t { s.loc t with pc := 1, n := n }) :=
  inv_frame_loc h hi (fun _ => Or.inl (show 1 < 2 by decide)) (h.outOK t)

/-- A handle-thread `t` that has taken Job `r` out of the table writes to it and moves on to `pc'`: no
table entry and no other handle-thread refers to `r`. -/
theorem inv_frame_job {t id : Nat} {ef : Bool} {tag r : Nat} (h : Inv prog s)
    (hk : prog[t]? = some (.result id ef tag)) (hr : r < s.nJobs) (ho : (s.jobs r).owner = some t)
    (e : (s.loc t).ref = some r) {j' : JobSt} {pc' : Nat} {o : Out} (hle : JobLe (s.jobs r) j') (hok : JobOK j')
    (h2 : 2 ≤ pc') (hown : pc' ≤ 6 → OwnsJ j' t pc' id ef) (hlive : j'.closed = true ∨ pc' ≤ 5)
    (hout : OutOK s.nJobs o) :
    StepOK prog s (setLoc (setJob s r j') t { s.loc t with pc := pc', out := o }) :=
  ⟨inv_frame h h.noLock rfl rfl (Nat.le_refl _) (fun _ a _ => a) (fun _ _ _ => Iff.rfl)
    (hold := fun _ => ⟨hle, fun t' a => Option.some.inj (a.symm.trans ho)⟩)
    (hok := fun _ => ⟨hok, hlive.elim (fun c => .inr (.inl c))
      (fun c => .inr (.inr ⟨(hown (by omega)).1, isResult_of hk, h2, c, e⟩))⟩)
    (htab := fun i a => nomatch (h.tab i r a).free.symm.trans ho) (hout := hout)
    (hown := fun _ _ _ hk' _ h6 => by cases hk.symm.trans hk'; exact ⟨e, hr, hown h6⟩)
    (hlive := fun r' n _ _ _ e' => absurd (Option.some.inj (e'.symm.trans e)) n),
    tabStep_refl _ _⟩

/-- A thread that holds no Job takes Job `r`, pending under `i`, out of the table (one locked action) and
writes to it: the Job must end up finished or in the hands of `t`. -/
theorem inv_frame_take {t i r : Nat} (h : Inv prog s) (hi : Idle prog s t) (ht : s.table i = some r)
    {j' : JobSt} {l' : Loc} (hle : JobLe (s.jobs r) j') (hok : JobOK j')
    (hown : ∀ id ef tag, prog[t]? = some (.result id ef tag) → 2 ≤ l'.pc → l'.pc ≤ 6 →
      l'.ref = some r ∧ OwnsJ j' t l'.pc id ef)
    (hlive : j'.closed = true ∨
      (j'.owner = some t ∧ isResult prog t = true ∧ 2 ≤ l'.pc ∧ l'.pc ≤ 5 ∧ l'.ref = some r))
    (hout : OutOK s.nJobs l'.out) :
    StepOK prog s
      (setLoc { s with table := upd s.table i none, count := s.count - 1, jobs := upd s.jobs r j' } t l') :=
  have tk := h.tab i r ht
  ⟨inv_frame h h.noLock rfl rfl (Nat.le_refl _) (fun _ a _ => a)
    (ht := fun _ r' n => upd_eq_some_iff (ht ▸ fun a => n (Option.some.inj a).symm) nofun)
    (hold := fun _ => ⟨hle, fun t' a => nomatch tk.free.symm.trans a⟩) (hok := fun _ => ⟨hok, .inr hlive⟩)
    (htab := fun k a => by
      -- no entry points to `r` any more: the one under `i` is gone, and `r` has number `i`
      replace a : upd s.table i none k = some r := a
      rw [upd_apply] at a; split at a
      · cases a
      · rename_i n; exact absurd ((h.tab k r a).id.symm.trans tk.id) n)
    (hout := hout) (hown := fun id ef tag hk h2 h6 => have ⟨a, b⟩ := hown id ef tag hk h2 h6; ⟨a, tk.lt, b⟩)
    (hlive := fun _ _ a b _ _ => absurd ⟨a, b⟩ hi),
    .inr (.inr ⟨i, r, ht, rfl, rfl⟩)⟩

/-- A thread that holds no Job stores Status, Frags, Current of the Job pending under `i` and returns
(one locked action): none of the fields the invariant speaks of while the channel is open. -/
theorem inv_frame_pending {t i r a b c : Nat} (h : Inv prog s) (hi : Idle prog s t) (ht : s.table i = some r) :
    StepOK prog s (finish (setJob s r { s.jobs r with status := a, frags := b, current := c }) t .ret) :=
  have tk := h.tab i r ht
  have ok := h.jobs r tk.lt
  ⟨inv_frame h h.noLock rfl rfl (Nat.le_refl _) (fun _ a _ => a) (fun _ _ _ => Iff.rfl)
    (hold := fun _ => ⟨jobLe_of_open ok tk.isOpen rfl, fun t' a => nomatch tk.free.symm.trans a⟩)
    (hok := fun _ => ⟨jobOK_open tk.isOpen (ok.of_open tk.isOpen), .inl (tk.id.symm ▸ ht)⟩)
    (htab := fun k a => h.tab k r a) (hout := ⟨nofun, nofun, nofun⟩)
    (hown := fun _ _ _ _ _ h6 => absurd h6 (show ¬fin ≤ 6 by decide))
    (hlive := fun _ _ a b _ _ => absurd ⟨a, b⟩ hi),
    tabStep_refl _ _⟩

/-- A thread that holds no Job registers a new Job object under a number that is free (one locked action). -/
theorem inv_frame_insert {t i : Nat} (h : Inv prog s) (hi : Idle prog s t) (hn : s.table i = none) {p' : List Nat} :
    StepOK prog s (finish { s with jobs := upd s.jobs s.nJobs { id := i }, nJobs := s.nJobs + 1,
                                     table := upd s.table i (some s.nJobs), count := s.count + 1, pub := p' }
      t (.job s.nJobs)) :=
  ⟨inv_frame h h.noLock rfl rfl (Nat.le_succ _) (fun r' a n => Nat.lt_of_le_of_ne (Nat.le_of_lt_succ a) n)
    (ht := fun _ r' n => upd_eq_some_iff (hn ▸ nofun) (fun a => n (Option.some.inj a).symm))
    (hold := fun a => absurd a (Nat.lt_irrefl _))
    (hok := fun _ => ⟨⟨fun _ => ⟨rfl, rfl⟩, nofun⟩, .inl (upd_same ..)⟩)
    (htab := fun k a => by
      -- the only entry that points to the new object is the new one: the old ones point below `s.nJobs`
      replace a : upd s.table i (some s.nJobs) k = some s.nJobs := a
      rw [upd_apply] at a; split at a
      · rename_i e; exact ⟨Nat.lt_succ_self _, e.symm, rfl, rfl, rfl⟩
      · exact absurd (h.tab k _ a).lt (Nat.lt_irrefl _))
    (hout := ⟨nofun, nofun, fun r e => by cases e; exact Nat.lt_succ_self _⟩)
    (hown := fun _ _ _ _ _ h6 => absurd h6 (show ¬fin ≤ 6 by decide))
    (hlive := fun _ _ a b _ _ => absurd ⟨a, b⟩ hi),
    .inr (.inl ⟨i, s.nJobs, hn, rfl, rfl⟩)⟩

theorem stepOK_taskF {t id : Nat} {draws : List Nat} {wf : Bool}
    (hk : prog[t]? = some (.task id draws wf)) (h : Inv prog s) : StepOK prog s (taskF s t id draws wf) := by
  have hi : Idle prog s t := by simp [isResult, hk]
  unfold taskF
  dsimp only
  split
  · split
    · split
      · exact stepOK_refl h
      · split
        · exact inv_frame_finish h hi rfl nofun
        · exact inv_frame_goto h hi
    · exact inv_frame_goto h hi
  · split
    · exact stepOK_refl h
    · split
      · exact inv_frame_finish h hi rfl nofun
      · rename_i hn
        split
        · exact inv_frame_finish h hi rfl nofun
        · exact inv_frame_insert h hi hn
  · exact stepOK_refl h

theorem stepOK_resultF {t id : Nat} {ef : Bool} {tag : Nat}
    (hk : prog[t]? = some (.result id ef tag)) (h : Inv prog s) : StepOK prog s (resultF s t id ef tag) := by
  have own : ∀ r, 2 ≤ (s.loc t).pc → (s.loc t).pc ≤ 6 → (s.loc t).ref = some r →
      r < s.nJobs ∧ OwnsJ (s.jobs r) t (s.loc t).pc id ef ∧ JobOK (s.jobs r) := fun r h2 h6 e =>
    have a := (h.own t id ef tag hk h2 h6).2 r e
    ⟨a.1, a.2, h.jobs r a.1⟩
  unfold resultF
  dsimp only
  -- the cases are the pcs of `resultF` in order: 0 … 6, then the thread that has returned
  split
  next h0 =>
    have hi : Idle prog s t := by omega
    split
    · exact inv_frame_finish h hi rfl nofun
    · exact inv_frame_goto h hi
  next h0 =>
    have hi : Idle prog s t := by omega
    split
    · exact stepOK_refl h
    · split
      · exact inv_frame_finish h hi rfl nofun
      · rename_i r ht
        have tk := h.tab id r ht
        exact inv_frame_take h hi ht (jobLe_refl _) (h.jobs r tk.lt)
          (fun _ _ _ hk' _ _ => by
            cases hk.symm.trans hk'
            exact ⟨rfl, rfl, tk.id, fun _ => ⟨tk.isOpen, tk.notNil⟩, nofun, nofun, nofun⟩)
          (Or.inr ⟨rfl, isResult_of hk, Nat.le_refl 2, (by decide : 2 ≤ 5), rfl⟩) (h.outOK t)
  next h0 =>
    split
    · exact stepOK_refl h
    · rename_i r e
      obtain ⟨hr, ow, ok⟩ := own r (by omega) (by omega) e
      obtain ⟨c, d⟩ := ow.open_of_le5 (by omega)
      cases ef
      · exact inv_frame_job (pc' := 4) h hk hr ow.owner e (jobLe_of_open ok c rfl) (jobOK_open c (ok.of_open c))
          (by decide) (fun _ => ⟨ow.owner, ow.id, fun _ => ⟨c, d⟩, nofun, fun _ => rfl, nofun⟩)
          (Or.inr (by decide)) (h.outOK t)
      · exact inv_frame_job (pc' := 3) h hk hr ow.owner e (jobLe_of_open ok c rfl) (jobOK_open c (ok.of_open c))
          (by decide) (fun _ => ⟨ow.owner, ow.id, fun _ => ⟨c, d⟩, fun _ => rfl, by omega, nofun⟩)
          (Or.inr (by decide)) (h.outOK t)
  next h0 =>
    split
    · exact stepOK_refl h
    · rename_i r e
      obtain ⟨hr, ow, ok⟩ := own r (by omega) (by omega) e
      obtain ⟨c, d⟩ := ow.open_of_le5 (by omega)
      cases ow.flagged_at3 h0
      exact inv_frame_job (pc' := 4) h hk hr ow.owner e (jobLe_of_open ok c rfl) (jobOK_open c (ok.of_open c))
        (by decide) (fun _ => ⟨ow.owner, ow.id, fun _ => ⟨c, d⟩, nofun, fun _ => rfl, nofun⟩)
        (Or.inr (by decide)) (h.outOK t)
  next h0 =>
    split
    · exact stepOK_refl h
    · rename_i r e
      obtain ⟨hr, ow, ok⟩ := own r (by omega) (by omega) e
      obtain ⟨c, d⟩ := ow.open_of_le5 (by omega)
      -- the load finds the field non-nil: only this thread stores nil, at pc 6
      rw [if_neg (by rw [d]; nofun)]
      have g := inv_frame_job (pc' := 5) h hk hr ow.owner e (jobLe_refl _) ok (by decide)
        (fun _ => ⟨ow.owner, ow.id, fun _ => ⟨c, d⟩, nofun, fun _ => ow.status_at45 (.inl h0), nofun⟩)
        (Or.inr (by decide)) (h.outOK t)
      rwa [setJob_self] at g
  next h0 =>
    split
    · exact stepOK_refl h
    · rename_i r e
      obtain ⟨hr, ow, ok⟩ := own r (by omega) (by omega) e
      obtain ⟨c, d⟩ := ow.open_of_le5 (by omega)
      -- the close succeeds, and the closed Job is consistent because its Status was stored before
      rw [closeDone_ok ok d c]
      exact inv_frame_job (pc' := 6) h hk hr ow.owner e (jobLe_of_open ok c rfl)
        ⟨nofun, fun _ => ⟨rfl, _, rfl, ow.status_at45 (.inr h0)⟩⟩ (by decide)
        (fun _ => ⟨ow.owner, ow.id, nofun, nofun, nofun, fun _ => rfl⟩) (Or.inl rfl) (h.outOK t)
  next h0 =>
    split
    · exact stepOK_refl h
    · rename_i r e
      obtain ⟨hr, ow, ok⟩ := own r (by omega) (by omega) e
      exact inv_frame_job h hk hr ow.owner e (jobLe_refl _) ok (show 2 ≤ fin by decide)
        (fun h6 => absurd h6 (by decide)) (Or.inl (ow.closed_at6 h0)) ⟨nofun, nofun, nofun⟩
  · exact stepOK_refl h

theorem stepOK_cancelF {t k : Nat}
    (hk : prog[t]? = some (.cancel k)) (h : Inv prog s) : StepOK prog s (cancelF s t k) := by
  have hi : Idle prog s t := by simp [isResult, hk]
  unfold cancelF
  dsimp only
  split
  · exact stepOK_refl h
  · split
    · exact inv_frame_finish h hi rfl nofun
    · exact stepOK_refl h
  · rename_i r _
    split
    · split
      · exact inv_frame_finish h hi rfl nofun
      · exact inv_frame_goto h hi
    · split
      · exact stepOK_refl h
      · split
        · rename_i ht
          have tk := h.tab _ r ht
          have ok := h.jobs r tk.lt
          rw [closeDone_ok ok tk.notNil tk.isOpen]
          exact inv_frame_take h hi ht (jobLe_of_open ok tk.isOpen rfl) ⟨nofun, fun _ => ⟨rfl, _, rfl, rfl⟩⟩
            (fun _ _ _ hk' => nomatch hk.symm.trans hk') (Or.inl rfl) ⟨nofun, nofun, nofun⟩
        · exact inv_frame_finish h hi rfl nofun
    · exact stepOK_refl h

theorem stepOK_waitF {t k : Nat}
    (hk : prog[t]? = some (.wait k)) (h : Inv prog s) : StepOK prog s (waitF s t k) := by
  have hi : Idle prog s t := by simp [isResult, hk]
  unfold waitF
  dsimp only
  split
  · exact stepOK_refl h
  · split
    · exact inv_frame_finish h hi rfl nofun
    · exact stepOK_refl h
  · split
    · split
      · exact inv_frame_finish h hi rfl nofun
      · exact inv_frame_goto h hi
    · split
      · exact inv_frame_finish h hi rfl nofun
      · exact stepOK_refl h
    · exact stepOK_refl h

theorem stepOK_isDoneF {t k : Nat}
    (hk : prog[t]? = some (.isDone k)) (h : Inv prog s) : StepOK prog s (isDoneF s t k) := by
  have hi : Idle prog s t := by simp [isResult, hk]
  unfold isDoneF
  dsimp only
  split
  · exact stepOK_refl h
  · split
    · exact inv_frame_finish h hi rfl nofun
    · exact stepOK_refl h
  · split
    · split
      · exact inv_frame_finish h hi rfl nofun
      · exact inv_frame_goto h hi
    · exact inv_frame_finish h hi rfl nofun
    · exact stepOK_refl h

theorem stepOK_acceptF {t id : Nat}
    (hk : prog[t]? = some (.accept id)) (h : Inv prog s) : StepOK prog s (acceptF s t id) := by
  have hi : Idle prog s t := by simp [isResult, hk]
  unfold acceptF
  dsimp only
  split
  · split
    · exact inv_frame_finish h hi rfl nofun
    · exact inv_frame_goto h hi
  · split
    · exact stepOK_refl h
    · split
      · exact inv_frame_finish h hi rfl nofun
      · rename_i r ht
        exact inv_frame_pending h hi ht
  · exact stepOK_refl h

theorem stepOK_fragF {t id mx cur : Nat}
    (hk : prog[t]? = some (.frag id mx cur)) (h : Inv prog s) : StepOK prog s (fragF s t id mx cur) := by
  have hi : Idle prog s t := by simp [isResult, hk]
  unfold fragF
  dsimp only
  split
  · split
    · exact inv_frame_finish h hi rfl nofun
    · exact inv_frame_goto h hi
  · split
    · exact stepOK_refl h
    · split
      · exact inv_frame_finish h hi rfl nofun
      · rename_i r ht
        exact inv_frame_pending h hi ht
  · exact stepOK_refl h

end

/-- Induction along a schedule, for this machine and the sub-step one. -/
theorem foldl_invariant {σ : Type} {step : σ → Nat → σ} {I : σ → Prop} {R : σ → σ → Prop}
    (refl : ∀ s, R s s) (trans : ∀ {a b c}, R a b → R b c → R a c)
    (hstep : ∀ s t, I s → I (step s t) ∧ R s (step s t)) (sched : List Nat) (s : σ) (hs : I s) :
    I (sched.foldl step s) ∧ R s (sched.foldl step s) :=
  List.foldlRecOn (motive := fun s' => I s' ∧ R s s') sched step ⟨hs, refl s⟩
    fun s' h t _ => ⟨(hstep s' t h.1).1, trans h.2 (hstep s' t h.1).2⟩

theorem stepOK_stepF {prog : List Kind} {s : St} {t : Nat} (h : Inv prog s) : StepOK prog s (stepF prog s t) := by
  unfold stepF
  split
  · exact stepOK_refl h
  · rename_i k hk
    cases k with
    | task id draws wf => exact stepOK_taskF hk h
    | result id ef tag => exact stepOK_resultF hk h
    | cancel k => exact stepOK_cancelF hk h
    | wait k => exact stepOK_waitF hk h
    | isDone k => exact stepOK_isDoneF hk h
    | accept id => exact stepOK_acceptF hk h
    | frag id mx cur => exact stepOK_fragF hk h

/-- Every atomic action of every thread preserves the invariant and moves every Job forward. -/
theorem good_stepF (prog : List Kind) (s : St) (t : Nat) (h : Inv prog s) : Good prog s (stepF prog s t) :=
  (stepOK_stepF h).good

theorem inv_stepF (prog : List Kind) (s : St) (t : Nat) (h : Inv prog s) : Inv prog (stepF prog s t) :=
  (good_stepF prog s t h).1

theorem good_runF (prog : List Kind) (sched : List Nat) (s : St) (h : Inv prog s) :
    Good prog s (runF prog s sched) :=
  foldl_invariant (I := Inv prog) (R := Mono) mono_refl mono_trans (good_stepF prog) sched s h

theorem inv_runF (prog : List Kind) (sched : List Nat) (s : St) (h : Inv prog s) :
    Inv prog (runF prog s sched) := (good_runF prog sched s h).1

/-- the rest of the longer schedule is a run from the state the shorter one leads to -/
theorem good_of_prefix {prog : List Kind} {s : St} (h : Inv prog s) {a b : List Nat} (hp : a <+: b) :
    Good prog (runF prog s a) (runF prog s b) := by
  obtain ⟨more, rfl⟩ := hp
  rw [show runF prog s (a ++ more) = runF prog (runF prog s a) more from List.foldl_append ..]
  exact good_runF prog more _ (inv_runF prog a s h)

theorem countIs_runF (prog : List Kind) (sched : List Nat) (s : St) (h : Inv prog s)
    (hc : CountIs s.table s.count) : CountIs (runF prog s sched).table (runF prog s sched).count :=
  countIs_foldl St.table St.count (fun s t h => ⟨inv_stepF prog s t h, (stepOK_stepF h).tabStep⟩) sched s h hc

end XMT.Job
