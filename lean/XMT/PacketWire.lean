/-
  The top-level wire form read back from a stream with short reads, field by field (`readTags_ok`,
  `readLen_ok`, `readPayload_ok` over `Chunk.ReadFrom`, each a `Reads` over the stream's flattening),
  up to `unmarshal_marshal`.
-/
import XMT.PacketLemmas
import XMT.ChunkReadFrom
namespace XMT.Packet
open XMT.Codec

theorem readTags_ok (tags : List Nat) (ht : ∀ t ∈ tags, 0 < t ∧ t < 2^32) :
    Reads List.flatten NoEmpty (readTags tags.length) (tagBytes tags) tags := by
  induction tags with
  | nil => exact Reads.ret _
  | cons t ts ih =>
    intro s r hi h
    rw [tagBytes_cons, List.append_assoc] at h
    have ht1 := ht t List.mem_cons_self
    obtain ⟨s1, e1, a1, i1⟩ := readExact_ok (be32 t) 4 rfl s _ hi h
    obtain ⟨s2, e2, a2, i2⟩ := ih (fun x hx => ht x (List.mem_cons_of_mem _ hx)) s1 r i1 a1
    exact ⟨s2, by simp only [List.length_cons, readTags, e1, be32, ofBe32_be32 t ht1.2,
      if_neg (Nat.ne_of_gt ht1.1), e2], a2, i2⟩

theorem readLen_ok (l : Nat) (hl : l < 2^64) :
    Reads List.flatten NoEmpty (readLen (lenClass l).1) (lenClass l).2 l := by
  have K := Codec.limitsOK
  intro s r hi
  unfold lenClass
  split
  · rename_i c0
    exact fun h => ⟨s, by rw [readLen, if_pos rfl, c0], h, hi⟩
  split
  · intro h
    obtain ⟨s1, e1, a1, i1⟩ := readExact_ok [byteOf l] 1 rfl s r hi h
    have : l % 256 = l := Nat.mod_eq_of_lt (by have := K.small; omega)
    exact ⟨s1, by simp [readLen, e1, this], a1, i1⟩
  split
  · intro h
    obtain ⟨s1, e1, a1, i1⟩ := readExact_ok (be16 l) 2 rfl s r hi h
    exact ⟨s1, by simp [readLen, e1, be16, ofBe16_be16 l (by have := K.medium; omega)], a1, i1⟩
  split
  · intro h
    obtain ⟨s1, e1, a1, i1⟩ := readExact_ok (be32 l) 4 rfl s r hi h
    exact ⟨s1, by simp [readLen, e1, be32, ofBe32_be32 l (by have := K.large; omega)], a1, i1⟩
  · intro h
    obtain ⟨s1, e1, a1, i1⟩ := readExact_ok (be64 l) 8 rfl s r hi h
    exact ⟨s1, by simp [readLen, e1, be64, ofBe64_be64 l hl], a1, i1⟩

variable (cf : Nat → Nat)

theorem readPayload_ok (pay : Bytes) (hp : pay.length ≤ Facts.maxSlice) :
    Reads List.flatten NoEmpty (readPayload cf pay.length) pay pay := by
  intro s r hi h
  have hms := Chunk.Chunk.maxSlice_small
  by_cases h0 : pay.length = 0
  · rw [List.length_eq_zero_iff.mp h0] at h ⊢
    exact ⟨s, rfl, h, hi⟩
  · have hfl : pay.length ≤ s.flatten.length := by rw [h]; simp
    -- one `ReadFrom` into the fresh chunk with `Limit = len` reads exactly `len` bytes …
    obtain ⟨c1, s1, hrf, -, -, -, u1, -, f1, ne1⟩ :=
      Chunk.Chunk.readFrom_spec cf (L := pay.length) (by omega) (by omega) (Chunk.Chunk.inv_empty _) rfl rfl hi
    have hk : min ((pay.length : Int).toNat - (Chunk.empty (pay.length : Int)).len) s.flatten.length
        = pay.length := by
      rw [show (Chunk.empty (pay.length : Int)).len = 0 from rfl, Int.toNat_natCast, Nat.sub_zero]
      exact Nat.min_eq_left hfl
    rw [hk] at hrf u1 f1
    -- … so the loop of `readBody` goes round once
    have hbl : bodyLoop cf (s.flatten.length + 2) (Chunk.empty pay.length) s 0 pay.length
        = (c1, pay.length, s1) := by
      rw [bodyLoop, if_pos (by omega), hrf]
      simp only
      rw [if_neg h0, Nat.zero_add, bodyLoop, if_neg (Nat.lt_irrefl _)]
    refine ⟨s1, ?_, by rw [f1, h, List.drop_left], ne1⟩
    rw [readPayload, if_neg h0]
    simp only [hbl, if_pos (show pay.length < 2^63 by omega), if_neg (Nat.lt_irrefl _)]
    congr 2
    rw [u1, h, Chunk.Chunk.unread_empty]
    simp

/-- `Reads List.flatten NoEmpty (unmarshal cf) (marshal p) p` written out, so it composes like one: the
fields are read one after the other by the lemmas above. -/
theorem unmarshal_marshal (p : Packet) (hp : WF p) (rest : Bytes) (s : Stream) (hi : NoEmpty s)
    (h : s.flatten = marshal p ++ rest) :
    ∃ s', unmarshal cf s = .ok (p, s') ∧ s'.flatten = rest ∧ NoEmpty s' := by
  have K := constOK
  have hms := Chunk.Chunk.maxSlice_small
  obtain ⟨hjob, hflags, hnt, htags, hdl, hdz, hpay⟩ := hp
  unfold marshal at h
  simp only [List.append_assoc] at h
  obtain ⟨s1, e1, a1, i1⟩ := readExact_ok p.dev _ hdl s _ hi h
  obtain ⟨s2, e2, a2, i2⟩ := readExact_ok (hdr14 p (lenClass p.payload.length).1) 14 rfl s1 _ i1 a1
  obtain ⟨s3, e3, a3, i3⟩ := readLen_ok p.payload.length (by omega) s2 _ i2 a2
  obtain ⟨s4, e4, a4, i4⟩ := readTags_ok p.tags htags s3 _ i3 a3
  obtain ⟨s5, e5, a5, i5⟩ := readPayload_ok cf p.payload hpay s4 rest i4 a4
  have v1 := ofBe16_be16 p.job hjob
  have v2 := ofBe64_be64 p.flags hflags
  have v3 := ofBe16_be16 p.tags.length (by have := K.tags16; omega)
  refine ⟨s5, ?_, a5, i5⟩
  simp only [unmarshal, e1, if_neg hdz, e2, hdr14, e3, v1, v2, v3, e4, e5]

end XMT.Packet
