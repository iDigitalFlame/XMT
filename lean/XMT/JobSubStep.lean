/-
  XMT.JobSubStep — every single action of every thread kind of the sub-step model is a `StepOK`:
  at each pc the write has one of the shapes of XMT/JobSubInv.lean, and what is left to show is the
  clause of the invariant about the acting thread at its next pc. Hence `InvS` holds along every
  schedule (`good_stepS`, `good_runS`), and of two prefixes of one schedule the longer leads to the later
  state (`monoS_of_prefix`).
-/
import XMT.JobSubInv
namespace XMT.JobSub
open XMT.Job

variable {prog : List KindS} {s : StS} {t : Nat}

theorem stepOK_taskS {id : Nat} {draws : List Nat} {wf : Bool} (hk : prog[t]? = some (.task id draws wf))
    (h : InvS prog s) : StepOK prog s (taskS s t id draws wf) := by
  have hH := h.holds hk
  unfold taskS
  dsimp only
  split
  · split
    · split
      · exact stepOK_refl h
      · split
        · exact invS_frame_loc hk h (by omega) ⟨nofun, nofun, nofun⟩ hH trivial
        · exact invS_frame_loc hk h (by omega) (h.outOK t) hH trivial
    · exact invS_frame_loc hk h (by omega) (h.outOK t) hH trivial
  · split
    · exact stepOK_refl h
    · rename_i hfree
      have hfree : s.lock = none := Decidable.not_not.mp hfree
      split
      · exact invS_frame_loc hk h (by omega) ⟨nofun, nofun, nofun⟩ hH trivial
      · rename_i hn
        split
        · exact invS_frame_loc hk h (by omega) ⟨nofun, nofun, nofun⟩ hH trivial
        · -- insert: a fresh open Job under the free number, at the next index
          refine invS_frame_write hk h (by omega) rfl (.inr ⟨rfl, rfl⟩) (.inr ⟨.inl hfree, .inl hfree⟩)
            (.inr (.inl ⟨_, _, hn, rfl, rfl⟩)) (fun c => absurd c (Nat.lt_irrefl _))
            ⟨fun _ => ⟨rfl, rfl, rfl⟩, nofun⟩ (fun i r hi => ?_) nofun
            ⟨nofun, nofun, fun r e => by cases e; exact Nat.lt_succ_self _⟩ (fun c => nomatch hfree.symm.trans c)
            trivial
          have hi : upd s.table (s.loc t).n (some s.nJobs) i = some r := hi
          by_cases e : i = (s.loc t).n
          · rw [e, upd_same] at hi
            cases hi
            exact .inr ⟨rfl, e.symm, rfl, rfl, rfl, rfl, rfl⟩
          · rw [upd_other _ _ _ _ e] at hi
            exact .inl ⟨Nat.ne_of_lt (h.tab i r hi).lt, hi⟩
  · exact stepOK_refl h

theorem stepOK_resultS {id : Nat} {ef : Bool} {tag : Nat}
    (hk : prog[t]? = some (.result id ef tag)) (h : InvS prog s) : StepOK prog s (resultS s t id ef tag) := by
  have hH := h.holds hk
  by_cases h2 : 2 ≤ (s.loc t).pc
  · by_cases h7 : (s.loc t).pc ≤ 7
    · obtain ⟨r, e, hr, ho, hJ⟩ := h.owned hk h2 h7
      have hown := ho.owner
      have hid := ho.id
      -- the clause about `t` when the Job is `j'` after the step and is owned as the next pc asks
      have own : ∀ {s' : StS} {j' : JobSt} {l' : LocS}, s'.jobs r = j' → s'.nJobs = s.nJobs →
          l'.ref = some r → OwnsS j' t l'.pc id ef tag → OwnOKS s' t id ef tag l' := by
        intro s' j' l' hj hn hl hO _ _
        refine ⟨fun c => (nomatch hl.symm.trans c), fun r' hr' => ?_⟩
        cases hl.symm.trans hr'
        rw [hj, hn]; exact ⟨hr, hO⟩
      -- a store to the Job, the thread going on to `pc'`
      have write : ∀ (j' : JobSt) (pc' : Nat), JobLe (s.jobs r) j' → JobOKS j' →
          (∀ g, j'.result = some g → ∃ t ef, j'.owner = some t ∧ prog[t]? = some (.result j'.id ef g)) →
          OwnsS j' t pc' id ef tag → StepOK prog s (goto (setJob s r j') t pc') :=
        fun j' pc' hle hok hres hO => invS_frame_job hk h h7 rfl hr hown hle hok hres (.inl rfl) (h.outOK t) hH
          (own (upd_same _ _ _) rfl e hO)
      rcases (by omega : (s.loc t).pc = 2 ∨ (s.loc t).pc = 3 ∨ (s.loc t).pc = 4 ∨ (s.loc t).pc = 5 ∨
        (s.loc t).pc = 6 ∨ (s.loc t).pc = 7) with h0 | h0 | h0 | h0 | h0 | h0
      · -- Result, Complete, Status = p, now, Completed
        obtain ⟨hc, hn⟩ := ho.open_of_le6 (by omega)
        have herr := (ho.fresh_at2 h0).2
        simp only [resultS, h0, e]
        exact write _ _ (jobLe_of_open hJ.ok hc rfl) (jobOKS_open hc (hJ.of_open hc))
          (fun g hg => ⟨t, ef, hown, by cases hg; exact hid ▸ hk⟩)
          (by cases ef <;> simp [OwnsS, hown, hid, hc, hn, herr, evOf, Ev.status])
      · -- Status = Error
        obtain ⟨hc, hn⟩ := ho.open_of_le6 (by omega)
        have hres := ho.result_of_ge3 (by omega)
        obtain ⟨hef, herr⟩ := ho.flagged_at34 (.inl h0)
        simp only [resultS, h0, e]
        exact write _ _ (jobLe_of_open hJ.ok hc rfl) (jobOKS_open hc (hJ.of_open hc)) (h.res r · hr)
          (by simp [OwnsS, hown, hid, hc, hn, hres, hef, herr])
      · -- the Error string
        obtain ⟨hc, hn⟩ := ho.open_of_le6 (by omega)
        have hres := ho.result_of_ge3 (by omega)
        have hef := (ho.flagged_at34 (.inr h0)).1
        have hst := ho.status_at4 h0
        simp only [resultS, h0, e]
        exact write _ _ (jobLe_of_open hJ.ok hc rfl) (jobOKS_open hc (hJ.of_open hc)) (h.res r · hr)
          (by simp [OwnsS, hown, hid, hc, hn, hres, hef, hst, evOf, Ev.status])
      · -- load j.done: not nil, since the Job is still open
        obtain ⟨hc, hn⟩ := ho.open_of_le6 (by omega)
        have hres := ho.result_of_ge3 (by omega)
        obtain ⟨hst, herr⟩ := ho.status_at56 (.inl h0)
        simp only [resultS, h0, e, hn, Bool.false_eq_true, if_false]
        exact invS_frame_loc hk h h7 (h.outOK t) hH
          (own (j' := s.jobs r) rfl rfl e (by simp [OwnsS, hown, hid, hc, hn, hres, hst, herr]))
      · -- close(j.done)
        obtain ⟨hc, hn⟩ := ho.open_of_le6 (by omega)
        have hres := ho.result_of_ge3 (by omega)
        obtain ⟨hst, herr⟩ := ho.status_at56 (.inr h0)
        simp only [resultS, h0, e, closeDone_ok hJ.ok hn hc (evOf ef)]
        exact write _ _ (jobLe_of_open hJ.ok hc rfl) (jobOKS_close hst (by cases ef <;> simp [evOf, hres, herr]))
          (h.res r · hr) (by simp [OwnsS, hown, hid, hres])
      · -- j.done = nil
        simp only [resultS, h0, e]
        exact invS_frame_job hk h h7 rfl hr hown (jobLe_refl _) (jobOKS_doneNil hJ (ho.closed_at7 h0))
          (h.res r · hr) (.inl rfl) ⟨nofun, nofun, nofun⟩ hH nofun
    · have : resultS s t id ef tag = s := by
        unfold resultS
        dsimp only
        split <;> first | (exfalso; omega) | rfl
      rw [this]; exact stepOK_refl h
  · rcases (by omega : (s.loc t).pc = 0 ∨ (s.loc t).pc = 1) with h0 | h0
    · simp only [resultS, h0]
      split
      · exact invS_frame_loc hk h (by omega) ⟨nofun, nofun, nofun⟩ hH nofun
      · exact invS_frame_loc hk h (by omega) (h.outOK t) hH nofun
    · simp only [resultS, h0]
      split
      · exact stepOK_refl h
      · rename_i hfree
        split
        · exact invS_frame_loc hk h (by omega) ⟨nofun, nofun, nofun⟩ hH nofun
        · -- Lock; lookup; delete; Unlock
          rename_i r hin
          have tk := h.tab id r hin
          refine invS_frame_take hk h (by omega) rfl hin (.inl (Decidable.not_not.mp hfree)) (h.outOK t) hH
            fun _ _ => ⟨nofun, fun r' hr' => ?_⟩
          cases hr'
          show r < s.nJobs ∧ OwnsS (upd s.jobs r _ r) t 2 id ef tag
          rw [upd_same]
          exact ⟨tk.lt, by simp [OwnsS, tk.id, tk.isOpen, tk.notNil, tk.noResult, tk.noErr]⟩

theorem stepOK_acceptS {id : Nat} (hk : prog[t]? = some (.accept id)) (h : InvS prog s) :
    StepOK prog s (acceptS s t id) := by
  have hH := h.holds hk
  unfold acceptS
  dsimp only
  split
  · split
    · exact invS_frame_loc hk h (by omega) ⟨nofun, nofun, nofun⟩ hH trivial
    · exact invS_frame_loc hk h (by omega) (h.outOK t) hH trivial
  · split
    · exact stepOK_refl h
    · split
      · exact invS_frame_loc hk h (by omega) ⟨nofun, nofun, nofun⟩ hH trivial
      · -- Lock; lookup; Status = Accepted; Unlock
        rename_i r hin
        exact invS_frame_pending hk h (by omega) rfl hin (.inl rfl) ⟨nofun, nofun, nofun⟩ hH trivial
  · exact stepOK_refl h

theorem stepOK_fragS {id mx cur : Nat} (hk : prog[t]? = some (.frag id mx cur)) (h : InvS prog s) :
    StepOK prog s (fragS s t id mx cur) := by
  have hH : s.lock = some t → (s.loc t).pc = 2 := h.holds hk
  unfold fragS
  dsimp only
  split
  · have hH' : s.lock ≠ some t := fun c => by have := hH c; omega
    split
    · exact invS_frame_loc hk h (by omega) ⟨nofun, nofun, nofun⟩ (absurd · hH') nofun
    · exact invS_frame_loc hk h (by omega) (h.outOK t) (absurd · hH') nofun
  · split
    · exact stepOK_refl h
    · rename_i hfree
      have hfree : s.lock = none := Decidable.not_not.mp hfree
      split
      · exact invS_frame_loc hk h (by omega) ⟨nofun, nofun, nofun⟩ (fun c => nomatch hfree.symm.trans c) nofun
      · -- Lock; the Status store
        rename_i r hin
        exact invS_frame_pending hk h (by omega) rfl hin (.inr ⟨.inl hfree, .inr rfl⟩) (h.outOK t) (fun _ => rfl)
          fun _ => ⟨rfl, r, rfl, hin⟩
  · -- Frags, Current = max, cur; Unlock
    rename_i h0
    obtain ⟨hl, r, e, hin⟩ := h.frg t id mx cur hk h0
    simp only [e]
    exact invS_frame_pending hk h (by omega) rfl hin (.inr ⟨.inr hl, .inl rfl⟩) ⟨nofun, nofun, nofun⟩ nofun nofun
  · exact stepOK_refl h

theorem stepOK_cancelS {k : Nat}
    (hk : prog[t]? = some (.cancel k)) (h : InvS prog s) : StepOK prog s (cancelS cancelActs s t k) := by
  have hH : s.lock = some t → 2 ≤ (s.loc t).pc ∧ (s.loc t).pc ≤ 6 := h.holds hk
  unfold cancelS
  dsimp only
  split
  · exact stepOK_refl h
  · split
    · exact invS_frame_loc hk h (by omega) ⟨nofun, nofun, nofun⟩ (fun c => by have := hH c; omega) nofun
    · exact stepOK_refl h
  · rename_i r e
    have hr := jobOf_lt h e
    have hJ := h.jobs r hr
    -- the clause about `t` at a pc inside the region, when the Job is `j'` after the step
    have can : ∀ {s' : StS} {j' : JobSt} {l' : LocS}, (s.loc t).pc ≤ 7 → s'.loc = upd s.loc t l' →
        s'.lock = some t → s'.nJobs = s.nJobs → s'.jobs r = j' → (l'.pc ≤ 3 → s'.table j'.id = some r) →
        (4 ≤ l'.pc → j'.owner = some t ∧ j'.result = none ∧ j'.err = false ∧
          (l'.pc ≤ 5 → j'.closed = false ∧ j'.doneNil = false) ∧ (l'.pc = 5 → j'.status = stCanceled) ∧
          (l'.pc = 6 → j'.closed = true)) → CanOKS s' t k l' := by
      intro s' j' l' h7 hloc hlk hn hj A B _ _
      subst hj
      exact ⟨hlk, r, jobOf_step (ne_fin_of_le h7) hloc e, hn ▸ hr, A, B⟩
    rcases (by omega : (s.loc t).pc = 0 ∨ (s.loc t).pc = 1 ∨ (2 ≤ (s.loc t).pc ∧ (s.loc t).pc ≤ 6) ∨
      7 ≤ (s.loc t).pc) with h0 | h0 | h0 | h0
    · have hH' : s.lock ≠ some t := fun c => by have := hH c; omega
      simp only [h0]
      split
      · exact invS_frame_loc hk h (by omega) ⟨nofun, nofun, nofun⟩ (absurd · hH') nofun
      · exact invS_frame_loc hk h (by omega) (h.outOK t) (absurd · hH') nofun
    · simp only [h0]
      split
      · exact stepOK_refl h
      · rename_i hfree
        have hfree : s.lock = none := Decidable.not_not.mp hfree
        split
        · -- Lock; the Job is still registered
          rename_i hin
          exact invS_frame_lock hk h (by omega) (.inr ⟨.inl hfree, .inr rfl⟩) (h.outOK t)
            (fun _ => by simp [HoldsS]) (can (j' := s.jobs r) (by omega) rfl rfl rfl rfl (fun _ => hin) nofun)
        · exact invS_frame_loc hk h (by omega) ⟨nofun, nofun, nofun⟩ (fun c => nomatch hfree.symm.trans c) nofun
    · -- inside the locked region
      obtain ⟨hl, r', hj, _, hA, hB⟩ := h.can t k hk h0.1 h0.2
      cases e.symm.trans hj
      rcases (by omega : (s.loc t).pc = 2 ∨ (s.loc t).pc = 3 ∨ (s.loc t).pc = 4 ∨ (s.loc t).pc = 5 ∨
        (s.loc t).pc = 6) with h0 | h0 | h0 | h0 | h0
      · -- jobs[ID] = nil
        have hA := hA (by omega)
        simp only [h0]
        exact invS_frame_loc hk h (by omega) (h.outOK t) (fun _ => by simp [HoldsS])
          (can (j' := s.jobs r) (by omega) rfl hl rfl rfl (fun _ => hA) nofun)
      · -- delete(jobs, ID): from now on the Job is `t`'s
        have hA := hA (by omega)
        have tk := h.tab _ r hA
        simp only [h0]
        exact invS_frame_take hk h (by omega) rfl hA (.inr hl) (h.outOK t) (fun _ => by simp [HoldsS])
          (can (by omega) rfl hl rfl (upd_same _ _ _) nofun
            fun _ => ⟨rfl, tk.noResult, tk.noErr, fun _ => ⟨tk.isOpen, tk.notNil⟩, nofun, nofun⟩)
      · -- Status = Canceled
        obtain ⟨hown, hres, herr, hop, _, _⟩ := hB (by omega)
        obtain ⟨hc, hn⟩ := hop (by omega)
        simp only [h0]
        exact invS_frame_job hk h (by omega) rfl hr hown (jobLe_of_open hJ.ok hc rfl) (jobOKS_open hc (hJ.of_open hc))
          (h.res r · hr) (.inl rfl) (h.outOK t) (fun _ => by simp [HoldsS])
          (can (by omega) rfl hl rfl (upd_same _ _ _) nofun
            fun _ => ⟨hown, hres, herr, fun _ => ⟨hc, hn⟩, fun _ => rfl, nofun⟩)
      · -- close(done), the Status being Canceled already
        obtain ⟨hown, hres, herr, hop, h5, _⟩ := hB (by omega)
        obtain ⟨hc, hn⟩ := hop (by omega)
        have hst := h5 h0
        simp only [h0, cancelActs, List.getElem?_cons_succ, List.getElem?_cons_zero, applyC,
          closeDone_ok hJ.ok hn hc .canceled]
        exact invS_frame_job hk h (by omega) rfl hr hown (jobLe_of_open hJ.ok hc rfl)
          (jobOKS_close hst ⟨fun _ => ⟨hres, herr⟩, nofun, nofun⟩) (h.res r · hr) (.inl rfl) (h.outOK t)
          (fun _ => by simp [HoldsS])
          (can (by omega) rfl hl rfl (upd_same _ _ _) nofun fun _ => ⟨hown, hres, herr, nofun, nofun, fun _ => rfl⟩)
      · -- done = nil; Unlock
        obtain ⟨hown, _, _, _, _, h6⟩ := hB (by omega)
        have hc := h6 h0
        simp only [h0]
        exact invS_frame_job hk h (by omega) rfl hr hown (jobLe_refl _) (jobOKS_doneNil hJ hc)
          (h.res r · hr) (.inr ⟨.inr hl, .inl rfl⟩) ⟨nofun, nofun, nofun⟩ nofun nofun
    · obtain ⟨p, hp, hp5⟩ : ∃ p, (s.loc t).pc = p + 2 ∧ 5 ≤ p := ⟨(s.loc t).pc - 2, by omega, by omega⟩
      have hnone : cancelActs[p]? = none := List.getElem?_eq_none (by simp only [cancelActs, List.length]; omega)
      simp only [hp, hnone]
      exact stepOK_refl h

section Reader
variable {k : Nat} (hrd : isReader prog t k) (h : InvS prog s) (h0 : (s.loc t).pc ≤ 7)
include hrd h h0

/-- A reader step with locals `l'` afterwards. If the reader looks at Job `r`, it may be at pc 2…4
afterwards only if the channel is closed, and what it has recorded must be what the closed Job holds. -/
theorem stepOK_rd {x : Option Nat} (e : jobOf s k = some x) {l' : LocS} (hout : OutOK s.nJobs l'.out)
    (hj : match x with
      | none => True
      | some r => (2 ≤ l'.pc → l'.pc ≤ 4 → (s.jobs r).closed = true) ∧
        (∀ v, l'.oSt = some v → (s.jobs r).closed = true ∧ v = (s.jobs r).status) ∧
        (∀ v, l'.oRes = some v → (s.jobs r).closed = true ∧ v = (s.jobs r).result) ∧
        (∀ v, l'.oErr = some v → (s.jobs r).closed = true ∧ v = (s.jobs r).err)) :
    StepOK prog s (setLoc s t l') := by
  have e' : jobOf (setLoc s t l') k = some x := jobOf_step (ne_fin_of_le h0) rfl e
  have hK : RdOKS (setLoc s t l') k l' :=
    ⟨fun c => (nomatch e'.symm.trans c), fun r c => by cases Option.some.inj (e'.symm.trans c); exact hj⟩
  rcases hrd with hk | hk | hk <;> exact invS_frame_loc hk h h0 hout (h.holds hk) hK

/-- a reader returns `o` without a further read (nil receiver; `IsDone` false) -/
theorem stepOK_rd_ret {x : Option Nat} (e : jobOf s k = some x) {o : Out} (ho : OutOK s.nJobs o) :
    StepOK prog s (finish s t o) := by
  refine stepOK_rd hrd h h0 e ho ?_
  cases x with
  | none => trivial
  | some r => exact ⟨nofun, (h.rd t k hrd).reads e⟩

/-- `d := j.done`: a nil field belongs to a closed channel, so the reader may skip the receive -/
theorem stepOK_rd_load {r : Nat} (e : jobOf s k = some (some r)) :
    StepOK prog s (if (s.jobs r).doneNil then goto s t 2 else goto s t 1) := by
  have q := (h.rd t k hrd).reads e
  split
  · rename_i hn
    exact stepOK_rd hrd h h0 e (h.outOK t) ⟨fun _ _ => (h.jobs r (jobOf_lt h e)).closed_of_doneNil hn, q⟩
  · exact stepOK_rd hrd h h0 e (h.outOK t) ⟨nofun, q⟩

/-- `<-d` on the closed channel -/
theorem stepOK_rd_recv {r : Nat} (e : jobOf s k = some (some r)) (hc : (s.jobs r).closed = true) :
    StepOK prog s (goto s t 2) :=
  stepOK_rd hrd h h0 e (h.outOK t) ⟨fun _ _ => hc, (h.rd t k hrd).reads e⟩

omit h0 in
/-- the three reads after 'done' was seen, common to `waitRd` and `doneRd` -/
theorem stepOK_readsS {r : Nat} (e : jobOf s k = some (some r)) {i : Nat} (hi : (s.loc t).pc = i + 2) {o : Out}
    (ho : OutOK s.nJobs o) : StepOK prog s (readsS s t r o i) := by
  have q := h.rd t k hrd
  unfold readsS
  split
  · have hc := q.closed e (by omega) (by omega)
    exact stepOK_rd hrd h (by omega) e (h.outOK t)
      ⟨fun _ _ => hc, fun _ hv => ⟨hc, (Option.some.inj hv).symm⟩, fun _ => q.result e, fun _ => q.err e⟩
  · have hc := q.closed e (by omega) (by omega)
    exact stepOK_rd hrd h (by omega) e (h.outOK t)
      ⟨fun _ _ => hc, fun _ => q.status e, fun _ hv => ⟨hc, (Option.some.inj hv).symm⟩, fun _ => q.err e⟩
  · exact stepOK_rd hrd h (by omega) e ho
      ⟨nofun, fun _ => q.status e, fun _ => q.result e,
        fun _ hv => ⟨q.closed e (by omega) (by omega), (Option.some.inj hv).symm⟩⟩
  · exact stepOK_refl h

end Reader

theorem stepOK_waitRdS {k : Nat}
    (hk : prog[t]? = some (.waitRd k)) (h : InvS prog s) : StepOK prog s (waitRdS s t k) := by
  have hrd : isReader prog t k := .inl hk
  unfold waitRdS
  dsimp only
  split
  · exact stepOK_refl h
  · rename_i e
    split
    · exact stepOK_rd_ret hrd h (by omega) e ⟨nofun, nofun, nofun⟩
    · exact stepOK_refl h
  · rename_i r e
    split
    · exact stepOK_rd_load hrd h (by omega) e
    · split
      · rename_i hc
        exact stepOK_rd_recv hrd h (by omega) e hc
      · exact stepOK_refl h
    · rename_i pc h0
      exact stepOK_readsS hrd h e h0 ⟨nofun, nofun, nofun⟩

theorem stepOK_doneRdS {k : Nat}
    (hk : prog[t]? = some (.doneRd k)) (h : InvS prog s) : StepOK prog s (doneRdS s t k) := by
  have hrd : isReader prog t k := .inr (.inl hk)
  unfold doneRdS
  dsimp only
  split
  · exact stepOK_refl h
  · rename_i e
    split
    · exact stepOK_rd_ret hrd h (by omega) e ⟨nofun, nofun, nofun⟩
    · exact stepOK_refl h
  · rename_i r e
    split
    · exact stepOK_rd_load hrd h (by omega) e
    · split
      · rename_i hc
        exact stepOK_rd_recv hrd h (by omega) e hc
      · exact stepOK_rd_ret hrd h (by omega) e ⟨nofun, nofun, nofun⟩
    · rename_i pc h0
      exact stepOK_readsS hrd h e h0 ⟨nofun, nofun, nofun⟩

theorem stepOK_isErrorS {k : Nat}
    (hk : prog[t]? = some (.isError k)) (h : InvS prog s) : StepOK prog s (isErrorS s t k) := by
  have hrd : isReader prog t k := .inr (.inr hk)
  unfold isErrorS
  dsimp only
  split
  · exact stepOK_refl h
  · rename_i e
    split
    · exact stepOK_rd_ret hrd h (by omega) e ⟨nofun, nofun, nofun⟩
    · exact stepOK_refl h
  · rename_i r e
    split
    · exact stepOK_rd_load hrd h (by omega) e
    · split
      · rename_i hc
        exact stepOK_rd_recv hrd h (by omega) e hc
      · exact stepOK_rd_ret hrd h (by omega) e ⟨nofun, nofun, nofun⟩
    · -- the one read of `len(j.Error) > 0`
      have q := h.rd t k hrd
      exact stepOK_rd hrd h (by omega) e ⟨nofun, nofun, nofun⟩
        ⟨nofun, fun _ => q.status e, fun _ => q.result e,
          fun _ hv => ⟨q.closed e (by omega) (by omega), (Option.some.inj hv).symm⟩⟩
    · exact stepOK_refl h

theorem stepOK_stepS (h : InvS prog s) : StepOK prog s (stepS prog s t) := by
  unfold stepS stepG
  split
  · exact stepOK_refl h
  · rename_i k hk
    cases k with
    | task id draws wf => exact stepOK_taskS hk h
    | result id ef tag => exact stepOK_resultS hk h
    | cancel k => exact stepOK_cancelS hk h
    | accept id => exact stepOK_acceptS hk h
    | frag id mx cur => exact stepOK_fragS hk h
    | waitRd k => exact stepOK_waitRdS hk h
    | doneRd k => exact stepOK_doneRdS hk h
    | isError k => exact stepOK_isErrorS hk h

theorem good_stepS (prog : List KindS) (s : StS) (t : Nat) (h : InvS prog s) : GoodS prog s (stepS prog s t) :=
  (stepOK_stepS h).good

theorem good_runS (prog : List KindS) (sched : List Nat) (s : StS) (h : InvS prog s) :
    GoodS prog s (runS prog s sched) :=
  foldl_invariant (I := InvS prog) (R := MonoS) monoS_refl monoS_trans (good_stepS prog) sched s h

theorem inv_runS (prog : List KindS) (sched : List Nat) (s : StS) (h : InvS prog s) :
    InvS prog (runS prog s sched) := (good_runS prog sched s h).1

/-- the rest of the longer schedule is a run from the state the shorter one leads to -/
theorem monoS_of_prefix (h : InvS prog s) {a b : List Nat} (hp : a <+: b) : MonoS (runS prog s a) (runS prog s b) := by
  obtain ⟨more, rfl⟩ := hp
  rw [show runS prog s (a ++ more) = runS prog (runS prog s a) more from List.foldl_append ..]
  exact (good_runS prog more _ (inv_runS prog a s h)).2

end XMT.JobSub
