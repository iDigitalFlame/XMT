/-
  XMT.CloseProgress — third invariant for C16: who drives a closing Session to the end, and what
  is true once that thread is done (helper lemmas; the property theorems are in XMT/Props/C16.lean).

  `Inv3` reads the state through `view3` only, and each clause is about the shared state or about one
  thread. `Inv3.frame` is the general step of one thread; `Inv3.setLoc` its instance for the steps that
  leave `view3` alone and cross none of the pcs the clauses speak of (`Quiet`), `Inv3.sd` that for the
  steps of the thread inside shutdown() from `Set(stateClosed)` on. The writes to shared fields the
  clauses do read are steps of their own (`Inv3.delReq`, `Inv3.closing`).
-/
import XMT.CloseInv
namespace XMT.Close

structure Inv3 (cfg : Cfg) (s : St) : Prop where
  srvSd : cfg.client = false → s.closing = true → ∃ u, (s.loc u).sd = true
  cliEnt : cfg.client = true → ∃ u, ent cfg s u
  finCh : ∀ u, (s.loc u).sd = true → (s.loc u).pc = 99 → s.chC = 1
  closedAt : ∀ u, (s.loc u).sd = true → 50 < (s.loc u).pc → s.closed = true
  evAt : cfg.client = true → ∀ u, (s.loc u).sd = true → 52 < (s.loc u).pc → s.evC = 1
  no94 : cfg.client = false → ∀ u, (s.loc u).pc ≠ 94
  unl : cfg.client = false → ∀ u, (s.loc u).sd = true → 51 < (s.loc u).pc → (s.delReq > 0 ∨ s.listed = false)
  active : s.srvActive = true
  closedClosing : cfg.client = false → s.closed = true → s.closing = true
  pcOk : ∀ u, validPc (s.loc u).pc = true ∨ (s.loc u).pc = 99

/-- the part of the state that `Inv3` reads -/
def view3 (s : St) := (s.loc, s.closing, s.closed, s.chC, s.evC, s.delReq, s.listed, s.srvActive)

variable {cfg : Cfg} {s sh x y : St} {t p k : Nat} {l' : Loc} {c : Prop} [Decidable c]

theorem Inv3.ite' (hx : c → Inv3 cfg x) (hy : ¬c → Inv3 cfg y) : Inv3 cfg (if c then x else y) :=
  iteInduction hx hy

theorem Inv3.ite (hx : Inv3 cfg x) (hy : Inv3 cfg y) : Inv3 cfg (if c then x else y) :=
  .ite' (fun _ => hx) fun _ => hy

variable (hk : Inv3 cfg s)
include hk

theorem Inv3.delReq {d : Nat} {b : Bool} (h : s.delReq > 0 ∨ s.listed = false → d > 0 ∨ b = false) :
    Inv3 cfg { s with delReq := d, listed := b } :=
  { hk with unl := fun hc u hs hp => h (hk.unl hc u hs hp) }

theorem Inv3.closing (h : cfg.client = false → ∃ u, (s.loc u).sd = true) :
    Inv3 cfg { s with closing := true } :=
  { hk with srvSd := fun hc _ => h hc, closedClosing := fun _ _ => rfl }

/-- The general step: thread `t` replaces its `Loc` by `l'`, the shared state becomes that of `sh`.
`hsrv`, `hent`: whoever drove the shutdown still does; `hoth`: what the clauses say about another
thread inside shutdown still holds; `hthr`, `h94`, `hpc`: the clauses hold of `l'`. -/
theorem Inv3.frame (hloc : sh.loc = s.loc) (hact : sh.srvActive = true)
    (hcc : cfg.client = false → sh.closed = true → sh.closing = true)
    (hsrv : cfg.client = false → sh.closing = true →
      l'.sd = true ∨ (s.closing = true ∧ (s.loc t).sd = false))
    (hent : cfg.client = true → ent cfg s t → l'.sd = true ∨ (60 ≤ l'.pc ∧ l'.pc ≤ 66))
    (hoth : ∀ u, u ≠ t → (s.loc u).sd = true →
      sh.chC = s.chC ∧ sh.closed = s.closed ∧ sh.evC = s.evC ∧
      (s.delReq > 0 ∨ s.listed = false → sh.delReq > 0 ∨ sh.listed = false))
    (hthr : l'.sd = true → (l'.pc = 99 → sh.chC = 1) ∧ (50 < l'.pc → sh.closed = true) ∧
      (cfg.client = true → 52 < l'.pc → sh.evC = 1) ∧
      (cfg.client = false → 51 < l'.pc → sh.delReq > 0 ∨ sh.listed = false))
    (h94 : l'.pc ≠ 94) (hpc : validPc l'.pc = true ∨ l'.pc = 99) : Inv3 cfg (setLoc sh t l') := by
  have e : ∀ u, (setLoc sh t l').loc u = if u = t then l' else s.loc u := fun u => hloc ▸ setLoc_loc sh t l' u
  have et : (setLoc sh t l').loc t = l' := setLoc_loc_same ..
  have eo : ∀ u, u ≠ t → (setLoc sh t l').loc u = s.loc u := fun u hu => hloc ▸ setLoc_loc_other sh l' hu
  refine ⟨fun hc h => ?_, fun hc => ?_, fun u => ?_, fun u => ?_, fun hc u => ?_, fun hc u => ?_,
    fun hc u => ?_, hact, hcc, fun u => ?_⟩
  · rcases hsrv hc h with h | ⟨h, ht⟩
    · exact ⟨t, by rw [et]; exact h⟩
    · obtain ⟨u, hu⟩ := hk.srvSd hc h
      have hut : u ≠ t := fun e => by rw [e, ht] at hu; cases hu
      exact ⟨u, by rw [eo u hut]; exact hu⟩
  · obtain ⟨u, hu⟩ := hk.cliEnt hc
    refine ⟨u, ?_⟩
    unfold ent
    by_cases hut : u = t
    · subst hut; rw [et]
      exact (hent hc hu).imp id (fun h => ⟨hc, h⟩)
    · rw [eo u hut]; exact hu
  -- the clauses about a single thread `u`: about `l'` if `u = t`, carried over by `hoth` if not
  all_goals
    rw [e]; split
  · exact fun h => (hthr h).1
  · exact fun h p => (hoth u ‹_› h).1 ▸ hk.finCh u h p
  · exact fun h => (hthr h).2.1
  · exact fun h p => (hoth u ‹_› h).2.1 ▸ hk.closedAt u h p
  · exact fun h => (hthr h).2.2.1 hc
  · exact fun h p => (hoth u ‹_› h).2.2.1 ▸ hk.evAt hc u h p
  · exact h94
  · exact hk.no94 hc u
  · exact fun h => (hthr h).2.2.2 hc
  · exact fun h p => (hoth u ‹_› h).2.2.2 (hk.unl hc u h p)
  · exact hpc
  · exact hk.pcOk u

/-- A step from pc `p` to pc `k` that crosses nothing the clauses speak of: `k` is not 94, the listen
goroutine (60‥66) stays in its loop, and a thread inside shutdown (40‥54, or finished) stays before
`Set(stateClosed)`, where no clause says anything about it. -/
abbrev Quiet (p k : Nat) : Prop :=
  k ≠ 94 ∧ (60 ≤ p ∧ p ≤ 66 → 60 ≤ k ∧ k ≤ 66) ∧ (40 ≤ p ∧ p ≤ 54 ∨ p = 99 → k ≤ 50)

/-! ### the steps of the model

A `Quiet` step that keeps `sd`; the shared fields it writes are none of `view3` (`hv`, by `rfl`). -/

theorem Inv3.setLoc (hi : Inv1 cfg s) (hp : (s.loc t).pc = p) (hl : (l'.pc, l'.sd) = (k, (s.loc t).sd))
    (hm : Quiet p k := by decide) (hpc : validPc k = true ∨ k = 99 := by decide)
    (hv : view3 sh = view3 s := by rfl) : Inv3 cfg (setLoc sh t l') := by
  simp only [view3, Prod.mk.injEq] at hv hl
  obtain ⟨hloc, hcg, hcl, hch, hev, hdr, hli, hact⟩ := hv
  obtain ⟨hq, hsd⟩ := hl
  subst hp hq
  refine hk.frame hloc (hact ▸ hk.active) ?_ ?_ ?_ ?_ ?_ hm.1 hpc
  · rw [hcl, hcg]; exact hk.closedClosing
  · intro _ h
    rw [hcg] at h; rw [hsd]
    cases (s.loc t).sd
    · exact .inr ⟨h, rfl⟩
    · exact .inl rfl
  · exact fun _ he => he.imp hsd.trans fun h => hm.2.1 h.2
  · intro u _ _
    rw [hch, hcl, hev, hdr, hli]; exact ⟨rfl, rfl, rfl, id⟩
  · intro h
    have := hm.2.2 (hi.sdPc t (hsd ▸ h))
    exact ⟨by omega, by omega, by omega, by omega⟩

theorem Inv3.goto (hi : Inv1 cfg s) (hp : (s.loc t).pc = p) (hm : Quiet p k := by decide)
    (hpc : validPc k = true ∨ k = 99 := by decide) (hv : view3 sh = view3 s := by rfl) :
    Inv3 cfg (goto sh t k) :=
  hk.setLoc hi hp (Prod.ext rfl (congrArg (fun v => (v.1 t).sd) hv)) hm hpc hv

/-- only for a thread that is neither inside shutdown nor the listen goroutine -/
theorem Inv3.die {o : Out} (hi : Inv1 cfg s) (hp : (s.loc t).pc = p) (hm : Quiet p 99 := by decide)
    (hv : view3 sh = view3 s := by rfl) : Inv3 cfg (die sh t o) :=
  hk.setLoc hi hp (Prod.ext rfl (congrArg (fun v => (v.1 t).sd) hv)) hm (.inr rfl) hv

theorem Inv3.finish (hi : Inv1 cfg s) (hp : (s.loc t).pc = p) (hm : Quiet p 99 := by decide)
    (hv : view3 sh = view3 s := by rfl) : Inv3 cfg (finish sh t) :=
  hk.die hi hp hm hv

theorem Inv3.ret (hi : Inv1 cfg s) (hp : (s.loc t).pc < 40 := by omega) (hv : view3 sh = view3 s := by rfl) :
    Inv3 cfg (ret sh t) := by
  have hc := hi.contOk t
  rw [← show sh.loc = s.loc from congrArg (·.1) hv] at hc
  exact .ite (hk.finish hi rfl (by omega) hv)
    (hk.goto hi rfl (by omega) (by rcases hc with h | h | h <;> rw [h] <;> decide) hv)

theorem Inv3.sendSend (hi : Inv1 cfg s) (hp : (s.loc t).pc < 40 := by omega) : Inv3 cfg (sendSend s t) :=
  .ite (hk.die hi rfl (by omega)) (hk.ret hi hp)

theorem Inv3.afterWake (hi : Inv1 cfg s) (hp : (s.loc t).pc < 40 := by omega)
    (hv : view3 sh = view3 s := by rfl) : Inv3 cfg (afterWake sh t) :=
  .ite (hk.goto hi rfl (by omega) (.inl rfl) hv) (hk.finish hi rfl (by omega) hv)

theorem Inv3.wakeSend (hi : Inv1 cfg s) (hp : (s.loc t).pc < 40 := by omega) : Inv3 cfg (wakeSend s t) :=
  .ite (hk.die hi rfl (by omega)) (hk.afterWake hi hp)

/-- at pc 40 no clause says anything about the thread inside shutdown yet -/
theorem Inv3.enterSd : Inv3 cfg (enterSd s t) :=
  hk.frame rfl hk.active hk.closedClosing (fun _ _ => .inl rfl) (fun _ _ => .inl rfl)
    (fun _ _ _ => ⟨rfl, rfl, rfl, id⟩) (fun _ => by simp) (by simp) (.inl rfl)

/-- A step of the thread inside shutdown to pc `k`: by `Inv1.uniq` it is the only one, so the clauses
about such threads are checked for `k` alone. -/
theorem Inv3.sd (hi : Inv1 cfg s) (hsd : (s.loc t).sd = true) (hl : (l'.pc, l'.sd) = (k, (s.loc t).sd))
    (hcc : cfg.client = false → sh.closed = true → sh.closing = true)
    (hthr : (k = 99 → sh.chC = 1) ∧ (50 < k → sh.closed = true) ∧
      (cfg.client = true → 52 < k → sh.evC = 1) ∧
      (cfg.client = false → 51 < k → sh.delReq > 0 ∨ sh.listed = false))
    (hs : (sh.loc, sh.srvActive) = (s.loc, s.srvActive) := by rfl)
    (hpc : k ≠ 94 ∧ (validPc k = true ∨ k = 99) := by decide) : Inv3 cfg (Close.setLoc sh t l') := by
  simp only [Prod.mk.injEq] at hl hs
  obtain ⟨rfl, hl⟩ := hl
  exact hk.frame hs.1 (hs.2 ▸ hk.active) hcc (fun _ _ => .inl (hl.trans hsd)) (fun _ _ => .inl (hl.trans hsd))
    (fun u hu h => absurd (hi.uniq u t (.inl h) (.inl hsd)) hu) (fun _ => hthr) hpc.1 hpc.2

omit hk

/-- every atomic action preserves the invariant (one case per pc, in the order of `act`) -/
theorem inv3_act (hi : Inv1 cfg s) (hk : Inv3 cfg s) (t : Nat) : Inv3 cfg (act cfg s t) := by
  unfold act
  split <;> rename_i hp
  -- 1–8: receiveSingle(SvShutdown)
  · exact .ite (hk.ret hi) (hk.goto hi hp)  -- 1
  · exact .ite (hk.ret hi) (.ite (hk.sendSend hi) (hk.goto hi hp))  -- 2
  · exact hk.sendSend hi  -- 3
  · -- 4: Server.Remove queues a removal request, the Server being active
    exact (hk.delReq fun _ => .inl (removeReq_pos hk.active)).goto hi.congr hp
  · exact hk.setLoc hi (k := 20) hp rfl  -- 5
  · exact .ite (hk.finish hi hp) (hk.setLoc hi (k := 20) hp rfl)  -- 6
  · exact hk.goto hi hp  -- 7
  · exact hk.goto hi hp  -- 8
  -- 20–28: close(w), Wake()
  · exact .ite (hk.finish hi hp) (hk.goto hi hp)  -- 20
  · exact .ite (hk.goto hi hp) (hk.goto hi hp)  -- 21
  · exact hk.goto hi hp  -- 22
  · exact .ite (hk.finish hi hp) (hk.goto hi hp)  -- 23
  · exact hk.finish hi hp  -- 24
  · -- 25: on a server the thread that sets Closing enters shutdown in the same step
    exact .ite (hk.finish hi hp) (.ite'
      (fun hc => (hk.closing fun h => absurd (hc.symm.trans h) nofun).goto hi.closing hp)
      fun _ => (hk.enterSd (t := t)).closing fun _ => ⟨t, by rw [enterSd, setLoc_loc_same]⟩)
  · exact .ite (hk.afterWake hi) (.ite (hk.wakeSend hi) (hk.goto hi hp))  -- 26
  · exact hk.wakeSend hi  -- 27
  · exact hk.finish hi hp  -- 28
  -- 40–49: shutdown() up to `Set(stateClosed)`
  · exact hk.goto hi hp  -- 40
  · exact .ite (hk.goto hi hp) (hk.goto hi hp)  -- 41
  · exact hk.goto hi hp  -- 42
  · exact .ite' (absurd · (hi.open .send hp)) fun _ => hk.goto hi hp  -- 43
  · exact .ite (hk.goto hi hp) (hk.goto hi hp)  -- 44
  · exact hk.goto hi hp  -- 45
  · exact .ite' (absurd · (hi.open .wake hp)) fun _ => hk.goto hi hp  -- 46
  · exact .ite (hk.goto hi hp) (hk.goto hi hp)  -- 47
  · exact hk.goto hi hp  -- 48
  · exact .ite' (absurd · (hi.open .recv hp)) fun _ => hk.goto hi hp  -- 49
  -- 50–54: from `Set(stateClosed)` on the clauses speak of the thread inside shutdown
  · -- 50: on a server Closing is set already (`Inv1.sdClosing`)
    have hsd := hi.inSd t (by omega) (by omega)
    show Inv3 cfg (goto _ t (if _ then _ else _))
    split
    · next hc =>
      exact hk.sd hi hsd (k := 52) rfl (fun h _ => hi.sdClosing h t hsd)
        ⟨by omega, fun _ => rfl, by omega, fun h => absurd (hc.symm.trans h) nofun⟩
    · exact hk.sd hi hsd (k := 51) rfl (fun h _ => hi.sdClosing h t hsd)
        ⟨by omega, fun _ => rfl, by omega, by omega⟩
  · have hsd := hi.inSd t (by omega) (by omega)  -- 51
    exact hk.sd hi hsd (k := 52) rfl hk.closedClosing
      ⟨by omega, fun _ => hk.closedAt t hsd (by omega), by omega, fun _ _ => .inl (removeReq_pos hk.active)⟩
  · -- 52: the client's event queue is closed here, for the first time
    have hsd := hi.inSd t (by omega) (by omega)
    refine .ite' (fun hc => .ite' (absurd · (hi.open .ev hp)) fun h0 => ?_) fun hc => ?_
    · exact hk.sd hi hsd (k := 53) rfl hk.closedClosing
        ⟨by omega, fun _ => hk.closedAt t hsd (by omega), fun _ _ => show s.evC + 1 = 1 by omega,
          fun h => absurd (hc.symm.trans h) nofun⟩
    · exact hk.sd hi hsd (k := 53) rfl hk.closedClosing
        ⟨by omega, fun _ => hk.closedAt t hsd (by omega), fun h => absurd h hc,
          fun h _ => hk.unl h t hsd (by omega)⟩
  · have hsd := hi.inSd t (by omega) (by omega)  -- 53
    exact hk.sd hi hsd (k := 54) rfl hk.closedClosing
      ⟨by omega, fun _ => hk.closedAt t hsd (by omega), fun h _ => hk.evAt h t hsd (by omega),
        fun h _ => hk.unl h t hsd (by omega)⟩
  · -- 54: `s.ch` is closed here, for the first time, and the thread inside shutdown is done
    have hsd := hi.inSd t (by omega) (by omega)
    exact .ite' (absurd · (hi.open .ch hp)) fun h0 => hk.sd hi hsd (k := 99) rfl hk.closedClosing
      ⟨fun _ => show s.chC + 1 = 1 by omega, fun _ => hk.closedAt t hsd (by omega),
        fun h _ => hk.evAt h t hsd (by omega), fun h _ => hk.unl h t hsd (by omega)⟩
  -- 60–66: listen
  · -- 60: a cancelled context makes the listen goroutine set Closing; it runs on a client only
    -- (`Inv1.noListenSrv`), where no clause reads the flag
    exact .ite (hk.goto hi hp) (.ite
      ((hk.closing fun h => (hi.noListenSrv h t (by omega)).elim).goto hi.closing hp) (hk.goto hi hp))
  · exact .ite (hk.goto hi hp) (hk.goto hi hp)  -- 61
  · exact hk.goto hi hp  -- 62
  · exact hk.goto hi hp  -- 63
  · exact .ite (hk.setLoc hi (k := 66) hp rfl) (hk.setLoc hi (k := 65) hp rfl)  -- 64
  · exact .ite hk.enterSd (.ite (hk.goto hi hp) hk.enterSd)  -- 65
  · exact .ite hk.enterSd (hk.goto hi hp)  -- 66
  -- 70–73: next()
  · exact .ite (hk.setLoc hi (k := 71) hp rfl) (hk.goto hi hp)  -- 70
  · exact hk.goto hi hp  -- 71
  · exact .ite (hk.finish hi hp) (hk.goto hi hp)  -- 72
  · exact hk.finish hi hp  -- 73
  -- 80, 86–89, 90, 92, 94: Wait(), chanWake(), cancel, Server.listen, eventer.listen
  · exact hk.finish hi hp  -- 80
  · exact .ite (hk.goto hi hp) (hk.goto hi hp)  -- 86
  · exact .ite (hk.goto hi hp) (hk.goto hi hp)  -- 87
  · exact .ite (hk.die hi hp) (hk.goto hi hp)  -- 88
  · exact hk.finish hi hp  -- 89
  · exact hk.finish hi hp  -- 90
  · -- 92: the Server loop takes a request off the queue and unlists the Session
    exact (hk.delReq fun _ => .inr rfl).goto hi.congr hp
  · exact .ite (hk.setLoc hi (k := 20) hp rfl) (.ite (hk.finish hi hp) hk)  -- 94
  · exact hk

end XMT.Close
