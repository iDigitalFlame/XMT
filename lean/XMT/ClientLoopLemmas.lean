/-
  Lemmas about the client loop model (XMT/ClientLoop.lean).  `wait` keeps a regular trace regular
  (`AllReg`) and returns no later than the kill date unless it sets the closing flag (`wait_spec`); one turn of
  `listen` is `wait`, then `attempt`, then `finish` (`step_eq`, which XMT/ClientLoopSwitch.lean reads the
  reports to the selector from); `run_spec` is the loop invariant behind Props/C19.
-/
import XMT.ClientLoop
import XMT.WorkLemmas
import XMT.JitterLemmas
namespace XMT.Client

/-- what the proofs need from the shape facts of wait() -/
def FactsOK : Prop :=
  Work.FactsOK ∧ Jitter.FactsOK ∧ Facts.c19KillCheckBeforeSleep ≥ 1 ∧ Facts.c19KillCheckAfterSleep ≥ 1

instance : Decidable FactsOK := by unfold FactsOK; infer_instance

/-- the configured sleep is a positive int64 -/
def Cfg.WF (c : Cfg) : Prop := 0 < c.sleep ∧ c.sleep < 2^63

instance (c : Cfg) : Decidable c.WF := by unfold Cfg.WF; infer_instance

/-- the kill date has not passed at `t` -/
def NotAfterKill (c : Cfg) (t : Int) : Prop := ∀ k, c.kill = some k → t ≤ k

theorem killed_false_iff (c : Cfg) (t : Int) : killed c t = false ↔ NotAfterKill c t := by
  unfold killed NotAfterKill
  cases c.kill <;> simp

/-- what the property says about one event of the client loop -/
def EvOK (c : Cfg) : Ev → Prop
  | .workWait d => 0 < d ∧ d ≤ Work.nsDay
  | .sleep d => 0 < d ∧ d ≤ 2 * c.sleep
  | .connect t sd _ => sd = false → NotAfterKill c t
  | .panic _ => False
  | .stuck => True

/-- no shutdown-notification connection in the trace -/
def NoShut (tr : List Ev) : Prop := ∀ t r, Ev.connect t true r ∉ tr

/-- a shutdown-notification connection, if any, is the last event and there is no other -/
def ShutLast (tr : List Ev) : Prop :=
  ∀ t r, Ev.connect t true r ∈ tr → ∃ pre, tr = pre ++ [Ev.connect t true r] ∧ NoShut pre

/-- an event other than the shutdown notification that satisfies the property -/
def Reg (c : Cfg) (e : Ev) : Prop := EvOK c e ∧ ∀ t r, e ≠ .connect t true r

/-- the invariant on the trace at the head of the connection loop (until the notification is sent) -/
def AllReg (c : Cfg) (tr : List Ev) : Prop := ∀ e ∈ tr, Reg c e

theorem AllReg.snoc {c : Cfg} {tr : List Ev} {e : Ev} (h : AllReg c tr) (he : Reg c e) :
    AllReg c (tr ++ [e]) :=
  List.forall_mem_append.2 ⟨h, List.forall_mem_singleton.2 he⟩

theorem AllReg.allOK {c : Cfg} {tr : List Ev} (h : AllReg c tr) : ∀ e ∈ tr, EvOK c e :=
  fun e he => (h e he).1

theorem AllReg.noShut {c : Cfg} {tr : List Ev} (h : AllReg c tr) : NoShut tr :=
  fun t r hm => (h _ hm).2 t r rfl

theorem ShutLast.of_noShut {tr : List Ev} (h : NoShut tr) : ShutLast tr :=
  fun t r hm => absurd hm (h t r)

theorem ShutLast.snoc {pre : List Ev} (e : Ev) (h : NoShut pre) : ShutLast (pre ++ [e]) := by
  intro t r hm
  rcases List.mem_append.mp hm with h1 | h1
  · exact absurd h1 (h t r)
  · rw [List.mem_singleton.1 h1]; exact ⟨pre, rfl, h⟩

theorem nsDay_pos (hf : Work.FactsOK) : 0 < Work.nsDay := by rw [Work.nsDay_eq hf]; omega

theorem instOf_WF (hf : Work.FactsOK) (off now : Int) : (instOf off now).WF := by
  unfold instOf Work.Inst.WF
  simp only
  rw [Work.nsDay_eq hf]
  refine ⟨?_, ?_, ?_⟩ <;> omega

theorem work_range (hf : Work.FactsOK) (r : Work.Rule) (t : Work.Inst) (ht : t.WF) :
    0 ≤ Work.work r t ∧ Work.work r t ≤ Work.nsDay := by
  rw [Work.work_eq_workSpec hf r t ht]
  exact Work.workSpec_range hf r t ht

theorem workLoop_succ (r : Work.Rule) (off : Int) (f : Nat) (st : St) :
    workLoop r off (f + 1) st =
      if Work.work r (instOf off st.now) > 0 then
        workLoop r off f { st with now := st.now + Work.work r (instOf off st.now),
                                   trace := st.trace ++ [.workWait (Work.work r (instOf off st.now))] }
      else st := rfl

theorem workLoop_keeps (r : Work.Rule) (off : Int) : ∀ (f : Nat) (st : St),
    (workLoop r off f st).ci = st.ci ∧ (workLoop r off f st).sw = st.sw ∧ (workLoop r off f st).e = st.e ∧
      (workLoop r off f st).shutdown = st.shutdown
  | 0, st => ⟨rfl, rfl, rfl, rfl⟩
  | f + 1, st => by
    rw [workLoop_succ]
    split
    · exact workLoop_keeps r off f _
    · exact ⟨rfl, rfl, rfl, rfl⟩

theorem waitTail_keeps (c : Cfg) (q : Nat → Nat) (st : St) :
    (waitTail c q st).ci = st.ci ∧ (waitTail c q st).sw = st.sw ∧ (waitTail c q st).e = st.e ∧
      (waitTail c q st).shutdown = st.shutdown := by
  unfold waitTail
  repeat' split
  all_goals exact ⟨rfl, rfl, rfl, rfl⟩

theorem wait_keeps (c : Cfg) (q : Nat → Nat) (st : St) :
    (wait c q st).ci = st.ci ∧ (wait c q st).sw = st.sw ∧ (wait c q st).e = st.e ∧
      (wait c q st).shutdown = st.shutdown := by
  unfold wait
  split
  · exact ⟨rfl, rfl, rfl, rfl⟩
  · cases c.work with
    | none => exact waitTail_keeps c q st
    | some r =>
      have h1 := waitTail_keeps c q (workLoop r c.off workFuel st)
      have h2 := workLoop_keeps r c.off workFuel st
      exact ⟨h1.1.trans h2.1, h1.2.1.trans h2.2.1, h1.2.2.1.trans h2.2.2.1, h1.2.2.2.trans h2.2.2.2⟩

theorem workLoop_spec (hf : Work.FactsOK) (c : Cfg) (r : Work.Rule) (off : Int) :
    ∀ (f : Nat) (st : St), AllReg c st.trace → AllReg c (workLoop r off f st).trace := by
  intro f
  induction f with
  | zero => exact fun st h => h.snoc ⟨trivial, nofun⟩
  | succ f ih =>
    intro st h
    rw [workLoop_succ]
    split
    · rename_i hw
      exact ih _ (h.snoc ⟨⟨hw, (work_range hf r _ (instOf_WF hf off st.now)).2⟩, nofun⟩)
    · exact h

theorem waitTail_spec (hf : FactsOK) (c : Cfg) (hc : c.WF) (q : Nat → Nat) (st : St) :
    (AllReg c st.trace → AllReg c (waitTail c q st).trace) ∧
    ((waitTail c q st).halted = false → (waitTail c q st).closing = false →
      NotAfterKill c (waitTail c q st).now) := by
  obtain ⟨_, hJ, hB, hA⟩ := hf
  obtain ⟨w, k, hd, hw⟩ := Jitter.delay_sleep hJ c.sleep c.jitter (fun i => q (st.di + i)) hc.1 hc.2
  have hext : AllReg c st.trace → AllReg c (st.trace ++ [.sleep w]) := fun h => h.snoc ⟨hw, nofun⟩
  unfold waitTail
  rw [hd, decide_eq_true hB, decide_eq_true hA]
  simp only [Bool.true_and]
  split
  · rename_i hh
    exact ⟨id, fun h => absurd (hh.symm.trans h) nofun⟩
  · split
    · exact ⟨id, fun _ => nofun⟩
    · split
      · exact ⟨hext, fun _ => nofun⟩
      · rename_i hk
        exact ⟨hext, fun _ _ => (killed_false_iff c _).1 (Bool.eq_false_iff.2 hk)⟩

/-- Post-condition of `wait`; the second part rests on the kill-date test after the sleep (repaired code,
`hf`). -/
theorem wait_spec (hf : FactsOK) (c : Cfg) (hc : c.WF) (q : Nat → Nat) (st : St) :
    (AllReg c st.trace → AllReg c (wait c q st).trace) ∧
    ((wait c q st).halted = false → (wait c q st).closing = false → NotAfterKill c (wait c q st).now) := by
  unfold wait
  split
  · rename_i hcl
    exact ⟨id, fun _ h => absurd (hcl.symm.trans h) nofun⟩
  · cases c.work with
    | none => exact waitTail_spec hf c hc q st
    | some r =>
      obtain ⟨g1, g2⟩ := waitTail_spec hf c hc q (workLoop r c.off workFuel st)
      exact ⟨g1 ∘ workLoop_spec hf.1 c r c.off workFuel st, g2⟩

/-- from the state `wait` left to the state when `Connect` returns: closing noted, `Switch(e)` called,
the attempt counted -/
def attempt (script : Nat → Res) (w : St) : St :=
  let st := if w.closing then { w with shutdown := true } else w
  let st := { st with sw := st.sw ++ [st.e] }
  { st with ci := st.ci + 1, trace := st.trace ++ [.connect st.now st.shutdown (script st.ci)] }

/-- what `listen` does with the result `r` of the attempt -/
def finish (r : Res) (st : St) : St × Bool :=
  match r with
  | .fail =>
    if st.closing then (st, false)
    else if st.errors ≤ maxErrors then ({ st with errors := (st.errors + 1) % 256, e := true }, true)
    else (st, false)
  | .sessErr =>
    let st := { st with errors := (st.errors + 1) % 256, e := true }
    if st.errors > maxErrors then (st, false)
    else if st.shutdown then (st, false)
    else (st, true)
  | .ok =>
    let st := { st with errors := 0, e := false }
    if st.errors > maxErrors then (st, false)
    else if st.shutdown then (st, false)
    else (st, true)

theorem step_eq (c : Cfg) (q : Nat → Nat) (script : Nat → Res) (st : St) :
    step c q script st =
      if (wait c q st).halted then (wait c q st, false)
      else finish (script (wait c q st).ci) (attempt script (wait c q st)) := by
  unfold step
  generalize wait c q st = w
  -- with `closing` and `halted` known both sides evaluate to the same match on the connector's answer
  -- (unfolding them with `dsimp` first is ten times slower to check)
  rcases w with ⟨_, _ | _, _, _, _, _, _ | _⟩ <;> rfl

theorem attempt_facts (script : Nat → Res) (w : St) :
    (attempt script w).ci = w.ci + 1 ∧ (attempt script w).sw = w.sw ++ [w.e] ∧
    (attempt script w).closing = w.closing ∧ (attempt script w).shutdown = (w.closing || w.shutdown) ∧
    (attempt script w).trace = w.trace ++ [.connect w.now (w.closing || w.shutdown) (script w.ci)] := by
  rcases w with ⟨_, _ | _⟩ <;> exact ⟨rfl, rfl, rfl, rfl, rfl⟩

/-- `finish` touches the error counter and `e` only; the loop goes on only with `e` saying whether the
attempt failed, and not once closing (connect error) or shutdown (otherwise) is set -/
theorem finish_facts (r : Res) (st : St) :
    (finish r st).1.ci = st.ci ∧ (finish r st).1.sw = st.sw ∧ (finish r st).1.trace = st.trace ∧
    (finish r st).1.shutdown = st.shutdown ∧
    ((finish r st).2 = true → (finish r st).1.e = (r != .ok) ∧ (st.closing = false ∨ st.shutdown = false)) := by
  unfold finish
  cases r with
  | fail =>
    dsimp only
    split
    · exact ⟨rfl, rfl, rfl, rfl, nofun⟩
    · next hc =>
      split
      · exact ⟨rfl, rfl, rfl, rfl, fun _ => ⟨rfl, .inl (Bool.eq_false_iff.2 hc)⟩⟩
      · exact ⟨rfl, rfl, rfl, rfl, nofun⟩
  | _ =>
    dsimp only
    split
    · exact ⟨rfl, rfl, rfl, rfl, nofun⟩
    · split
      · exact ⟨rfl, rfl, rfl, rfl, nofun⟩
      · next hs => exact ⟨rfl, rfl, rfl, rfl, fun _ => ⟨rfl, .inr (Bool.eq_false_iff.2 hs)⟩⟩

theorem run_succ (c : Cfg) (q : Nat → Nat) (script : Nat → Res) (f : Nat) (st : St) :
    run c q script (f + 1) st =
      if (step c q script st).2 then run c q script f (step c q script st).1 else (step c q script st).1 := rfl

theorem run_spec (hf : FactsOK) (c : Cfg) (hc : c.WF) (q : Nat → Nat) (script : Nat → Res) :
    ∀ (fuel : Nat) (st : St), AllReg c st.trace → st.shutdown = false →
      (∀ e ∈ (run c q script fuel st).trace, EvOK c e) ∧ ShutLast (run c q script fuel st).trace := by
  intro fuel
  induction fuel with
  | zero => exact fun st h _ => ⟨h.allOK, .of_noShut h.noShut⟩
  | succ f ih =>
    intro st h hsh
    obtain ⟨hreg, hpost⟩ := wait_spec hf c hc q st
    replace hreg := hreg h
    have hsd := (wait_keeps c q st).2.2.2.trans hsh
    rw [run_succ, step_eq]
    cases hh : (wait c q st).halted with
    | true => exact ⟨hreg.allOK, .of_noShut hreg.noShut⟩
    | false =>
      obtain ⟨_, _, acl, ash, atr⟩ := attempt_facts script (wait c q st)
      obtain ⟨_, _, ftr, fsh, fgo⟩ := finish_facts (script (wait c q st).ci) (attempt script (wait c q st))
      -- the shutdown flag of this attempt is the closing flag `wait` left, so the loop goes on only when
      -- `wait` did not close: then the connection is a regular one, otherwise it is the last event
      rw [hsd, Bool.or_false] at ash atr
      rw [acl, ash] at fgo
      simp only [Bool.false_eq_true, if_false]
      split
      · next hcont =>
        have hcl : (wait c q st).closing = false := (fgo hcont).2.elim id id
        refine ih _ ?_ (fsh.trans (ash.trans hcl))
        rw [ftr, atr, hcl]
        exact hreg.snoc ⟨fun _ => hpost hh hcl, fun _ _ h => nomatch h⟩
      · rw [ftr, atr]
        exact ⟨List.forall_mem_append.2 ⟨hreg.allOK, List.forall_mem_singleton.2 (hpost hh)⟩, .snoc _ hreg.noShut⟩

/-- the loop as `listen` starts it -/
theorem run_spec_init (hf : FactsOK) (c : Cfg) (hc : c.WF) (q : Nat → Nat) (script : Nat → Res)
    (fuel : Nat) (now : Int) :
    (∀ e ∈ (run c q script fuel { now := now }).trace, EvOK c e) ∧
      ShutLast (run c q script fuel { now := now }).trace :=
  run_spec hf c hc q script fuel _ (fun _ h => nomatch h) rfl

end XMT.Client
